/-
  LW.Proofs.C01 — every component matrix is unitary, hence so is `compile` (`Ufull_unitary`); with the dimension and
  the leading block of C01Lead these are the statements of C01, and a concrete circuit over `ℂ` meets their hypotheses.
-/
import Mathlib.Data.Complex.Basic
import Mathlib.Tactic.LinearCombination
import Mathlib.Tactic.Ring
import LW.Proofs.C02SemRun
import LW.Proofs.C01Lead
import LW.Proofs.SwapDict
import LW.Proofs.C01Api

-- the section keeps `open scoped BigOperators` and `open C02Sem` away from the statements of `LW.Proofs.C01` below
section
open scoped BigOperators

namespace LW.Proofs.C01Aux

open LW.Proofs.C02Sem

variable {K : Type} [CommRing K] [StarRing K]

theorem UN_embed1 {N : Nat} (m : Nat) (p : K) (hp : p * star p = 1) : (embed1 N m p).UN N := by
  rw [M.UN_iff_rows]
  intro r c hr hc
  rw [Finset.sum_congr rfl (g := fun k => (if r = k then (1 : K) else 0) *
      ((if r = m then p else 1) * star ((embed1 N m p).get c k))) (fun k hk => by
    rw [get_embed1 _ _ hr (Finset.mem_range.mp hk)]
    by_cases h : r = k <;> simp [h])]
  rw [sum_delta_left hr, get_embed1 _ _ hc hr]
  by_cases h : r = c
  · subst h
    by_cases hm : r = m <;> simp [hm, hp]
  · simp [h, Ne.symm h]

theorem pinj_pair {N m1 m2 : Nat} (h1 : m1 < N) (h2 : m2 < N) (hne : m1 ≠ m2) :
    PInj 2 N (fun x => if x = 0 then m1 else m2)
      (fun r => if r = m1 then some 0 else if r = m2 then some 1 else none) := by
  refine ⟨fun x _ => by split <;> assumption, ?_, ?_⟩
  · intro x hx
    obtain rfl | rfl : x = 0 ∨ x = 1 := by omega
    · simp
    · simp [Ne.symm hne]
  · intro r x _ e
    split_ifs at e with e1 e2
    · injection e with e; subst e; exact ⟨by omega, by simp [e1]⟩
    · injection e with e; subst e; exact ⟨by omega, by simp [e2]⟩

theorem UN_embed2 {N m1 m2 : Nat} (a b c d : K) (h1 : m1 < N) (h2 : m2 < N) (hne : m1 ≠ m2)
    (haa : a * star a + b * star b = 1) (hdd : c * star c + d * star d = 1)
    (had : a * star c + b * star d = 0) : (embed2 N m1 m2 a b c d).UN N := by
  have hda : c * star a + d * star b = 0 := by
    have := congrArg star had
    simp only [star_add, star_mul', star_star, star_zero] at this
    rw [← this]; ring
  have e := embed2_embedVia (pinj_pair h1 h2 hne) (m1 := 0) (m2 := 1) (by omega) (by omega) a b c d
  simp only [if_true, if_false, one_ne_zero] at e
  rw [e]
  refine UN_embedVia (pinj_pair h1 h2 hne) ?_
  have g00 : (embed2 2 0 1 a b c d).get 0 0 = a :=
    get_embed2 (n := 2) 0 1 a b c d (by omega) (by omega)
  have g01 : (embed2 2 0 1 a b c d).get 0 1 = b :=
    get_embed2 (n := 2) 0 1 a b c d (by omega) (by omega)
  have g10 : (embed2 2 0 1 a b c d).get 1 0 = c :=
    get_embed2 (n := 2) 0 1 a b c d (by omega) (by omega)
  have g11 : (embed2 2 0 1 a b c d).get 1 1 = d :=
    get_embed2 (n := 2) 0 1 a b c d (by omega) (by omega)
  rw [M.UN_iff_rows]
  intro r k hr hk
  rw [Finset.sum_range_succ, Finset.sum_range_one]
  obtain rfl | rfl : r = 0 ∨ r = 1 := by omega
  all_goals obtain rfl | rfl : k = 0 ∨ k = 1 := by omega
  · rw [g00, g01, haa, if_pos rfl]
  · rw [g00, g01, g10, g11, had, if_neg Nat.zero_ne_one]
  · rw [g00, g01, g10, g11, hda, if_neg Nat.one_ne_zero]
  · rw [g10, g11, hdd, if_pos rfl]

theorem UN_permF {n N : Nat} {t g : Nat → Nat} (h : PermBelow n t g) (hN : n ≤ N) :
    (permF t N : M K).UN N := by
  have e : (permF t N : M K).toMatN N = selF N N t := by
    ext r c
    simp only [M.toMatN, get_permF t r.2 c.2, selF, eq_comm]
  unfold M.UN
  rw [e, Matrix.mem_unitaryGroup_iff', Matrix.star_eq_conjTranspose, selF_conjTranspose]
  exact selF_isometry (h.pinj hN)

theorem UN_swaps {n N : Nat} (σ : Dict) (h : SwapsOk n σ) (hN : n ≤ N) :
    (permMat σ N : M K).UN N :=
  UN_permF h.permBelow hN

theorem UN_mat {n N : Nat} (i : K) (hi : IsImagUnit i) (p : Prim K) (hp : p.Wf n)
    (hl : p.isLoss = false) (hN : n ≤ N) : (p.mat i N).UN N := by
  rcases p with ⟨m1, m2, c, s, cv⟩ | ⟨m, ph⟩ | ⟨m, a, b⟩ | ms | σ | ⟨m, u⟩
  · obtain ⟨h1, h2, hne, hc, hs, hcs⟩ := hp
    cases cv
    · have key : c * star c + i * s * star (i * s) = 1 := by
        simp only [star_mul', hc, hs, hi.star]
        linear_combination hcs - s * s * hi.sq
      refine UN_embed2 _ _ _ _ (by omega) (by omega) hne key ((add_comm _ _).trans key) ?_
      simp only [star_mul', hc, hs, hi.star]
      ring
    · apply UN_embed2 _ _ _ _ (by omega) (by omega) hne
      · simp only [hc, hs]; exact hcs
      · simp only [star_neg, hc, hs]; linear_combination hcs
      · simp only [star_neg, hc, hs]; ring
  · exact UN_embed1 m ph hp.2
  · simp [Prim.isLoss] at hl
  · exact M.UN_one N
  · exact UN_swaps σ hp hN
  · exact UN_embedBlock u (le_trans hp.1 hN) hp.2

theorem UN_lossMat {N m : Nat} (a b : K) (hm : m < N) (ha : star a = a) (hb : star b = b)
    (hab : a * a + b * b = 1) : (embed2 (N + 1) m N a b (-b) a).UN (N + 1) := by
  apply UN_embed2 _ _ _ _ (by omega) (by omega) (by omega)
  · simp only [ha, hb]; exact hab
  · simp only [star_neg, ha, hb]; linear_combination hab
  · simp only [star_neg, ha, hb]; ring

theorem isUnitary_compilePrim {n : Nat} (i : K) (hi : IsImagUnit i) (U : M K) (p : Prim K)
    (hp : p.Wf n) (hn : n ≤ U.n) (hU : IsUnitary U) : IsUnitary (compilePrim i U p) := by
  rcases compilePrim_cases i U p with ⟨ms, rfl, e⟩ | ⟨m, a, b, rfl, e⟩ | ⟨hl, e⟩
  · exact hU
  · obtain ⟨hm, ha, hb, hab⟩ := hp
    rw [e, M.isUnitary_iff]
    exact M.UN_mul rfl (UN_lossMat a b (by omega) ha hb hab) (UN_pad rfl hU)
  · rw [e, M.isUnitary_iff, M.mul_n, Prim.mat_n]
    exact M.UN_mul (Prim.mat_n i U.n p) (UN_mat i hi p hp hl hn) hU

theorem isUnitary_foldl_compilePrim {n : Nat} (i : K) (hi : IsImagUnit i) (cs : List (Prim K))
    (U : M K) (hcs : ∀ p ∈ cs, p.Wf n) (hn : n ≤ U.n) (hU : IsUnitary U) :
    IsUnitary (cs.foldl (compilePrim i) U) := by
  induction cs generalizing U with
  | nil => exact hU
  | cons p cs ih =>
    rw [List.foldl_cons]
    exact ih _ (fun q hq => hcs q (List.mem_cons_of_mem _ hq))
      (le_trans hn (le_compilePrim_n i U p))
      (isUnitary_compilePrim i hi U p (hcs p List.mem_cons_self) hn hU)

end LW.Proofs.C01Aux

end

namespace LW.Proofs.C01

open LW.Proofs.C01Aux

variable {K : Type} [CommRing K] [StarRing K]

-- `compile_dim` does not use the star; it takes `[StarRing K]` like the other statements of the section
set_option linter.unusedSectionVars false

theorem compile_dim (i : K) (n : Nat) (spec : List (Comp K)) :
    (compile i n spec).n = n + lossCount spec :=
  compile_n i n spec

theorem U_eq_orderedProd (i : K) (n : Nat) (spec : List (Comp K)) (h : SpecWf n spec) :
    (compile i n spec).lead n = orderedProd i n (flattenSpec spec) := by
  unfold compile orderedProd
  rw [foldl_compileComp_eq,
    foldl_compilePrim_lead i _ _ (mem_flattenSpec_wf h) (le_of_eq (M.one_n n).symm), one_lead]

theorem Ufull_unitary (i : K) (hi : IsImagUnit i) (n : Nat) (spec : List (Comp K))
    (h : SpecWf n spec) : IsUnitary (compile i n spec) := by
  unfold compile
  rw [foldl_compileComp_eq]
  exact isUnitary_foldl_compilePrim i hi _ _ (mem_flattenSpec_wf h)
    (le_of_eq (M.one_n n).symm) (M.UN_one n)

section NonVacuity

noncomputable def exSpec : List (Comp ℂ) :=
  [.prim (.bs 0 1 (3 / 5) (4 / 5) .rx), .prim (.loss 0 (3 / 5) (4 / 5)),
   .prim (.swaps [(0, 1), (1, 0)]), .group [.ps 1 Complex.I, .barrier [0, 1]] 0 1 [] []]

example : IsImagUnit Complex.I := ⟨Complex.I_mul_I, Complex.conj_I⟩

theorem exSpec_wf : SpecWf 2 exSpec := by
  intro c hc
  simp only [exSpec, List.mem_cons, List.not_mem_nil, or_false] at hc
  rcases hc with rfl | rfl | rfl | rfl
  · refine ⟨by omega, by omega, by omega, ?_, ?_, ?_⟩
    · simp
    · simp
    · norm_num
  · refine ⟨by omega, ?_, ?_, ?_⟩
    · simp
    · simp
    · norm_num
  · refine ⟨by decide, by decide, by decide⟩
  · intro p hp
    simp only [List.mem_cons, List.not_mem_nil, or_false] at hp
    rcases hp with rfl | rfl
    · exact ⟨by omega, by simp⟩
    · intro m hm
      simp only [List.mem_cons, List.not_mem_nil, or_false] at hm
      omega

example : IsUnitary (compile Complex.I 2 exSpec) :=
  Ufull_unitary Complex.I ⟨Complex.I_mul_I, Complex.conj_I⟩ 2 exSpec exSpec_wf

example : (compile Complex.I 2 exSpec).n = 3 := by
  rw [compile_dim]; rfl

example : ∃ c', (Circ.new 2 : Circ ℂ).bs 0 1 (3 / 5, 4 / 5) .rx none = .ok c' := ⟨_, rfl⟩

example : (Circ.new 2 : Circ ℂ).bs 1 1 (3 / 5, 4 / 5) .rx none = .error .modeRange := rfl

end NonVacuity

end LW.Proofs.C01
