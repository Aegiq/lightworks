/-
  LW.Proofs.FockBasis — what `photons`, `fockBasis` and the index lists `partitionIdx` = `QF.idxs`
  compute: `fockBasis N n` lists every occupation of `N` modes with `n` photons exactly once; the
  index list of a state repeats each mode by its occupation.
-/
import Mathlib.Data.List.Nodup
import Mathlib.Data.List.Range
import Mathlib.Data.List.GetD
import LW.Model.Fock
import LW.Model.QFock

namespace LW.QF

theorem length_idxsFrom (m : ℕ) (s : List ℕ) : (idxsFrom m s).length = s.sum := by
  induction s generalizing m with
  | nil => rfl
  | cons k t ih => simp [idxsFrom, ih]

theorem length_idxs (s : List ℕ) : (idxs s).length = s.sum := length_idxsFrom 0 s

theorem mem_idxsFrom (m : ℕ) (s : List ℕ) (x : ℕ) (hx : x ∈ idxsFrom m s) :
    m ≤ x ∧ x < m + s.length := by
  induction s generalizing m with
  | nil => simp [idxsFrom] at hx
  | cons k t ih =>
    simp only [idxsFrom, List.mem_append, List.mem_replicate] at hx
    rcases hx with ⟨_, rfl⟩ | hx
    · simp
    · have := ih (m + 1) hx
      simp only [List.length_cons]
      omega

theorem mem_idxs_lt (s : List ℕ) (x : ℕ) (hx : x ∈ idxs s) : x < s.length := by
  have := mem_idxsFrom 0 s x hx
  omega

theorem count_idxsFrom (m : ℕ) (s : List ℕ) (z : ℕ) :
    (idxsFrom m s).count z = if m ≤ z then s.getD (z - m) 0 else 0 := by
  induction s generalizing m with
  | nil => simp [idxsFrom]
  | cons k t ih =>
    simp only [idxsFrom, List.count_append, List.count_replicate, ih]
    by_cases h1 : m = z
    · subst h1
      simp
    · by_cases h2 : m ≤ z
      · have h3 : m + 1 ≤ z := by omega
        have h4 : z - m = (z - (m + 1)) + 1 := by omega
        have h5 : ¬ (m == z) = true := by simpa using h1
        rw [if_pos h2, if_pos h3, h4, List.getD_cons_succ, if_neg h5, Nat.zero_add]
      · have h3 : ¬ m + 1 ≤ z := by omega
        have h5 : ¬ (m == z) = true := by simpa using h1
        rw [if_neg h2, if_neg h3, if_neg h5]

theorem count_idxs (s : List ℕ) (z : ℕ) : (idxs s).count z = s.getD z 0 := by
  unfold idxs
  rw [count_idxsFrom]
  simp

theorem idxsFrom_eq (m : Nat) (s : List Nat) :
    idxsFrom m s = ((List.range' m s.length).zip s).flatMap fun (i, k) => List.replicate k i := by
  induction s generalizing m with
  | nil => rfl
  | cons k t ih => simp [idxsFrom, ih, List.range'_succ]

end LW.QF

namespace LW.Proofs.C03

theorem photons_eq_sum (s : FState) : photons s = s.sum := by
  unfold photons
  exact List.sum_eq_foldl_nat.symm

theorem photons_append (a b : FState) : photons (a ++ b) = photons a + photons b := by
  simp only [photons_eq_sum, List.sum_append_nat]

theorem photons_replicate_zero (k : Nat) : photons (List.replicate k 0) = 0 := by
  simp only [photons_eq_sum, List.sum_replicate_nat, Nat.mul_zero]

theorem photons_append_zeros (s : FState) (k : Nat) :
    photons (s ++ List.replicate k 0) = photons s := by
  rw [photons_append, photons_replicate_zero, Nat.add_zero]

theorem photons_take_le (l : FState) (k : Nat) : photons (l.take k) ≤ photons l := by
  have h : photons l = photons (l.take k) + photons (l.drop k) := by
    rw [← photons_append, List.take_append_drop]
  omega

theorem photons_set_succ (l : FState) (j : Nat) (hj : j < l.length) :
    photons (l.set j (l.getD j 0 + 1)) = photons l + 1 := by
  simp only [photons_eq_sum]
  induction l generalizing j with
  | nil => simp at hj
  | cons a l ih =>
    cases j with
    | zero => simp; omega
    | succ j =>
      simp only [List.length_cons, Nat.add_lt_add_iff_right] at hj
      simp only [List.set_cons_succ, List.getD_cons_succ, List.sum_cons, ih j hj]
      omega

theorem fockBasis_complete_aux (N n : Nat) (s : FState) :
    s ∈ fockBasis (N + 1) n ↔ s.length = N + 1 ∧ s.sum = n := by
  induction N generalizing n s with
  | zero =>
    simp only [fockBasis, List.mem_singleton]
    constructor
    · rintro rfl; simp
    · rintro ⟨h1, h2⟩
      match s, h1 with
      | [x], _ => simp at h2; simp [h2]
  | succ N ih =>
    simp only [fockBasis, List.mem_flatMap, List.mem_range, List.mem_map]
    constructor
    · rintro ⟨v, hv, p, hp, rfl⟩
      rw [ih] at hp
      simp only [List.length_append, List.length_singleton, List.sum_append, List.sum_singleton]
      omega
    · rintro ⟨h1, h2⟩
      rcases List.eq_nil_or_concat s with rfl | ⟨p, v, rfl⟩
      · simp at h1
      · simp only [List.concat_eq_append, List.length_append, List.length_singleton,
          List.sum_append, List.sum_singleton] at h1 h2
        refine ⟨v, by omega, p, ?_, by simp⟩
        rw [ih]
        omega

theorem fockBasis_complete (N n : Nat) (hN : 0 < N) (s : FState) :
    s ∈ fockBasis N n ↔ s.length = N ∧ photons s = n := by
  obtain ⟨N, rfl⟩ : ∃ M, N = M + 1 := ⟨N - 1, by omega⟩
  rw [photons_eq_sum]
  exact fockBasis_complete_aux N n s

/-- no `0 < N` here: `fockBasis 0 n` is empty -/
theorem fockBasis_sound (N n : Nat) (o : FState) (ho : o ∈ fockBasis N n) :
    o.length = N ∧ photons o = n := by
  cases N with
  | zero => cases ho
  | succ N => exact (fockBasis_complete _ _ (Nat.succ_pos N) o).1 ho

theorem fockBasis_nodup_aux (N n : Nat) : (fockBasis (N + 1) n).Nodup := by
  induction N generalizing n with
  | zero => simp [fockBasis]
  | succ N ih =>
    simp only [fockBasis]
    rw [List.nodup_flatMap]
    constructor
    · intro v _
      refine List.Nodup.map ?_ (ih _)
      intro p q h
      exact List.append_cancel_right h
    · refine List.Pairwise.imp ?_ (List.nodup_range (n := n + 1))
      intro v w hvw
      simp only [Function.onFun]
      rw [List.disjoint_left]
      intro x hx hx'
      simp only [List.mem_map] at hx hx'
      obtain ⟨p, _, rfl⟩ := hx
      obtain ⟨q, _, hq⟩ := hx'
      have := List.append_inj_right' hq rfl
      simp at this
      exact hvw this.symm

theorem fockBasis_nodup (N n : Nat) : (fockBasis N n).Nodup := by
  cases N with
  | zero => simp [fockBasis]
  | succ N => exact fockBasis_nodup_aux N n

example : fockBasis 3 2 = [[2, 0, 0], [1, 1, 0], [0, 2, 0], [1, 0, 1], [0, 1, 1], [0, 0, 2]] := by
  decide

example : [1, 0, 1] ∈ fockBasis 3 2 := (fockBasis_complete 3 2 (by decide) _).2 (by decide)

theorem eq_replicate_of_photons_eq_zero (t : FState) (h : photons t = 0) :
    t = List.replicate t.length 0 := by
  rw [photons_eq_sum] at h
  induction t with
  | nil => rfl
  | cons a t ih =>
    rw [List.sum_cons] at h
    rw [List.length_cons, List.replicate_succ, ← ih (by omega), show a = 0 by omega]

theorem fockBasis_zero_photons (N : Nat) : fockBasis (N + 1) 0 = [List.replicate (N + 1) 0] := by
  induction N with
  | zero => rfl
  | succ N ih =>
    have : fockBasis (N + 2) 0 =
        (List.range 1).flatMap fun v => (fockBasis (N + 1) (0 - v)).map fun p => p ++ [v] := rfl
    rw [this]
    simp only [List.range_one, List.flatMap_cons, List.flatMap_nil, List.append_nil, Nat.sub_zero,
      ih, List.map_cons, List.map_nil]
    rw [List.replicate_succ' (n := N + 1)]

theorem mem_fockBasis_take_iff (N L n : Nat) (hL : 0 < L) (fo : FState) (hfo : fo.length = N)
    (hle : photons fo ≤ n) (o : FState) :
    o ∈ (fockBasis (N + L) n).filter (fun o => o.take N = fo) ↔
      o ∈ (fockBasis L (n - photons fo)).map (fun ls => fo ++ ls) := by
  rw [List.mem_filter, List.mem_map, fockBasis_complete _ _ (by omega)]
  simp only [decide_eq_true_eq]
  constructor
  · rintro ⟨⟨h1, h2⟩, h3⟩
    refine ⟨o.drop N, ?_, by rw [← h3, List.take_append_drop]⟩
    rw [fockBasis_complete _ _ hL]
    refine ⟨by simp [h1], ?_⟩
    have h4 : photons o = photons (o.take N) + photons (o.drop N) := by
      rw [← photons_append, List.take_append_drop]
    rw [h3] at h4
    omega
  · rintro ⟨ls, hls, rfl⟩
    rw [fockBasis_complete _ _ hL] at hls
    refine ⟨⟨by simp [hfo, hls.1], ?_⟩, ?_⟩
    · rw [photons_append, hls.2]; omega
    · rw [← hfo, List.take_left]

theorem partitionIdx_eq_idxs (s : FState) : partitionIdx s = QF.idxs s := by
  rw [QF.idxs, QF.idxsFrom_eq, partitionIdx, List.range_eq_range']

theorem partitionIdx_spec (s : FState) :
    (partitionIdx s).length = photons s ∧ ∀ m, (partitionIdx s).count m = s.getD m 0 := by
  rw [partitionIdx_eq_idxs, photons_eq_sum]
  exact ⟨QF.length_idxs s, QF.count_idxs s⟩

example : partitionIdx [2, 0, 1] = [0, 0, 2] := by decide

end LW.Proofs.C03
