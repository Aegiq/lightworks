/-
  LW.Proofs.C10World — the world of live objects.  Every call has one of four effects
  (`World.Effect`), and what it stores comes with its source: a parameter from a constructor or a
  setter (`ParamSrc`), a circuit from a call of the plain construction API on the pool or from a
  frozen copy (`CircSrc`).  `World.step_effect` is the one case analysis on the calls; from it:
  parameter updates never touch circuits, a rejected call changes nothing, the bounds invariant.
  Calls with `Parameter` arguments are calls of the plain construction API on symbolic fields.
-/
import LW.Proofs.C10Param
import LW.Proofs.CircCalls

namespace LW

variable {α K : Type}

def POp.circTarget : POp α K → Option String
  | .circ op => some op.target
  | .bs cid .. | .ps cid .. | .loss cid .. => some cid
  | .freeze dst _ => some dst
  | _ => none

/-- calls of the C10 histories: the parameter-free calls carry literal scalars only (they are
built as `cop.map Sym.lit`) -/
def POp.WF : POp α K → Prop
  | .circ op => ∃ op₀ : CircOp K, op = op₀.map Sym.lit
  | _ => True

/-- replacement of the exception class when `check_loss` raised first -/
def relabel (chk : Option Err) (r : Outcome) : Outcome :=
  match chk, r with
  | some e, some .value => some e
  | _, r => r

namespace World

section Step
variable [LT α] [DecidableLT α] [Zero K] [One K]

/-- a parameter a call can store: what the constructor returns, or what a setter returns on a stored parameter -/
def ParamSrc (w : World α K) (p : Param α) : Prop :=
  (∃ v b, Param.new v b = .ok p) ∨
    ∃ id q, w.store.get? id = some q ∧
      ((∃ v, q.set v = .ok p) ∨ (∃ b, q.setMin b = .ok p) ∨ ∃ b, q.setMax b = .ok p)

/-- a circuit a call can store: what a call of the plain construction API on the pool returns
(a `Unitary` call only if the call is that very pool call), or a frozen copy of a live circuit -/
def CircSrc (w : World α K) (op : POp α K) (c : PCirc α K) : Prop :=
  (∃ cop : CircOp (Sym α K), cop.eval w.circs = some (.ok c) ∧
    ∀ id u, cop = .unitary id u → op = .circ cop) ∨
  ∃ src c0, Heap.get? w.circs src = some c0 ∧ c = PCirc.freeze w.store c0

/-- the four things a call can do to the world: raise and change nothing, store a parameter,
store a dictionary, store a circuit under the call's target -/
def Effect (w : World α K) (op : POp α K) (x : World α K × Option Fail) : Prop :=
  (∃ e, x = (w, some e)) ∨
  (∃ id p, ParamSrc w p ∧ x = ({ w with store := w.store.set id p }, none)) ∨
  (∃ d pd, x = (w.setDict d pd, none)) ∨
  (∃ cid c, op.circTarget = some cid ∧ CircSrc w op c ∧
    x = ({ w with circs := Heap.set w.circs cid c }, none))

theorem effect_updParam {w : World α K} {op : POp α K} (id : Nat) {r : Except PErr (Param α)}
    (hr : ∀ p, r = .ok p → ParamSrc w p) : Effect w op (w.updParam id r) := by
  cases r with
  | error e => exact Or.inl ⟨_, rfl⟩
  | ok p => exact Or.inr (Or.inl ⟨id, p, hr p rfl, rfl⟩)

theorem effect_updCirc {w : World α K} {op : POp α K} {cid : String} (hc : op.circTarget = some cid)
    {r : Except Err (PCirc α K)} (hr : ∀ c, r = .ok c → CircSrc w op c) :
    Effect w op (w.updCirc cid r) := by
  cases r with
  | error e => exact Or.inl ⟨_, rfl⟩
  | ok c => exact Or.inr (Or.inr (Or.inr ⟨cid, c, hc, hr c rfl, rfl⟩))

def ofHeap (w : World α K) (chk : Option Err) (p : Heap (Sym α K) × Outcome) : World α K × Option Fail :=
  ({ w with circs := p.1 }, (relabel chk p.2).map Fail.circ)

omit [LT α] [DecidableLT α] [Zero K] [One K] in
theorem updCirc_withLossCheck (w : World α K) (cid : String) (chk : Option Err)
    (f : Bool → Except Err (PCirc α K)) :
    w.updCirc cid (withLossCheck chk f) =
      ofHeap w chk (match f chk.isNone with
        | .ok c => (Heap.set w.circs cid c, none)
        | .error e => (w.circs, some e)) := by
  cases chk with
  | none =>
    simp only [withLossCheck, Option.isNone_none]
    cases f true <;> rfl
  | some e =>
    simp only [withLossCheck, Option.isNone_some]
    cases f false with
    | ok c => rfl
    | error e' => cases e' <;> rfl

omit [LT α] [DecidableLT α] in
/-- a call that reads circuit `cid`, runs a construction function under `check_loss` and writes the
result back is the pool call `op` that runs it with the flag `chk.isNone`, the exception class of
`check_loss` replacing a `ValueError` -/
theorem lossChecked_eq_heapStep (w : World α K) (cid : String) (chk : Option Err)
    (f : PCirc α K → Bool → Except Err (PCirc α K)) (op : CircOp (Sym α K)) (htgt : op.target = cid)
    (hev : op.eval w.circs = (Heap.get? w.circs cid).map fun c => f c chk.isNone) :
    (Heap.get? w.circs cid).map (fun c => w.updCirc cid (withLossCheck chk (f c))) =
      (heapStep w.circs op).map (ofHeap w chk) := by
  unfold heapStep
  rw [hev, htgt]
  cases Heap.get? w.circs cid with
  | none => rfl
  | some c =>
    rw [Option.map_some, Option.map_some, updCirc_withLossCheck]
    cases f c chk.isNone <;> rfl

theorem step_circ (ν : Views α K) (w : World α K) (op : CircOp (Sym α K)) :
    step ν w (.circ op) = (heapStep w.circs op).map (ofHeap w none) := by
  simp only [step]
  cases heapStep w.circs op <;> rfl

theorem effect_ofHeap {w : World α K} {op : POp α K} {cop : CircOp (Sym α K)}
    {p : Heap (Sym α K) × Outcome} (hs : heapStep w.circs cop = some p) (chk : Option Err)
    (ht : op.circTarget = some cop.target) (hu : ∀ id u, cop = .unitary id u → op = .circ cop) :
    Effect w op (ofHeap w chk p) := by
  obtain ⟨h', r⟩ := p
  rcases heapStep_eq_some hs with ⟨c, he, rfl, rfl⟩ | ⟨e, -, rfl, rfl⟩
  · cases chk <;> exact Or.inr (Or.inr (Or.inr ⟨_, c, ht, Or.inl ⟨cop, he, hu⟩, rfl⟩))
  · cases chk <;> cases e <;> exact Or.inl ⟨_, rfl⟩

theorem step_effect (ν : Views α K) {w : World α K} {op : POp α K} {x : World α K × Option Fail}
    (h : step ν w op = some x) : Effect w op x := by
  cases op with
  | pNew id v bounds =>
    simp only [step] at h
    split at h
    · cases h
    · cases h; exact effect_updParam id fun p hp => Or.inl ⟨v, bounds, hp⟩
  | pSet id v =>
    obtain ⟨q, hq, rfl⟩ := Option.map_eq_some_iff.mp h
    exact effect_updParam id fun p hp => Or.inr ⟨id, q, hq, Or.inl ⟨v, hp⟩⟩
  | pMin id b =>
    obtain ⟨q, hq, rfl⟩ := Option.map_eq_some_iff.mp h
    exact effect_updParam id fun p hp => Or.inr ⟨id, q, hq, Or.inr (Or.inl ⟨b, hp⟩)⟩
  | pMax id b =>
    obtain ⟨q, hq, rfl⟩ := Option.map_eq_some_iff.mp h
    exact effect_updParam id fun p hp => Or.inr ⟨id, q, hq, Or.inr (Or.inr ⟨b, hp⟩)⟩
  | dNew d items =>
    simp only [step] at h
    split at h
    · cases h; exact Or.inr (Or.inr (Or.inl ⟨d, items, rfl⟩))
    · cases h
  | dSet d key arg =>
    simp only [step, Option.bind_eq_bind, Option.bind_eq_some_iff] at h
    obtain ⟨pd, -, r, hs, h⟩ := h
    cases r with
    | error e => cases h; exact Or.inl ⟨_, rfl⟩
    | ok wr =>
      cases wr with
      | dict pd' => cases h; exact Or.inr (Or.inr (Or.inl ⟨d, pd', rfl⟩))
      | param id p =>
        cases h
        obtain ⟨v, q, hq, hset⟩ := PDict.setItem_param hs
        exact Or.inr (Or.inl ⟨id, p, Or.inr ⟨id, q, hq, Or.inl ⟨v, hset⟩⟩, rfl⟩)
  | dRemove d key =>
    simp only [step, Option.bind_eq_bind, Option.bind_eq_some_iff] at h
    obtain ⟨pd, -, h⟩ := h
    split at h
    · cases h; exact Or.inl ⟨_, rfl⟩
    · cases h; exact Or.inr (Or.inr (Or.inl ⟨d, _, rfl⟩))
  | circ cop =>
    obtain ⟨p, hp, rfl⟩ := Option.map_eq_some_iff.mp ((step_circ ν w cop).symm.trans h)
    exact effect_ofHeap hp none rfl fun _ _ _ => rfl
  | bs cid m1 m2 r cv l =>
    obtain ⟨p, hp, rfl⟩ := Option.map_eq_some_iff.mp ((lossChecked_eq_heapStep w cid _
      (fun c lv => Circ.bs c m1 m2 r.fields.1 cv (l.fields ν w.store).1 r.fields.2 lv)
      (.bs cid m1 m2 r.fields.1 cv (l.fields ν w.store).1 r.fields.2 (l.fields ν w.store).2.isNone)
      rfl rfl).symm.trans h)
    exact effect_ofHeap hp _ rfl nofun
  | ps cid m phi l =>
    obtain ⟨p, hp, rfl⟩ := Option.map_eq_some_iff.mp ((lossChecked_eq_heapStep w cid _
      (fun c lv => Circ.ps c m phi.field (l.fields ν w.store).1 lv)
      (.ps cid m phi.field (l.fields ν w.store).1 (l.fields ν w.store).2.isNone) rfl rfl).symm.trans h)
    exact effect_ofHeap hp _ rfl nofun
  | loss cid m l =>
    obtain ⟨p, hp, rfl⟩ := Option.map_eq_some_iff.mp ((lossChecked_eq_heapStep w cid _
      (fun c lv => Circ.loss c m ((l.fields ν w.store).1.getD (.lit 1, .lit 0)) lv)
      (.loss cid m ((l.fields ν w.store).1.getD (.lit 1, .lit 0)) (l.fields ν w.store).2.isNone)
      rfl rfl).symm.trans h)
    exact effect_ofHeap hp _ rfl nofun
  | freeze dst src =>
    obtain ⟨c0, hg, rfl⟩ := Option.map_eq_some_iff.mp h
    exact effect_updCirc rfl fun c hc => Or.inr ⟨src, c0, hg, (Except.ok.inj hc).symm⟩

theorem run_isRun (ν : Views α K) : IsRun (step ν) (run ν) :=
  ⟨fun _ => rfl, fun _ _ _ => rfl⟩

theorem step_circ_frame (ν : Views α K) {w w' : World α K} {op : POp α K} {o : Option Fail}
    (h : World.step ν w op = some (w', o)) (k : String) (hk : op.circTarget ≠ some k) :
    Heap.get? w'.circs k = Heap.get? w.circs k := by
  rcases step_effect ν h with ⟨e, hx⟩ | ⟨id, p, -, hx⟩ | ⟨d, pd, hx⟩ | ⟨cid, c, hc, -, hx⟩ <;> cases hx
  · rfl
  · rfl
  · rfl
  · exact Heap.get?_set_ne w.circs cid k c fun e => hk (e ▸ hc)

theorem run_circ_frame (ν : Views α K) (ops : List (POp α K)) {w w' : World α K}
    {rs : List (Option Fail)} (h : World.run ν w ops = some (w', rs)) (k : String)
    (hk : ∀ op ∈ ops, op.circTarget ≠ some k) : Heap.get? w'.circs k = Heap.get? w.circs k :=
  (run_isRun ν).induction (Q := fun x => Heap.get? x.circs k = Heap.get? w.circs k)
    (fun op hop _ _ _ hq hs => (step_circ_frame ν hs k (hk op hop)).trans hq) rfl h

theorem failed_step_noop (ν : Views α K) {w w' : World α K} {op : POp α K} {e : Fail}
    (h : World.step ν w op = some (w', some e)) : w' = w := by
  rcases step_effect ν h with ⟨e, hx⟩ | ⟨id, p, -, hx⟩ | ⟨d, pd, hx⟩ | ⟨cid, c, hc, -, hx⟩ <;> cases hx
  rfl

end Step

section Bounds
variable [LinearOrder α] [Zero K] [One K]

omit [Zero K] [One K] in
theorem ParamSrc.inBounds {w : World α K} (hw : w.AllInBounds) {p : Param α} (hp : ParamSrc w p) :
    p.InBounds := by
  rcases hp with ⟨v, b, h⟩ | ⟨id, q, hq, ⟨v, h⟩ | ⟨b, h⟩ | ⟨b, h⟩⟩
  · exact Param.new_inBounds h
  · exact Param.set_inBounds h
  · exact Param.setMin_inBounds (hw id q hq) h
  · exact Param.setMax_inBounds (hw id q hq) h

theorem step_inBounds (ν : Views α K) {w w' : World α K} {op : POp α K} {o : Option Fail}
    (hw : w.AllInBounds) (h : World.step ν w op = some (w', o)) : w'.AllInBounds := by
  rcases step_effect ν h with ⟨e, hx⟩ | ⟨id, p, hp, hx⟩ | ⟨d, pd, hx⟩ | ⟨cid, c, hc, -, hx⟩ <;> cases hx
  · exact hw
  · exact allInBounds_set hw id p (hp.inBounds hw)
  · exact hw
  · exact hw

theorem run_inBounds (ν : Views α K) (ops : List (POp α K)) {w w' : World α K} {rs : List (Option Fail)}
    (hw : w.AllInBounds) (h : World.run ν w ops = some (w', rs)) : w'.AllInBounds :=
  (run_isRun ν).induction (fun _ _ _ _ _ hq hs => step_inBounds ν hq hs) hw h

omit [Zero K] [One K] in
theorem empty_inBounds : ({} : World α K).AllInBounds := fun _ _ h => nomatch h

end Bounds

end World

end LW
