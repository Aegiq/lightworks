/-
  The `PostSelection` object (C05, C07: "the post-selection" every sampling method and the Analyzer
  apply) as a state machine — model LW.Model.PostSel, proofs LW/Proofs/PostSelInv.lean.

  For EVERY history of `add` calls (accepted or refused, single values or sequences, integral floats,
  negative and non-integral values) and assignments to `multi_rules`:
    * a refused `add` changes nothing (`refused_add_noop`), an accepted one appends exactly one rule
      and never touches earlier ones (`accepted_add_appends`);
    * the listing `__modes_with_rules` (`modesWith`; the property `modes` is its sorted copy) holds
      exactly the modes of the stored rules, each once (`modes_listing_invariant`);
    * while `multi_rules` is never switched on, no mode carries two rules (`one_rule_per_mode`);
    * `validate` is the conjunction of the rules in the sense of `psValidate` — the predicate the
      Analyzer / QuickSampler / Sampler theorems of C05 and C07 are stated with — whenever the rules'
      modes exist in the state (`validate_is_conjunction`), for rules sharing modes as much as for
      disjoint ones; and adding rules can only shrink the accepted set (`validate_antitone`).
-/
import LW.Proofs.PostSelInv
import LW.Proofs.C07Sample

namespace LW.PostSelProps

open LW.PostSel

theorem refused_add_noop (p : PS) (m n : PArg) (e : PostSel.Err) (h : p.add m n = .error e) :
    p.step (.add m n) = p := by
  simp [PS.step, h]

theorem accepted_add_appends (p q : PS) (m n : PArg) (h : p.add m n = .ok q) :
    ∃ r : Rule, q.rules = p.rules ++ [r] ∧ q.multi = p.multi :=
  let ⟨r, h1, h2, _⟩ := add_ok h
  ⟨r, h1, h2⟩

/-- after any history from a fresh object, `__modes_with_rules` is duplicate-free and is exactly the
set of modes of the stored rules -/
theorem modes_listing_invariant (multi : Bool) (ops : List Op) :
    ((PS.new multi).run ops).modesWith.Nodup ∧
      ∀ x, x ∈ ((PS.new multi).run ops).modesWith ↔ ∃ r ∈ ((PS.new multi).run ops).rules, x ∈ r.modes :=
  inv_run _ (inv_new multi) ops

/-- a fresh `PostSelection()` on which `multi_rules` is never set to True holds at most one rule per
mode, whatever was attempted -/
theorem one_rule_per_mode (ops : List Op) (hops : ∀ op ∈ ops, noMultiOn op) :
    ((PS.new false).run ops).rules.Pairwise fun r1 r2 => ∀ x ∈ r1.modes, x ∉ r2.modes :=
  disjoint_run _ (inv_new false) rfl List.Pairwise.nil ops hops

/-- `validate` = conjunction of the rules (the `psValidate` of the C05 / C07 theorems) -/
theorem validate_is_conjunction (p : PS) (s : FState)
    (hr : ∀ r ∈ p.rules, ∀ m ∈ r.modes, m < s.length) :
    p.validate s = .ok (psValidate p.rules s) :=
  validateRules_eq p.rules s hr

/-- a state accepted after further rules were added was accepted before -/
theorem validate_antitone (p q : PS) (m n : PArg) (h : p.add m n = .ok q) (s : FState)
    (hv : q.validate s = .ok true) : p.validate s = .ok true := by
  obtain ⟨r, hr, _⟩ := add_ok h
  unfold PS.validate at hv ⊢
  rw [hr, validateRules_true_iff] at hv
  exact (validateRules_true_iff _ s).mpr fun r' h' => hv r' (List.mem_append_left _ h')

/-- non-vacuity: with `multi_rules` two rules may share mode 1, and a one-photon state in the shared
mode satisfies both (`(0,1) → 1`, `(1,2) → 1`) although it holds fewer photons than the rules' minima
add up to -/
example :
    (do let p ← (PS.new true).add (.many [.int 0, .int 1]) (.one (.int 1))
        let q ← p.add (.many [.int 1, .int 2]) (.one (.int 1))
        q.validate [0, 1, 0]) = .ok true := by decide

example : ((PS.new false).add (.many [.int 0, .int 1]) (.one (.int 1))).toOption.isSome = true ∧
    (do let p ← (PS.new false).add (.many [.int 0, .int 1]) (.one (.int 1))
        p.add (.one (.int 1)) (.one (.int 0))).toOption.isSome = false := by decide

/-- the acceptance test of the sampling loops (C07 `acceptState_spec`) stated with the OBJECT the user
holds: a detected state is returned iff it meets the heralds, and its herald-free form is accepted by
the PostSelection object's `validate` (whatever history of `add` calls built it, rules sharing modes
included) and holds at least `min_detection` photons -/
theorem acceptState_with_object (p : PS) (outHer : Dict) (minDet : Nat) (s hs : FState)
    (hr : ∀ r ∈ p.rules, ∀ m ∈ r.modes, m < (removeHeralds s outHer.keys).length) :
    acceptState outHer p.rules minDet s = some hs ↔
      heraldsOk outHer s = true ∧ hs = removeHeralds s outHer.keys ∧
      p.validate hs = .ok true ∧ minDet ≤ photons hs := by
  rw [Proofs.C07.acceptState_spec]
  constructor
  · rintro ⟨h1, h2, h3, h4⟩
    refine ⟨h1, h2, ?_, h4⟩
    rw [validate_is_conjunction p hs (by rw [h2]; exact hr), h3]
  · rintro ⟨h1, h2, h3, h4⟩
    refine ⟨h1, h2, ?_, h4⟩
    rw [validate_is_conjunction p hs (by rw [h2]; exact hr)] at h3
    exact Except.ok.inj h3

end LW.PostSelProps
