/-
  LW.Proofs.C12Ideal — the specification side of `convert_correct`.  The value of an instruction at
  a string is a finite linear read of the input at strings that differ on its qubits only (`Reads`),
  hence `idealRun` is linear in the input amplitudes.  The named matrices `namedCZ` / `namedCNOT`,
  read on the bits of any duplicate-free listing `Q` of a gate's qubits (the port order of its
  sub-circuit), are the ideal `C…CZ` (`czOn`) resp. `C…CNOT` (`cnotOn`) of `applyInstr` on those
  qubits, whatever the order in which the instruction names them.
-/
import Mathlib.Algebra.BigOperators.Ring.Finset
import Mathlib.Algebra.BigOperators.Group.Finset.Sigma
import Mathlib.Algebra.Ring.Basic
import Mathlib.Data.List.GetD
import Mathlib.Data.List.Nodup
import Mathlib.Tactic.Ring
import LW.Model.QConvertSem
import LW.Proofs.C13
import LW.Proofs.QFockLists

namespace LW.C12F

open LW LW.QC LW.Gates LW.QF

variable {K : Type} [CommRing K]

theorem delta_expand (n : ℕ) (ψ : List Bool → K) (x : List Bool) (hx : x.length = n) :
    ψ x = ∑ m ∈ (bitStrings n).toFinset, ψ m * delta m x := by
  rw [Finset.sum_eq_single x]
  · simp [delta]
  · intro m _ hne
    simp [delta, Ne.symm hne]
  · intro h
    exact absurd (mem_bitsF.mpr hx) h

theorem getBit_set (l : List Bool) (i q : ℕ) (v : Bool) :
    getBit (l.set i v) q = if q = i ∧ i < l.length then v else getBit l q := by
  unfold getBit
  rw [List.getD_eq_getElem?_getD, List.getD_eq_getElem?_getD, List.getElem?_set]
  by_cases h : i = q
  · subst h
    by_cases hl : i < l.length
    · simp [hl]
    · simp [hl]
  · rw [if_neg h, if_neg (by intro hc; exact h hc.1.symm)]

theorem bits_ext {n : ℕ} {x y : List Bool} (hx : x.length = n) (hy : y.length = n)
    (h : ∀ q, q < n → getBit x q = getBit y q) : x = y := by
  apply List.ext_getElem (by rw [hx, hy])
  intro i h1 h2
  have := h i (by omega)
  unfold getBit at this
  rw [List.getD_eq_getElem _ _ h1, List.getD_eq_getElem _ _ h2] at this
  exact this

theorem eq_iff_on {n : ℕ} {x ib : List Bool} (hx : x.length = n) (hib : ib.length = n)
    (S : List ℕ) (hag : ∀ q, q < n → q ∉ S → getBit x q = getBit ib q) :
    x = ib ↔ ∀ q ∈ S, getBit x q = getBit ib q := by
  constructor
  · intro h q _
    rw [h]
  · intro h
    apply bits_ext hx hib
    intro q hq
    by_cases hs : q ∈ S
    · exact h q hs
    · exact hag q hq hs

theorem delta_eq_zero {ib x : List Bool} (q : ℕ) (h : getBit x q ≠ getBit ib q) :
    (delta ib x : K) = 0 := by
  unfold delta
  rw [if_neg]
  intro hc
  rw [hc] at h
  exact h rfl

/-- the ideal `C…CZ` on the qubits `L` -/
def czOn (L : List ℕ) (ψ : List Bool → K) : List Bool → K :=
  fun bs => if L.all (getBit bs) = true then -ψ bs else ψ bs

/-- the ideal `C…CNOT` with controls `C` and target `t`, on a bit string -/
def cnotOn (C : List ℕ) (t : ℕ) (bs : List Bool) : List Bool :=
  if C.all (getBit bs) = true then bs.set t (!getBit bs t) else bs

theorem cnotOn_length (C : List ℕ) (t : ℕ) (x : List Bool) : (cnotOn C t x).length = x.length := by
  unfold cnotOn
  split_ifs
  · exact List.length_set
  · rfl

theorem getBit_cnotOn_of_ne (C : List ℕ) {t q : ℕ} (x : List Bool) (h : q ≠ t) :
    getBit (cnotOn C t x) q = getBit x q := by
  unfold cnotOn
  split_ifs
  · rw [getBit_set, if_neg (fun hc => h hc.1)]
  · rfl

theorem cnotOn_invol {C : List ℕ} {t : ℕ} (ht : t ∉ C) (x : List Bool) (hx : t < x.length) :
    cnotOn C t (cnotOn C t x) = x := by
  have hC : C.all (getBit (cnotOn C t x)) = C.all (getBit x) := by
    rw [Bool.eq_iff_iff, List.all_eq_true, List.all_eq_true]
    have e : ∀ q ∈ C, getBit (cnotOn C t x) q = getBit x q :=
      fun q hq => getBit_cnotOn_of_ne C x (fun e : q = t => ht (e ▸ hq))
    exact ⟨fun h q hq => e q hq ▸ h q hq, fun h q hq => (e q hq).symm ▸ h q hq⟩
  by_cases h : C.all (getBit x) = true
  · have e : cnotOn C t x = x.set t (!getBit x t) := if_pos h
    rw [cnotOn, hC, if_pos h, e, getBit_set, if_pos ⟨rfl, hx⟩, List.set_set, Bool.not_not]
    unfold getBit
    rw [List.getD_eq_getElem _ _ hx, List.set_getElem_self]
  · have e : cnotOn C t x = x := if_neg h
    rw [e, e]

/-- the value of `F ψ` at `b` is a finite linear read of `ψ` at strings that agree with `b` off the
qubits of `g` -/
def Reads (g : Instr) (F : (List Bool → K) → List Bool → K) : Prop :=
  ∀ b : List Bool, ∃ T : List (K × List Bool),
    (∀ ψ, F ψ b = (T.map fun p => p.1 * ψ p.2).sum) ∧
      ∀ p ∈ T, p.2.length = b.length ∧ ∀ q, q ∉ g.qubits → getBit p.2 q = getBit b q

theorem reads_one {g : Instr} {F : (List Bool → K) → List Bool → K} (k : List Bool → K)
    (π : List Bool → List Bool) (hF : ∀ ψ b, F ψ b = k b * ψ (π b))
    (hl : ∀ b, (π b).length = b.length)
    (hπ : ∀ b q, q ∉ g.qubits → getBit (π b) q = getBit b q) : Reads g F := fun b =>
  ⟨[(k b, π b)], fun ψ => by rw [hF]; simp, fun p hp => by
    rw [List.mem_singleton] at hp; subst hp; exact ⟨hl b, hπ b⟩⟩

theorem getBit_set_of_not_mem {g : Instr} {i q : ℕ} (hi : i ∈ g.qubits) (hq : q ∉ g.qubits)
    (x : List Bool) (v : Bool) : getBit (x.set i v) q = getBit x q := by
  rw [getBit_set, if_neg fun hc : q = i ∧ i < x.length => hq (hc.1 ▸ hi)]

section
variable (c : GC K) (par : ℕ → K × K) (idx : ℕ) {g : Instr} (ψ : List Bool → K) (x : List Bool)

theorem applyInstr_single {q : ℕ} (hg : g.qubits = [q]) :
    applyInstr c par idx g ψ x = applySQ (sqEntry c (sqOfName g.name (par idx))) q ψ x := by
  simp only [applyInstr, hg]

theorem applyInstr_swap {a b : ℕ} (hg : g.qubits = [a, b]) (hn : g.name = "swap") :
    applyInstr c par idx g ψ x = ψ ((x.set a (getBit x b)).set b (getBit x a)) := by
  simp only [applyInstr, hg, hn, if_true]

theorem applyInstr_cx {a b : ℕ} (hg : g.qubits = [a, b]) (hn : g.name = "cx") :
    applyInstr c par idx g ψ x = ψ (cnotOn [a] b x) := by
  simp [applyInstr, hg, hn, cnotOn]

theorem applyInstr_cz {a b : ℕ} (hg : g.qubits = [a, b]) (hs : g.name ≠ "swap")
    (hn : g.name ≠ "cx") : applyInstr c par idx g ψ x = czOn [a, b] ψ x := by
  simp [applyInstr, hg, hs, hn, czOn]

theorem applyInstr_ccx {a b t : ℕ} (hg : g.qubits = [a, b, t]) (hn : g.name = "ccx") :
    applyInstr c par idx g ψ x = ψ (cnotOn [a, b] t x) := by
  simp [applyInstr, hg, hn, cnotOn]

theorem applyInstr_ccz {a b t : ℕ} (hg : g.qubits = [a, b, t]) (hn : g.name ≠ "ccx") :
    applyInstr c par idx g ψ x = czOn [a, b, t] ψ x := by
  simp [applyInstr, hg, hn, czOn, Bool.and_assoc]

end

theorem reads_czOn {g : Instr} {F : (List Bool → K) → List Bool → K} (L : List ℕ)
    (hF : ∀ ψ b, F ψ b = czOn L ψ b) : Reads g F :=
  reads_one (fun x => if L.all (getBit x) = true then -1 else 1) id
    (fun ψ x => by rw [hF, czOn]; split_ifs <;> simp) (fun _ => rfl) fun _ _ _ => rfl

theorem reads_cnotOn {g : Instr} {F : (List Bool → K) → List Bool → K} (C : List ℕ) {t : ℕ}
    (ht : t ∈ g.qubits) (hF : ∀ ψ b, F ψ b = ψ (cnotOn C t b)) : Reads g F :=
  reads_one (fun _ => 1) (cnotOn C t) (fun ψ x => by rw [hF, one_mul]) (cnotOn_length _ _)
    fun x q hq => getBit_cnotOn_of_ne _ x fun e => hq (e ▸ ht)

theorem applyInstr_reads (c : GC K) (par : ℕ → K × K) (idx : ℕ) (g : Instr) :
    Reads g (applyInstr c par idx g) := by
  have hid : (∀ ψ x, applyInstr c par idx g ψ x = ψ x) → Reads g (applyInstr c par idx g) := fun h =>
    reads_one (fun _ => 1) id (fun ψ x => by rw [h, one_mul]; rfl) (fun _ => rfl) fun _ _ _ => rfl
  rcases hg : g.qubits with _ | ⟨a, _ | ⟨b, _ | ⟨t, _ | ⟨u, l⟩⟩⟩⟩
  · exact hid fun ψ x => by simp only [applyInstr, hg]
  · have ha : a ∈ g.qubits := by rw [hg]; exact List.mem_cons_self
    intro x
    refine ⟨[(sqEntry c (sqOfName g.name (par idx)) (getBit x a).toNat 0, x.set a false),
      (sqEntry c (sqOfName g.name (par idx)) (getBit x a).toNat 1, x.set a true)],
      fun ψ => by rw [applyInstr_single c par idx ψ x hg]; simp [applySQ], fun p hp => ?_⟩
    simp only [List.mem_cons, List.not_mem_nil, or_false] at hp
    rcases hp with rfl | rfl <;>
      exact ⟨List.length_set, fun q hq => getBit_set_of_not_mem ha (hg ▸ hq) x _⟩
  · have ha : a ∈ g.qubits := by rw [hg]; exact List.mem_cons_self
    have hb : b ∈ g.qubits := by rw [hg]; exact List.mem_cons_of_mem _ List.mem_cons_self
    by_cases hs : g.name = "swap"
    · exact reads_one (fun _ => 1) (fun x => (x.set a (getBit x b)).set b (getBit x a))
        (fun ψ x => by rw [applyInstr_swap c par idx ψ x hg hs, one_mul]) (fun _ => by simp)
        fun x q hq => by
          rw [getBit_set_of_not_mem hb (hg ▸ hq), getBit_set_of_not_mem ha (hg ▸ hq)]
    by_cases hc : g.name = "cx"
    · exact reads_cnotOn [a] hb fun ψ x => applyInstr_cx c par idx ψ x hg hc
    · exact reads_czOn [a, b] fun ψ x => applyInstr_cz c par idx ψ x hg hs hc
  · have ht : t ∈ g.qubits := by
      rw [hg]; exact List.mem_cons_of_mem _ (List.mem_cons_of_mem _ List.mem_cons_self)
    by_cases hc : g.name = "ccx"
    · exact reads_cnotOn [a, b] ht fun ψ x => applyInstr_ccx c par idx ψ x hg hc
    · exact reads_czOn [a, b, t] fun ψ x => applyInstr_ccz c par idx ψ x hg hc
  · exact hid fun ψ x => by simp only [applyInstr, hg]

theorem Reads.linear {g : Instr} {F : (List Bool → K) → List Bool → K} (h : Reads g F) (n : ℕ)
    (ψ : List Bool → K) (b : List Bool) (hb : b.length = n) :
    F ψ b = ∑ m ∈ (bitStrings n).toFinset, ψ m * F (delta m) b := by
  obtain ⟨T, hT, hl⟩ := h b
  have e : ∀ m, ψ m * F (delta m) b = (T.map fun p => p.1 * (ψ m * delta m p.2)).sum := by
    intro m
    rw [hT, ← List.sum_map_mul_left]
    congr 1
    apply List.map_congr_left
    intro p _
    ring
  simp only [e]
  rw [hT]
  clear hT e
  induction T with
  | nil => simp
  | cons p T ih =>
    simp only [List.map_cons, List.sum_cons, Finset.sum_add_distrib]
    rw [ih fun p' hp' => hl p' (List.mem_cons_of_mem _ hp'), ← Finset.mul_sum,
      ← delta_expand n ψ p.2 ((hl p List.mem_cons_self).1.trans hb)]

theorem Reads.delta_outside {g : Instr} {F : (List Bool → K) → List Bool → K} (h : Reads g F)
    (ib mid : List Bool) (q : ℕ) (hq : q ∉ g.qubits) (hd : getBit mid q ≠ getBit ib q) :
    F (delta ib) mid = 0 := by
  obtain ⟨T, hT, hl⟩ := h mid
  rw [hT]
  apply List.sum_eq_zero
  intro x hx
  obtain ⟨p, hp, rfl⟩ := List.mem_map.mp hx
  rw [delta_eq_zero q (by rw [(hl p hp).2 q hq]; exact hd), mul_zero]

theorem idealRun_linear (c : GC K) (par : ℕ → K × K) (n : ℕ) (gs : List Instr) (idx : ℕ)
    (ψ : List Bool → K) (b : List Bool) (hb : b.length = n) :
    idealRun c par idx gs ψ b =
      ∑ m ∈ (bitStrings n).toFinset, ψ m * idealRun c par idx gs (delta m) b := by
  induction gs generalizing idx ψ with
  | nil => exact delta_expand n ψ b hb
  | cons g rest ih =>
    simp only [idealRun]
    rw [ih (idx + 1) (applyInstr c par idx g ψ)]
    have h2 : ∀ m ∈ (bitStrings n).toFinset,
        ψ m * idealRun c par (idx + 1) rest (applyInstr c par idx g (delta m)) b
          = ∑ m' ∈ (bitStrings n).toFinset,
              ψ m * (applyInstr c par idx g (delta m) m' * idealRun c par (idx + 1) rest (delta m') b) := by
      intro m _
      rw [ih (idx + 1) (applyInstr c par idx g (delta m)), Finset.mul_sum]
    rw [Finset.sum_congr rfl h2, Finset.sum_comm]
    apply Finset.sum_congr rfl
    intro m' hm'
    rw [(applyInstr_reads c par idx g).linear n ψ m' (mem_bitsF.mp hm'), Finset.sum_mul]
    apply Finset.sum_congr rfl
    intro m _
    ring

theorem othersSet_map (f : ℕ → Bool) : ∀ (Q : List ℕ) (tp : ℕ),
    othersSet tp (Q.map f) = (Q.eraseIdx tp).all f
  | [], _ => rfl
  | q :: Q, 0 => by
    rw [List.map_cons, othersSet_cons_zero, List.all_map, List.eraseIdx_cons_zero]
    rfl
  | q :: Q, tp + 1 => by
    rw [List.map_cons, othersSet_cons_succ, othersSet_map f Q tp, List.eraseIdx_cons_succ,
      List.all_cons]

theorem flipAt_map (x : List Bool) : ∀ (Q : List ℕ) (tp : ℕ), Q.Nodup → tp < Q.length →
    Q.getD tp 0 < x.length →
    flipAt tp (Q.map (getBit x)) =
      Q.map (getBit (x.set (Q.getD tp 0) (!getBit x (Q.getD tp 0))))
  | [], _, _, h, _ => absurd h (Nat.not_lt_zero _)
  | q :: Q, 0, hnd, _, hq => by
    rw [List.nodup_cons] at hnd
    rw [List.getD_cons_zero] at hq ⊢
    rw [List.map_cons, List.map_cons, flipAt, getBit_set, if_pos ⟨rfl, hq⟩]
    congr 1
    apply List.map_congr_left
    intro q' hq'
    rw [getBit_set, if_neg (fun hc : q' = q ∧ q < x.length => hnd.1 (hc.1 ▸ hq'))]
  | q :: Q, tp + 1, hnd, htp, hq => by
    rw [List.nodup_cons] at hnd
    rw [List.getD_cons_succ] at hq ⊢
    have htp' : tp < Q.length := Nat.lt_of_succ_lt_succ htp
    have hmem : Q.getD tp 0 ∈ Q := by
      rw [List.getD_eq_getElem _ _ htp']
      exact List.getElem_mem htp'
    rw [List.map_cons, List.map_cons, flipAt, flipAt_map x Q tp hnd.2 htp' hq, getBit_set,
      if_neg (fun hc : q = Q.getD tp 0 ∧ Q.getD tp 0 < x.length => hnd.1 (hc.1 ▸ hmem))]

theorem scaleBy_namedCZ_map (k : K) {n : ℕ} {Q L : List ℕ} (hQL : ∀ q, q ∈ Q ↔ q ∈ L)
    {ib mid : List Bool} (hib : ib.length = n) (hmid : mid.length = n)
    (hag : ∀ q, q < n → q ∉ L → getBit mid q = getBit ib q) :
    scaleBy k (namedCZ (Q.map (getBit mid)) (Q.map (getBit ib))) = k * czOn L (delta ib) mid := by
  have hall : ∀ x : List Bool, (Q.map (getBit x)).all id = L.all (getBit x) := by
    intro x
    rw [List.all_map, Bool.eq_iff_iff, List.all_eq_true, List.all_eq_true]
    exact ⟨fun h q hq => h q ((hQL q).mpr hq), fun h q hq => h q ((hQL q).mp hq)⟩
  have heq : Q.map (getBit mid) = Q.map (getBit ib) ↔ mid = ib := by
    rw [List.map_inj_left, eq_iff_on hmid hib L hag]
    exact ⟨fun h q hq => h q ((hQL q).mpr hq), fun h q hq => h q ((hQL q).mp hq)⟩
  rw [scaleBy_namedCZ, hall]
  unfold czOn delta
  by_cases he : mid = ib
  · rw [if_pos (heq.mpr he), if_pos he, he]
    split_ifs
    · rw [mul_neg, mul_one]
    · rw [mul_one]
  · rw [if_neg (fun h => he (heq.mp h)), if_neg he, neg_zero, ite_self, mul_zero]

/-- the named entry asks whether `mid` is the image of `ib`, the ideal one whether `ib` is the image
of `mid`, and the gate is an involution -/
theorem scaleBy_namedCNOT_map (k : K) {n : ℕ} {Q C : List ℕ} {t tp : ℕ} (hnd : Q.Nodup)
    (htp : tp < Q.length) (hQt : Q.getD tp 0 = t) (hQ : ∀ q, q ∈ Q ↔ q ∈ C ++ [t]) (htC : t ∉ C)
    (ht : t < n) {ib mid : List Bool} (hib : ib.length = n) (hmid : mid.length = n)
    (hag : ∀ q, q < n → q ∉ C ++ [t] → getBit mid q = getBit ib q) :
    scaleBy k (namedCNOT tp (Q.map (getBit mid)) (Q.map (getBit ib))) =
      k * delta ib (cnotOn C t mid) := by
  have htQ : t ∈ Q := (hQ t).mpr (List.mem_append_right _ (List.mem_singleton_self t))
  have hoth : ∀ x : List Bool, othersSet tp (Q.map (getBit x)) = C.all (getBit x) := by
    intro x
    rw [othersSet_map, Bool.eq_iff_iff, List.all_eq_true, List.all_eq_true]
    have hmem : ∀ q, q ∈ Q.eraseIdx tp ↔ q ∈ C := by
      intro q
      rw [← hnd.erase_getElem tp htp, hnd.mem_erase_iff, ← List.getD_eq_getElem _ 0 htp, hQt, hQ,
        List.mem_append, List.mem_singleton]
      exact ⟨fun h => h.2.resolve_right h.1, fun h => ⟨fun e => htC (e ▸ h), Or.inl h⟩⟩
    exact ⟨fun h q hq => h q ((hmem q).mpr hq), fun h q hq => h q ((hmem q).mp hq)⟩
  have hact : cnotAct tp (Q.map (getBit ib)) = Q.map (getBit (cnotOn C t ib)) := by
    unfold cnotAct cnotOn
    rw [hoth]
    split_ifs
    · rw [flipAt_map ib Q tp hnd htp (by rw [hQt, hib]; exact ht), hQt]
    · rfl
  have heq : Q.map (getBit mid) = Q.map (getBit (cnotOn C t ib)) ↔ cnotOn C t mid = ib := by
    rw [List.map_inj_left, ← eq_iff_on hmid (by rw [cnotOn_length, hib]) Q (fun q hq hqQ => by
      rw [getBit_cnotOn_of_ne C ib (fun e : q = t => hqQ (e ▸ htQ))]
      exact hag q hq (fun h => hqQ ((hQ q).mpr h)))]
    constructor
    · intro h
      rw [h]
      exact cnotOn_invol htC ib (by rw [hib]; exact ht)
    · intro h
      rw [← h]
      exact (cnotOn_invol htC mid (by rw [hmid]; exact ht)).symm
  unfold namedCNOT delta
  rw [hact]
  by_cases he : cnotOn C t mid = ib
  · rw [if_pos (heq.mpr he), if_pos he, scaleBy_one, mul_one]
  · rw [if_neg (fun h => he (heq.mp h)), if_neg he, scaleBy_zero, mul_zero]

end LW.C12F
