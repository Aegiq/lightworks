/-
  LW.Proofs.C16F49 — the field with 49 elements `𝔽₇[i]` with complex conjugation, as a concrete
  `Field` / `StarRing`.  It satisfies every scalar hypothesis of the C16 statements
  (`i² = -1`, `conj i = -i`, `h = 2` real with `2h² = 1`, `2 ≠ 0`) but has characteristic 7, so the
  number `6³·(4³-1) = 13608 = 7·1944` of MLE data entries for three qubits vanishes in it.
-/
import Mathlib.Data.ZMod.Basic
import Mathlib.Algebra.Field.ZMod
import Mathlib.Algebra.Ring.MinimalAxioms
import Mathlib.Algebra.Field.Basic
import Mathlib.Algebra.Star.Basic
import Mathlib.Tactic.Ring
import Mathlib.Tactic.NormNum.Prime

namespace LW

instance fact_prime_seven : Fact (Nat.Prime 7) := ⟨by norm_num⟩

@[ext] structure F49 where
  re : ZMod 7
  im : ZMod 7
deriving DecidableEq

namespace F49

instance : Zero F49 := ⟨⟨0, 0⟩⟩
instance : One F49 := ⟨⟨1, 0⟩⟩
instance : Add F49 := ⟨fun a b => ⟨a.re + b.re, a.im + b.im⟩⟩
instance : Neg F49 := ⟨fun a => ⟨-a.re, -a.im⟩⟩
instance : Mul F49 := ⟨fun a b => ⟨a.re * b.re - a.im * b.im, a.re * b.im + a.im * b.re⟩⟩
instance : Inv F49 := ⟨fun a =>
  ⟨a.re * (a.re * a.re + a.im * a.im)⁻¹, -a.im * (a.re * a.re + a.im * a.im)⁻¹⟩⟩

@[simp] theorem zero_re : (0 : F49).re = 0 := rfl
@[simp] theorem zero_im : (0 : F49).im = 0 := rfl
@[simp] theorem one_re : (1 : F49).re = 1 := rfl
@[simp] theorem one_im : (1 : F49).im = 0 := rfl
@[simp] theorem add_re (a b : F49) : (a + b).re = a.re + b.re := rfl
@[simp] theorem add_im (a b : F49) : (a + b).im = a.im + b.im := rfl
@[simp] theorem neg_re (a : F49) : (-a).re = -a.re := rfl
@[simp] theorem neg_im (a : F49) : (-a).im = -a.im := rfl
@[simp] theorem mul_re (a b : F49) : (a * b).re = a.re * b.re - a.im * b.im := rfl
@[simp] theorem mul_im (a b : F49) : (a * b).im = a.re * b.im + a.im * b.re := rfl
theorem inv_re (a : F49) : a⁻¹.re = a.re * (a.re * a.re + a.im * a.im)⁻¹ := rfl
theorem inv_im (a : F49) : a⁻¹.im = -a.im * (a.re * a.re + a.im * a.im)⁻¹ := rfl

instance : CommRing F49 :=
  CommRing.ofMinimalAxioms
    (by intro a b c; ext <;> simp <;> ring)
    (by intro a; ext <;> simp)
    (by intro a; ext <;> simp)
    (by intro a b c; ext <;> simp <;> ring)
    (by intro a b; ext <;> simp <;> ring)
    (by intro a; ext <;> simp)
    (by intro a b c; ext <;> simp <;> ring)

theorem normSq_ne_zero : ∀ x y : ZMod 7, x * x + y * y = 0 → x = 0 ∧ y = 0 := by decide

instance : Field F49 :=
  { (inferInstance : CommRing F49) with
    inv := fun a => a⁻¹
    exists_pair_ne := ⟨0, 1, by
      intro h
      have := congrArg F49.re h
      revert this
      decide⟩
    mul_inv_cancel := by
      intro a ha
      have hd : a.re * a.re + a.im * a.im ≠ 0 := by
        intro h0
        obtain ⟨h1, h2⟩ := normSq_ne_zero _ _ h0
        exact ha (by ext <;> simp [h1, h2])
      ext
      · rw [mul_re, inv_re, inv_im, one_re]
        have : a.re * (a.re * (a.re * a.re + a.im * a.im)⁻¹)
            - a.im * (-a.im * (a.re * a.re + a.im * a.im)⁻¹)
            = (a.re * a.re + a.im * a.im) * (a.re * a.re + a.im * a.im)⁻¹ := by ring
        rw [this, mul_inv_cancel₀ hd]
      · rw [mul_im, inv_re, inv_im, one_im]
        ring
    inv_zero := by
      ext <;> simp [inv_re, inv_im]
    nnqsmul := _
    nnqsmul_def := fun _ _ => rfl
    qsmul := _
    qsmul_def := fun _ _ => rfl }

instance : StarRing F49 where
  star a := ⟨a.re, -a.im⟩
  star_involutive a := by ext <;> simp
  star_mul a b := by
    ext
    · show a.re * b.re - a.im * b.im = b.re * a.re - -b.im * -a.im
      ring
    · show -(a.re * b.im + a.im * b.re) = b.re * -a.im + -b.im * a.re
      ring
  star_add a b := by
    ext
    · rfl
    · show -(a.im + b.im) = -a.im + -b.im
      ring

theorem star_def (a : F49) : star a = ⟨a.re, -a.im⟩ := rfl

/-- the imaginary unit -/
def I : F49 := ⟨0, 1⟩
/-- `1/√2 = 2` (`2·2² = 8 = 1`) -/
def H : F49 := ⟨2, 0⟩

theorem I_mul_I : I * I = -1 := by ext <;> simp [I]
theorem star_I : star I = -I := by ext <;> simp [I, star_def]
theorem star_H : star H = H := by ext <;> simp [H, star_def]
theorem H_sq : H * H + H * H = 1 := by
  ext
  · simp [H]; decide
  · simp [H]
theorem two_ne_zero' : (1 + 1 : F49) ≠ 0 := by
  intro h
  have := congrArg F49.re h
  revert this
  simp
  decide

theorem natCast_re (n : Nat) : ((n : F49)).re = (n : ZMod 7) ∧ ((n : F49)).im = 0 := by
  induction n with
  | zero => simp
  | succ n ih => rw [Nat.cast_succ, Nat.cast_succ, add_re, add_im, ih.1, ih.2]; simp

theorem count_zero : (((6 ^ 3 * (4 ^ 3 - 1) : Nat)) : F49) = 0 := by
  ext
  · rw [(natCast_re _).1]; decide
  · rw [(natCast_re _).2]; rfl

end F49

end LW
