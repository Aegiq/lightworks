/-
  LW.Proofs.C06FullDistribution — `Source._full_distribution` is the mixture over independent per-photon
  emission outcomes: for every observable `F` of annotated states,
      mix (fullDistribution P s) F = mix (specFull P s).1 F
  where `specFull` walks over ALL modes (no grouping of empty modes) and pairs every state reached
  so far with every outcome tuple of the next mode (fresh labels from the running counter).
-/
import LW.Proofs.C06SingleMode
import LW.Proofs.C06EmptyModes

-- the statements of the C06 chain keep the section's instance arguments whether they use them or not
set_option linter.unusedSectionVars false

namespace LW.Proofs.C06

open LW.Src LW.SV

section
variable {Q : Type} [Field Q] [LinearOrder Q] [IsStrictOrderedRing Q]

/-- the state of one mode that holds the photons labelled `l` -/
def emb (l : List Int) : AState := AState.new [sortInt l]

/-- a mode of `n` photons: every state so far, extended by one mode for every outcome in `specMode P ctr n` -/
def specStep (P : Params Q) (acc : List (AState × Q)) (ctr : Int) (n : Nat) : List (AState × Q) :=
  acc.flatMap fun x => (specMode P ctr n).map fun y => (x.1.add (emb y.1), x.2 * y.2)

/-- the second component is the label counter: a photon draws at most two fresh labels, a mode of `n`
photons advances it by `2n` -/
def specFold (P : Params Q) (modes : List Nat) (init : List (AState × Q) × Int) :
    List (AState × Q) × Int :=
  modes.foldl (fun acc n => (specStep P acc.1 acc.2 n, acc.2 + 2 * (n : Int))) init

/-- Specification of the input statistics: all emission outcomes of all photons, mode by mode -/
def specFull (P : Params Q) (modes : List Nat) : List (AState × Q) × Int :=
  specFold P modes ([(AState.new [], 1)], 1)

theorem specFold_cons (P : Params Q) (n : Nat) (modes : List Nat) (A : List (AState × Q) × Int) :
    specFold P (n :: modes) A = specFold P modes (specStep P A.1 A.2 n, A.2 + 2 * (n : Int)) := rfl

theorem mix_specStep (P : Params Q) (acc : List (AState × Q)) (ctr : Int) (n : Nat) (F : AState → Q) :
    mix (specStep P acc ctr n) F =
      mix acc (fun a => mix (specMode P ctr n) fun l => F (a.add (emb l))) :=
  mix_product acc (specMode P ctr n) (fun a l => a.add (emb l)) F

theorem specFold_append (P : Params Q) (l₁ l₂ : List Nat) (init : List (AState × Q) × Int) :
    specFold P (l₁ ++ l₂) init = specFold P l₂ (specFold P l₁ init) :=
  List.foldl_append ..

theorem specFold_mix_congr (P : Params Q) (modes : List Nat) (A B : List (AState × Q) × Int)
    (hc : A.2 = B.2) (hm : ∀ F, mix A.1 F = mix B.1 F) :
    (specFold P modes A).2 = (specFold P modes B).2 ∧
      ∀ F, mix (specFold P modes A).1 F = mix (specFold P modes B).1 F := by
  induction modes generalizing A B with
  | nil => exact ⟨hc, hm⟩
  | cons n modes ih =>
    rw [specFold_cons, specFold_cons]
    refine ih _ _ (congrArg (· + 2 * (n : Int)) hc) fun F => ?_
    rw [mix_specStep, mix_specStep, hc]
    exact hm _

theorem specFold_one (P : Params Q) (modes : List Nat) (A : List (AState × Q) × Int) :
    mix (specFold P modes A).1 (fun _ => 1) = mix A.1 (fun _ => 1) := by
  induction modes generalizing A with
  | nil => rfl
  | cons n modes ih =>
    rw [specFold_cons, ih, mix_specStep]
    simp only [mix_specMode_one]

theorem specFull_one (P : Params Q) (modes : List Nat) :
    mix (specFull P modes).1 (fun _ => 1) = 1 := by
  unfold specFull
  rw [specFold_one]
  simp

theorem specFull_ctr (P : Params Q) (modes : List Nat) (A : List (AState × Q) × Int) :
    (specFold P modes A).2 = A.2 + 2 * ((modes.sum : Nat) : Int) := by
  induction modes generalizing A with
  | nil => simp [specFold]
  | cons n modes ih =>
    rw [specFold_cons, ih, List.sum_cons]
    push_cast
    ring

theorem emb_nil : emb [] = AState.new [[]] := rfl

/-- `n` empty modes, taken one at a time by the specification, are one block of `n` empty modes -/
theorem specFold_zeros (P : Params Q) (n : Nat) (A : List (AState × Q) × Int)
    (hA : ∀ x ∈ A.1, x.1.WF) (F : AState → Q) :
    mix (specFold P (List.replicate n 0) A).1 F =
      mix A.1 (fun a => F (a.add (AState.new (List.replicate n [])))) := by
  induction n generalizing F with
  | zero =>
    refine mix_congr _ _ _ fun x hx => ?_
    have h := AState.add_of_wf x.1 (AState.new []) (hA x hx) (AState.new_wf _)
    exact congrArg F (AState.eq_of_s_eq (h.trans (List.append_nil _))).symm
  | succ n ih =>
    rw [List.replicate_succ', specFold_append]
    show mix (specStep P _ _ 0) F = _
    rw [mix_specStep, ih]
    refine mix_congr _ _ _ fun x hx => ?_
    simp only [specMode, mix_cons, mix_nil, one_mul, add_zero]
    rw [emb_nil, AState.add_assoc, AState.add_new,
      ← List.replicate_succ']

/-- the loop body of `_full_distribution`, copied from the model; the fold over it is
`fullDistribution P s` by `rfl` (`fullDistribution_eq`), which `mix_fullDistribution` uses without a rewrite -/
def fdStep (P : Params Q) (s : FState) (ge : List (Nat × List Nat) × List Nat)
    (acc : KD AState Q × Int) (i : Nat) : KD AState Q × Int :=
  if ge.2.contains i then acc
  else match ge.1.find? (·.1 == i) with
    | some g =>
      let e := AState.new (List.replicate g.2.length [])
      (if acc.1.isEmpty then [(e, 1)] else acc.1.map fun x => (x.1.add e, x.2), acc.2)
    | none =>
      let sm := singleMode P (s.getD i 0) acc.2
      (if acc.1.isEmpty then sm.1
       else acc.1.foldl (fun nd x =>
          sm.1.foldl (fun nd y => KD.setTo nd (x.1.add y.1) (x.2 * y.2)) nd) [],
       sm.2)

theorem fullDistribution_eq (P : Params Q) (s : FState) :
    fullDistribution P s =
      ((List.range s.length).foldl (fdStep P s (groupEmptyModes s)) ([], 1)).1 := rfl

/-- the accumulator read as a law: the empty dictionary of the first round stands for the state without
modes, with weight one -/
def accLaw (d : KD AState Q) : KD AState Q := if d.isEmpty then [(AState.new [], 1)] else d

theorem accLaw_of_ne_nil {d : KD AState Q} (h : d ≠ []) : accLaw d = d :=
  if_neg fun he => h (List.isEmpty_iff.1 he)

/-- state of the loop once the first `c` modes are accounted for -/
structure FdInv (P : Params Q) (s : FState) (c : Nat) (acc : KD AState Q × Int) : Prop where
  /-- the label counter has advanced by two per photon of the first `c` modes -/
  ctr : acc.2 = (specFull P (s.take c)).2
  /-- only before the first mode is the dictionary empty -/
  pos : 0 < c → acc.1 ≠ []
  /-- the dictionary and the specification of the first `c` modes agree on every observable -/
  mixEq : ∀ F, mix (accLaw acc.1) F = mix (specFull P (s.take c)).1 F
  /-- keys are distinct, so the assignment `new_dist[s1 + s2] = p1 * p2` of the next mode never
  overwrites: its keys are concatenations, and concatenation is injective on … -/
  nodup : ((accLaw acc.1).map (·.1)).Nodup
  /-- … well-formed states of the same number of modes (`AState.add_inj`) -/
  keys : ∀ a ∈ (accLaw acc.1).map (·.1), a.WF ∧ a.nModes = c

theorem FdInv.zero (P : Params Q) (s : FState) : FdInv P s 0 (([] : KD AState Q), (1 : Int)) :=
  ⟨rfl, fun h => absurd h (lt_irrefl 0), fun _ => rfl, List.nodup_singleton _, fun _ ha =>
    List.mem_singleton.mp ha ▸ ⟨AState.new_wf [], rfl⟩⟩

/-- a dictionary with the mixture of the specification is not empty (the total is one) -/
theorem FdInv.of_law {P : Params Q} {s : FState} {c : Nat} {d : KD AState Q} {ctr : Int}
    (hctr : ctr = (specFull P (s.take c)).2)
    (hmix : ∀ F, mix d F = mix (specFull P (s.take c)).1 F) (hnd : (d.map (·.1)).Nodup)
    (hk : ∀ a ∈ d.map (·.1), a.WF ∧ a.nModes = c) : FdInv P s c (d, ctr) := by
  have hne : d ≠ [] := fun he => by
    have := hmix (fun _ => 1)
    rw [he, mix_nil, specFull_one] at this
    exact zero_ne_one this
  have e : accLaw d = d := accLaw_of_ne_nil hne
  exact ⟨hctr, fun _ => hne, e.symm ▸ hmix, e.symm ▸ hnd, e.symm ▸ hk⟩

theorem FdInv.nodup_keys {P : Params Q} {s : FState} {c : Nat} {acc : KD AState Q × Int}
    (h : FdInv P s c acc) :
    (acc.1.map (·.1)).Nodup ∧ ∀ a ∈ acc.1.map (·.1), a.WF ∧ a.nModes = c := by
  by_cases he : acc.1 = []
  · rw [he]
    exact ⟨List.nodup_nil, fun _ h => nomatch h⟩
  · rw [← accLaw_of_ne_nil he]
    exact ⟨h.nodup, h.keys⟩

/-- the double loop `new_dist[s1 + s2] = p1 * p2` builds the full product list -/
theorem product_fold_eq (A B : KD AState Q) (c : Nat)
    (hA : (A.map (·.1)).Nodup) (hAk : ∀ a ∈ A.map (·.1), a.WF ∧ a.nModes = c)
    (hB : (B.map (·.1)).Nodup) (hBk : ∀ a ∈ B.map (·.1), a.WF ∧ a.nModes = 1) :
    let prod := A.flatMap fun x => B.map fun y => (x.1.add y.1, x.2 * y.2)
    A.foldl (fun nd x => B.foldl (fun nd y => KD.setTo nd (x.1.add y.1) (x.2 * y.2)) nd) [] = prod ∧
      (prod.map (·.1)).Nodup ∧ ∀ a ∈ prod.map (·.1), a.WF ∧ a.nModes = c + 1 := by
  intro prod
  have hkeys : prod.map (·.1) = (A.map (·.1)).flatMap fun a => (B.map (·.1)).map fun b => a.add b := by
    simp only [prod, List.map_flatMap, List.flatMap_map, List.map_map, Function.comp_def]
  have hnd : (prod.map (·.1)).Nodup := by
    rw [hkeys]
    rw [List.nodup_flatMap]
    refine ⟨?_, ?_⟩
    · intro a ha
      refine (List.nodup_map_iff_inj_on hB).2 ?_
      intro b hb b' hb' hbb
      exact (AState.add_inj (hAk a ha).1 (hAk a ha).1 (hBk b hb).1 (hBk b' hb').1 rfl hbb).2
    · refine List.Pairwise.imp_of_mem ?_ hA
      intro a a' ha ha' hne
      simp only [Function.onFun, List.disjoint_left, List.mem_map]
      rintro k ⟨b, hb, rfl⟩ ⟨b', hb', hbb⟩
      have := AState.add_inj (hAk a' ha').1 (hAk a ha).1 (hBk b' (List.mem_map.2 hb')).1
        (hBk b (List.mem_map.2 hb)).1 ((hAk a' ha').2.trans (hAk a ha).2.symm) hbb
      exact hne this.1.symm
  refine ⟨?_, hnd, ?_⟩
  · have h1 : A.foldl (fun nd x => B.foldl (fun nd y => KD.setTo nd (x.1.add y.1) (x.2 * y.2)) nd) [] =
        prod.foldl (fun nd y => KD.setTo nd y.1 y.2) [] := by
      simp only [prod, List.foldl_flatMap, List.foldl_map]
    rw [h1, show prod.foldl (fun nd y => KD.setTo nd y.1 y.2) [] = [] ++ prod from
      Assoc.foldl_put_fresh prod [] hnd fun _ _ => List.not_mem_nil]
    simp
  · intro k hk
    rw [hkeys] at hk
    simp only [List.mem_flatMap, List.mem_map] at hk
    obtain ⟨a, ha, b, hb, rfl⟩ := hk
    refine ⟨AState.add_wf _ _, ?_⟩
    rw [AState.nModes_add]
    have h1 := hAk a (List.mem_map.2 ha)
    have h2 := hBk b (List.mem_map.2 hb)
    omega

theorem specFull_snoc (P : Params Q) (l : List Nat) (n : Nat) :
    specFull P (l ++ [n]) =
      (specStep P (specFull P l).1 (specFull P l).2 n, (specFull P l).2 + 2 * (n : Int)) := by
  simp [specFull, specFold, List.foldl_append]

theorem fdStep_mode (P : Params Q) (h : InRange P) (s : FState)
    (ge : List (Nat × List Nat) × List Nat) (c : Nat) (hc : c < s.length) (acc : KD AState Q × Int)
    (hinv : FdInv P s c acc) (hskip : ¬ ge.2.contains c = true)
    (hfind : ge.1.find? (·.1 == c) = none) : FdInv P s (c + 1) (fdStep P s ge acc c) := by
  unfold fdStep
  rw [if_neg hskip, hfind]
  simp only
  set n := s.getD c 0 with hn
  set sm := singleMode P n acc.2 with hsm
  have hspec : specFull P (s.take (c + 1)) =
      (specStep P (specFull P (s.take c)).1 (specFull P (s.take c)).2 n,
        (specFull P (s.take c)).2 + 2 * (n : Int)) := by
    rw [take_succ_getD s 0 c hc, specFull_snoc]
  obtain ⟨hprod, hnd, hkeys⟩ := product_fold_eq (accLaw acc.1) sm.1 c hinv.nodup
    hinv.keys (singleMode_keys_nodup P n acc.2) (singleMode_keys P n acc.2)
  -- with the empty dictionary the product with the unit law is the mode's dictionary itself
  have hres : (if acc.1.isEmpty then sm.1 else acc.1.foldl (fun nd x =>
      sm.1.foldl (fun nd y => KD.setTo nd (x.1.add y.1) (x.2 * y.2)) nd) []) =
      (accLaw acc.1).flatMap fun x => sm.1.map fun y => (x.1.add y.1, x.2 * y.2) := by
    by_cases he : acc.1.isEmpty = true
    · rw [if_pos he, accLaw, if_pos he, List.flatMap_singleton]
      refine ((List.map_congr_left fun y hy => ?_).trans (List.map_id _)).symm
      rw [AState.new_nil_add y.1 (singleMode_keys P n acc.2 y.1 (List.mem_map_of_mem hy)).1, one_mul]
      rfl
    · rw [if_neg he, ← hprod, accLaw, if_neg he]
  rw [hres]
  refine FdInv.of_law (by rw [hspec, singleMode_ctr, hinv.ctr]) (fun F => ?_) hnd hkeys
  rw [hspec, mix_product (accLaw acc.1) sm.1 (fun a b => a.add b) F, mix_specStep, ← hinv.mixEq,
    ← hinv.ctr]
  exact mix_congr _ _ _ fun x _ => mix_singleMode P h n acc.2 _

theorem fdStep_group (P : Params Q) (s : FState) (ge : List (Nat × List Nat) × List Nat) (c : Nat)
    (acc : KD AState Q × Int) (hinv : FdInv P s c acc) (hskip : ¬ ge.2.contains c = true)
    (g : Nat × List Nat) (hfind : ge.1.find? (·.1 == c) = some g)
    (hz : s.take (c + g.2.length) = s.take c ++ List.replicate g.2.length 0) :
    FdInv P s (c + g.2.length) (fdStep P s ge acc c) := by
  unfold fdStep
  rw [if_neg hskip, hfind]
  simp only
  set n := g.2.length with hn
  set e := AState.new (List.replicate n []) with he
  have hspec : specFull P (s.take (c + n)) = specFold P (List.replicate n 0) (specFull P (s.take c)) := by
    rw [hz]; exact specFold_append P _ _ _
  have hctr : acc.2 = (specFull P (s.take (c + n))).2 := by
    rw [hspec, specFull_ctr, List.sum_replicate, smul_zero, Nat.cast_zero, mul_zero, add_zero]
    exact hinv.ctr
  have hres : (if acc.1.isEmpty then [(e, (1 : Q))] else acc.1.map fun x => (x.1.add e, x.2)) =
      (accLaw acc.1).map fun x => (x.1.add e, x.2) := by
    by_cases hem : acc.1.isEmpty = true
    · rw [if_pos hem, accLaw, if_pos hem, List.map_singleton, AState.new_nil_add e (AState.new_wf _)]
    · rw [if_neg hem, accLaw, if_neg hem]
  rw [hres]
  refine FdInv.of_law hctr (fun F => ?_) ?_ ?_
  · -- the block form needs well-formed keys, which the loop's accumulator has
    rw [hspec, ← (specFold_mix_congr P _ (accLaw acc.1, acc.2) _ hinv.ctr hinv.mixEq).2,
      specFold_zeros P n (accLaw acc.1, acc.2) fun x hx =>
        (hinv.keys x.1 (List.mem_map.2 ⟨x, hx, rfl⟩)).1,
      mix_map_key (accLaw acc.1) (fun a => a.add e) F]
  · rw [List.map_map]
    have : ((fun x : AState × Q => x.1) ∘ fun x : AState × Q => (x.1.add e, x.2)) =
        (fun a : AState => a.add e) ∘ fun x : AState × Q => x.1 := rfl
    rw [this, ← List.map_map]
    refine List.Nodup.map_on ?_ hinv.nodup
    intro a ha b hb hab
    exact (AState.add_inj (hinv.keys a ha).1 (hinv.keys b hb).1 (AState.new_wf _) (AState.new_wf _)
      ((hinv.keys a ha).2.trans (hinv.keys b hb).2.symm) hab).1
  · intro a ha
    simp only [List.map_map, List.mem_map, Function.comp] at ha
    obtain ⟨x, hx, rfl⟩ := ha
    refine ⟨AState.add_wf _ _, ?_⟩
    rw [AState.nModes_add, AState.new_nModes, List.length_replicate,
      (hinv.keys x.1 (List.mem_map.2 ⟨x, hx, rfl⟩)).2]

theorem fdStep_skip (P : Params Q) (s : FState) (ge : List (Nat × List Nat) × List Nat)
    (acc : KD AState Q × Int) (i : Nat) (hi : i ∈ ge.2) : fdStep P s ge acc i = acc := by
  unfold fdStep
  rw [if_pos (List.contains_iff_mem.2 hi)]

/-- after the modes `< i` the loop has accounted for the modes `< c`, where `c ≥ i` is the next mode
that is not skipped: inside a group the loop is ahead of the index -/
theorem fd_fold_ahead (P : Params Q) (h : InRange P) (s : FState) (ge : List (Nat × List Nat) × List Nat)
    (hv : ValidGrouping s ge.1 ge.2) (h0 : 0 ∉ ge.2) :
    ∀ i ≤ s.length, ∃ c, i ≤ c ∧ c ≤ s.length ∧ c ∉ ge.2 ∧ (∀ k, i ≤ k → k < c → k ∈ ge.2) ∧
      FdInv P s c ((List.range i).foldl (fdStep P s ge) ([], 1)) := by
  intro i
  induction i with
  | zero =>
    exact fun _ => ⟨0, le_rfl, Nat.zero_le _, h0, fun k _ hk => absurd hk (Nat.not_lt_zero k),
      FdInv.zero P s⟩
  | succ i ih =>
    intro hi
    obtain ⟨c, hic, hcs, hc, hskip, hinv⟩ := ih (Nat.le_of_succ_le hi)
    rw [List.range_succ, List.foldl_append, List.foldl_cons, List.foldl_nil]
    rcases Nat.lt_or_ge i c with hlt | hge
    · rw [fdStep_skip P s ge _ i (hskip i le_rfl hlt)]
      exact ⟨c, hlt, hcs, hc, fun k hk => hskip k (Nat.le_of_succ_le hk), hinv⟩
    · obtain rfl : i = c := Nat.le_antisymm hic hge
      have hns : ¬ ge.2.contains i = true := fun hh => hc (List.contains_iff_mem.1 hh)
      cases hfind : ge.1.find? (·.1 == i) with
      | none =>
        exact ⟨i + 1, le_rfl, hi, hv.succ_not_skipped hc hfind, fun k hk hk' => absurd hk' (by omega),
          fdStep_mode P h s ge i hi _ hinv hns hfind⟩
      | some g =>
        have hg : g ∈ ge.1 := List.mem_of_find?_eq_some hfind
        have hgc : g.1 = i := by simpa using List.find?_some hfind
        have h2 := hv.two_le g hg
        have hle := hv.le_len g hg
        rw [hgc] at hle
        have hz := take_add_of_getD_eq s 0 1 i g.2.length hle
          (fun k hk1 hk2 => hv.zeros g hg k (by omega) (by omega))
        exact ⟨i + g.2.length, by omega, hle, hgc ▸ hv.end_not_skipped hg,
          fun k hk hk' => (hv.skip_iff k).2 ⟨g, hg, by omega, by omega⟩,
          fdStep_group P s ge i _ hinv hns g hfind hz⟩

theorem fullDistribution_inv (P : Params Q) (h : InRange P) (s : FState) :
    FdInv P s s.length ((List.range s.length).foldl (fdStep P s (groupEmptyModes s)) ([], 1)) := by
  have hv := groupEmptyModes_valid s
  have hnot : 0 ∉ (groupEmptyModes s).2 := fun hmem => by
    obtain ⟨g, _, hg1, _⟩ := (hv.skip_iff 0).1 hmem
    omega
  obtain ⟨c, h1, h2, -, -, hinv⟩ := fd_fold_ahead P h s _ hv hnot s.length le_rfl
  exact Nat.le_antisymm h2 h1 ▸ hinv

theorem mix_fullDistribution (P : Params Q) (h : InRange P) (s : FState) (hs : s ≠ [])
    (F : AState → Q) : mix (fullDistribution P s) F = mix (specFull P s).1 F := by
  have hinv := fullDistribution_inv P h s
  have := hinv.mixEq F
  rwa [accLaw_of_ne_nil (hinv.pos (List.length_pos_iff.2 hs)), List.take_length] at this

end

end LW.Proofs.C06
