/-
  LW.Proofs.ExceptLemmas — the error monad: when `bind`, `map`, a guard and `mapM` return `.ok`.
  Core only.  The namespace is `LW.Except`, beside core's `Except`: inside `namespace LW` the lemmas
  are written `Except.bind_eq_ok` …, elsewhere `LW.Except.bind_eq_ok`.  The `Forall₂` form of an
  accepted `mapM` (`C03.mapM_ok_iff`) is not here because `List.Forall₂` is not in core.
-/

namespace LW.Except

theorem bind_eq_ok {ε α β : Type} {x : Except ε α} {f : α → Except ε β} {b : β} :
    x.bind f = .ok b ↔ ∃ a, x = .ok a ∧ f a = .ok b := by
  cases x with
  | error e => exact ⟨fun h => (nomatch h), fun ⟨_, h, _⟩ => (nomatch h)⟩
  | ok a => exact ⟨fun h => ⟨a, rfl, h⟩, fun ⟨_, h, hf⟩ => by cases h; exact hf⟩

/-! The `do` forms.  A `do` block in `Except ε` elaborates to `>>=`, `pure`, `throw` and, for a guard
`if p then throw e` followed by more, to `if p then throw e >>= k else k ()`; so
`simp only [f, bind_ok, guard_ok, pure_ok] at h` turns `h : f x = .ok y` into the values bound on
the way, the guards passed and the record returned. -/

theorem bind_ok {ε α β : Type} {x : Except ε α} {f : α → Except ε β} {b : β} :
    (x >>= f) = .ok b ↔ ∃ a, x = .ok a ∧ f a = .ok b := bind_eq_ok

theorem pure_ok {ε α : Type} {a b : α} : (pure a : Except ε α) = .ok b ↔ a = b :=
  ⟨Except.ok.inj, congrArg _⟩

theorem throw_bind_ne_ok {ε α β : Type} {e : ε} {k : β → Except ε α} {a : α} :
    (throw e >>= k) ≠ .ok a := fun h => nomatch h

theorem map_eq_ok {ε α β : Type} {x : Except ε α} {f : α → β} {b : β} :
    x.map f = .ok b ↔ ∃ a, x = .ok a ∧ f a = b := by
  cases x with
  | error e => exact ⟨fun h => (nomatch h), fun ⟨_, h, _⟩ => (nomatch h)⟩
  | ok a => exact ⟨fun h => ⟨a, rfl, Except.ok.inj h⟩, fun ⟨_, h, hf⟩ => by cases h; exact congrArg _ hf⟩

theorem map_error_iff {ε α β : Type} (f : α → β) (r : Except ε α) :
    (∃ e, r.map f = .error e) ↔ ∃ e, r = .error e := by
  cases r with
  | error e => exact ⟨fun _ => ⟨e, rfl⟩, fun _ => ⟨e, rfl⟩⟩
  | ok x => exact ⟨fun ⟨_, h⟩ => (nomatch h), fun ⟨_, h⟩ => (nomatch h)⟩

theorem ite_error_eq_ok {ε α : Type} {p : Prop} [Decidable p] {e : ε} {x : Except ε α} {a : α} :
    (if p then .error e else x) = .ok a ↔ ¬ p ∧ x = .ok a := by
  by_cases hp : p
  · rw [if_pos hp]; exact ⟨fun h => (nomatch h), fun h => absurd hp h.1⟩
  · rw [if_neg hp]; exact ⟨fun h => ⟨hp, h⟩, fun h => h.2⟩

theorem ite_else_error_eq_ok {ε α : Type} {p : Prop} [Decidable p] {e : ε} {x : Except ε α} {a : α} :
    (if p then x else .error e) = .ok a ↔ p ∧ x = .ok a := by
  by_cases hp : p
  · rw [if_pos hp]; exact ⟨fun h => ⟨hp, h⟩, fun h => h.2⟩
  · rw [if_neg hp]; exact ⟨fun h => (nomatch h), fun h => absurd h.1 hp⟩

theorem guard_ok {ε α β : Type} {p : Prop} [Decidable p] {e : ε} {k : β → Except ε α} {x : Except ε α} {a : α} :
    (if p then throw e >>= k else x) = .ok a ↔ ¬ p ∧ x = .ok a := ite_error_eq_ok

theorem map_ok {ε α β : Type} (f : α → β) (a : α) : (.ok a : Except ε α).map f = .ok (f a) := rfl

theorem map_error {ε α β : Type} (f : α → β) (e : ε) : (.error e : Except ε α).map f = .error e := rfl

theorem map_bind {ε α β γ : Type} (f : β → γ) (x : Except ε α) (g : α → Except ε β) :
    (x.bind g).map f = x.bind fun a => (g a).map f := by
  cases x <;> rfl

theorem mapM_nil_ok {ε α β : Type} {f : α → Except ε β} {r : List β} :
    ([] : List α).mapM f = .ok r ↔ r = [] :=
  pure_ok.trans eq_comm

theorem mapM_cons_ok {ε α β : Type} {f : α → Except ε β} {a : α} {l : List α} {r : List β} :
    (a :: l).mapM f = .ok r ↔ ∃ b bs, f a = .ok b ∧ l.mapM f = .ok bs ∧ r = b :: bs := by
  simp only [List.mapM_cons, bind_ok, pure_ok]
  exact ⟨fun ⟨b, hb, bs, hbs, e⟩ => ⟨b, bs, hb, hbs, e.symm⟩, fun ⟨b, bs, hb, hbs, e⟩ => ⟨b, hb, bs, hbs, e.symm⟩⟩

theorem mapM_ok_mem {ε α β : Type} {f : α → Except ε β} {l : List α} {r : List β}
    (h : l.mapM f = .ok r) {b : β} (hb : b ∈ r) : ∃ a ∈ l, f a = .ok b := by
  induction l generalizing r with
  | nil => cases h; exact nomatch hb
  | cons a as ih =>
    obtain ⟨b', bs, hb', hbs, rfl⟩ := mapM_cons_ok.mp h
    rcases List.mem_cons.mp hb with rfl | hb
    · exact ⟨a, List.mem_cons_self, hb'⟩
    · obtain ⟨x, hx, hfx⟩ := ih hbs hb
      exact ⟨x, List.mem_cons_of_mem _ hx, hfx⟩

theorem mapM_ok_forall {ε α β : Type} {f : α → Except ε β} {P : β → Prop}
    (hf : ∀ a b, f a = .ok b → P b) {l : List α} {r : List β} (h : l.mapM f = .ok r) :
    ∀ b ∈ r, P b := fun b hb =>
  let ⟨a, _, ha⟩ := mapM_ok_mem h hb
  hf a b ha

theorem mapM_ok_of_forall {ε α β : Type} {f : α → Except ε β} {g : α → β} (l : List α)
    (h : ∀ a ∈ l, f a = .ok (g a)) : l.mapM f = .ok (l.map g) := by
  induction l with
  | nil => rfl
  | cons a rest ih =>
    rw [List.mapM_cons, h a List.mem_cons_self, ih fun b hb => h b (List.mem_cons_of_mem _ hb)]
    rfl

end LW.Except
