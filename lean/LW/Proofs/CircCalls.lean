/-
  LW.Proofs.CircCalls — each primitive construction call is its range checks, in the error monad,
  followed by `Circ.addPrims` (append leaf components, change nothing else); what an accepted call
  returns; and the pool of live circuits: lookup after a write, what an accepted call stores,
  invariants of histories.
-/
import LW.Model.Heap
import LW.Proofs.AssocList
import LW.Proofs.ExceptLemmas
import LW.Proofs.Run

namespace LW

variable {K : Type}

namespace Circ

theorem modeInRange_eq_ok {c : Circ K} {x : Int} {a : Nat} :
    c.modeInRange x = .ok a ↔ 0 ≤ x ∧ x < c.n ∧ (a : Int) = x := by
  unfold Circ.modeInRange
  split
  · rename_i hx
    refine ⟨fun h => ⟨hx.1, hx.2, ?_⟩, fun h => congrArg Except.ok ?_⟩
    · cases h; exact Int.toNat_of_nonneg hx.1
    · exact h.2.2 ▸ Int.toNat_natCast a
  · rename_i hx
    exact ⟨fun h => (nomatch h), fun h => absurd ⟨h.1, h.2.1⟩ hx⟩

theorem modeInRange_lt {c : Circ K} {x : Int} {a : Nat} (h : c.modeInRange x = .ok a) : a < c.n := by
  have := modeInRange_eq_ok.mp h
  exact Int.ofNat_lt.mp (this.2.2 ▸ this.2.1)

theorem modeInRange_natCast {c : Circ K} {m : Nat} (hm : m < c.n) : c.modeInRange (m : Int) = .ok m :=
  modeInRange_eq_ok.mpr ⟨Int.natCast_nonneg m, Int.ofNat_lt.mpr hm, rfl⟩

theorem mapMode_nil {c : Circ K} (h : c.internal = []) (m : Int) : c.mapMode m = m := by
  unfold Circ.mapMode
  rw [h]
  rfl

/-- append leaves: all that a primitive call does to the circuit once its range checks have passed -/
def addPrims (c : Circ K) (ps : List (Prim K)) : Circ K :=
  { c with spec := c.spec ++ ps.map Comp.prim }

theorem addPrims_addPrims (c : Circ K) (l₁ l₂ : List (Prim K)) :
    (c.addPrims l₁).addPrims l₂ = c.addPrims (l₁ ++ l₂) := by
  simp only [addPrims, List.map_append, List.append_assoc]

/-- what `bs` appends: the beam splitter, then a `Loss` on each of its modes if `loss ≠ 0` -/
def bsPrims (a b : Nat) (cs : K × K) (cv : Conv) : Option (K × K) → List (Prim K)
  | none => [.bs a b cs.1 cs.2 cv]
  | some (la, lb) => [.bs a b cs.1 cs.2 cv, .loss a la lb, .loss b la lb]

/-- what `ps` appends: the phase shifter, then a `Loss` on its mode if `loss ≠ 0` -/
def psPrims (a : Nat) (p : K) : Option (K × K) → List (Prim K)
  | none => [.ps a p]
  | some (la, lb) => [.ps a p, .loss a la lb]

theorem mem_bsPrims {a b : Nat} {cs : K × K} {cv : Conv} {l : Option (K × K)} {p : Prim K}
    (h : p ∈ bsPrims a b cs cv l) :
    p = .bs a b cs.1 cs.2 cv ∨ ∃ la lb, l = some (la, lb) ∧ (p = .loss a la lb ∨ p = .loss b la lb) := by
  rcases l with _ | ⟨la, lb⟩
  · exact Or.inl (List.mem_singleton.mp h)
  · simp only [bsPrims, List.mem_cons, List.not_mem_nil, or_false] at h
    exact h.imp_right fun h => ⟨la, lb, rfl, h⟩

theorem mem_psPrims {a : Nat} {q : K} {l : Option (K × K)} {p : Prim K} (h : p ∈ psPrims a q l) :
    p = .ps a q ∨ ∃ la lb, l = some (la, lb) ∧ p = .loss a la lb := by
  rcases l with _ | ⟨la, lb⟩
  · exact Or.inl (List.mem_singleton.mp h)
  · simp only [psPrims, List.mem_cons, List.not_mem_nil, or_false] at h
    exact h.imp_right fun h => ⟨la, lb, rfl, h⟩

theorem bs_eq (c : Circ K) (m1 m2 : Int) (cs : K × K) (cv : Conv) (l : Option (K × K))
    (rv lv : Bool) :
    c.bs m1 m2 cs cv l rv lv =
      (c.modeInRange (c.mapMode m1)).bind fun a =>
        if (a : Int) = c.mapMode m2 then .error .modeRange else
        (c.modeInRange (c.mapMode m2)).bind fun b =>
          if !lv then .error .value else if !rv then .error .value else
          .ok (c.addPrims (bsPrims a b cs cv l)) := by
  rcases l with _ | ⟨la, lb⟩
  · rfl
  · -- the code appends the two loss elements in a second step
    have e : ∀ a b, c.addPrims (bsPrims a b cs cv (some (la, lb))) =
        (c.addPrims [.bs a b cs.1 cs.2 cv]).addPrims [.loss a la lb, .loss b la lb] :=
      fun a b => (addPrims_addPrims c [.bs a b cs.1 cs.2 cv] [.loss a la lb, .loss b la lb]).symm
    simp only [e]
    rfl

theorem ps_eq (c : Circ K) (m : Int) (p : K) (l : Option (K × K)) (lv : Bool) :
    c.ps m p l lv =
      (c.modeInRange (c.mapMode m)).bind fun a =>
        if !lv then .error .value else .ok (c.addPrims (psPrims a p l)) := by
  rcases l with _ | ⟨la, lb⟩
  · rfl
  · have e : ∀ a, c.addPrims (psPrims a p (some (la, lb))) =
        (c.addPrims [.ps a p]).addPrims [.loss a la lb] :=
      fun a => (addPrims_addPrims c [.ps a p] [.loss a la lb]).symm
    simp only [e]
    rfl

theorem loss_eq (c : Circ K) (m : Int) (ab : K × K) (lv : Bool) :
    c.loss m ab lv =
      (c.modeInRange (c.mapMode m)).bind fun a =>
        if !lv then .error .value else .ok (c.addPrims [.loss a ab.1 ab.2]) := rfl

theorem barrier_eq (c : Circ K) (modes : Option (List Int)) :
    c.barrier modes =
      ((modes.getD ((List.range (c.n - c.internal.length)).map Int.ofNat)).mapM fun m =>
        c.modeInRange (c.mapMode m)).map fun ms' => c.addPrims [.barrier ms'] := by
  cases modes <;> rfl

theorem modeSwaps_eq (c : Circ K) (swaps : List (Int × Int)) :
    c.modeSwaps swaps =
      ((swaps.map fun p => (c.mapMode p.1, c.mapMode p.2)).mapM fun p => c.modeInRange p.1).bind fun ks =>
      ((swaps.map fun p => (c.mapMode p.1, c.mapMode p.2)).mapM fun p => c.modeInRange p.2).bind fun vs =>
        if sortNat (Dict.ofPairs (ks.zip vs)).keys != sortNat (Dict.ofPairs (ks.zip vs)).vals
        then .error .value else .ok (c.addPrims [.swaps (Dict.ofPairs (ks.zip vs))]) := rfl

theorem herald_eq (c : Circ K) (nPhot : Nat) (inMode outMode : Int) :
    c.herald nPhot inMode outMode =
      (c.modeInRange (c.mapMode inMode)).bind fun i =>
      (c.modeInRange (c.mapMode outMode)).bind fun o =>
        if c.inHer.contains i then .error .value else if c.outHer.contains o then .error .value else
        .ok { c with inHer := c.inHer.set i nPhot, outHer := c.outHer.set o nPhot,
                     extIn := c.extIn.set i nPhot, extOut := c.extOut.set o nPhot } := rfl

/-! The flags `reflValid`, `lossValid` (`rv`, `lv`) stand for the value checks; they default to `true`. -/

theorem bs_ok {c c' : Circ K} {m1 m2 : Int} {cs : K × K} {cv : Conv} {l : Option (K × K)} {rv lv : Bool} :
    c.bs m1 m2 cs cv l rv lv = .ok c' ↔
    ∃ a b, c.modeInRange (c.mapMode m1) = .ok a ∧ c.modeInRange (c.mapMode m2) = .ok b ∧
      a ≠ b ∧ lv = true ∧ rv = true ∧ c' = c.addPrims (bsPrims a b cs cv l) := by
  simp only [bs_eq, Except.bind_eq_ok, Except.ite_error_eq_ok, Except.ok.injEq, Bool.not_eq_true',
    Bool.not_eq_false]
  constructor
  · rintro ⟨a, ha, hab, b, hb, hl, hr, rfl⟩
    exact ⟨a, b, ha, hb, fun e => hab (e ▸ (modeInRange_eq_ok.mp hb).2.2), hl, hr, rfl⟩
  · rintro ⟨a, b, ha, hb, hne, hl, hr, rfl⟩
    exact ⟨a, ha, fun e => hne (Int.ofNat_inj.mp (e.trans (modeInRange_eq_ok.mp hb).2.2.symm)),
      b, hb, hl, hr, rfl⟩

theorem bs_eq_ok {c : Circ K} {m1 m2 : Int} {a b : Nat} (ha : c.modeInRange (c.mapMode m1) = .ok a)
    (hb : c.modeInRange (c.mapMode m2) = .ok b) (hne : a ≠ b) (cs : K × K) (cv : Conv)
    (l : Option (K × K)) : c.bs m1 m2 cs cv l = .ok (c.addPrims (bsPrims a b cs cv l)) :=
  bs_ok.mpr ⟨a, b, ha, hb, hne, rfl, rfl, rfl⟩

theorem ps_ok {c c' : Circ K} {m : Int} {p : K} {l : Option (K × K)} {lv : Bool} :
    c.ps m p l lv = .ok c' ↔
    ∃ a, c.modeInRange (c.mapMode m) = .ok a ∧ lv = true ∧ c' = c.addPrims (psPrims a p l) := by
  simp only [ps_eq, Except.bind_eq_ok, Except.ite_error_eq_ok, Except.ok.injEq, Bool.not_eq_true',
    Bool.not_eq_false, @eq_comm _ _ c']

theorem ps_eq_ok {c : Circ K} {m : Int} {a : Nat} (ha : c.modeInRange (c.mapMode m) = .ok a) (p : K)
    (l : Option (K × K)) : c.ps m p l = .ok (c.addPrims (psPrims a p l)) :=
  ps_ok.mpr ⟨a, ha, rfl, rfl⟩

theorem loss_ok {c c' : Circ K} {m : Int} {ab : K × K} {lv : Bool} :
    c.loss m ab lv = .ok c' ↔
    ∃ a, c.modeInRange (c.mapMode m) = .ok a ∧ lv = true ∧ c' = c.addPrims [.loss a ab.1 ab.2] := by
  simp only [loss_eq, Except.bind_eq_ok, Except.ite_error_eq_ok, Except.ok.injEq, Bool.not_eq_true',
    Bool.not_eq_false, @eq_comm _ _ c']

theorem barrier_ok {c c' : Circ K} {modes : Option (List Int)} :
    c.barrier modes = .ok c' ↔
    ∃ ms', (modes.getD ((List.range (c.n - c.internal.length)).map Int.ofNat)).mapM
        (fun m => c.modeInRange (c.mapMode m)) = .ok ms' ∧ c' = c.addPrims [.barrier ms'] := by
  simp only [barrier_eq, Except.map_eq_ok, @eq_comm _ _ c']

theorem modeSwaps_ok {c c' : Circ K} {swaps : List (Int × Int)} :
    c.modeSwaps swaps = .ok c' ↔
    ∃ ks, (swaps.map fun p => (c.mapMode p.1, c.mapMode p.2)).mapM (fun p => c.modeInRange p.1) = .ok ks ∧
      ∃ vs, (swaps.map fun p => (c.mapMode p.1, c.mapMode p.2)).mapM (fun p => c.modeInRange p.2) = .ok vs ∧
        sortNat (Dict.ofPairs (ks.zip vs)).keys = sortNat (Dict.ofPairs (ks.zip vs)).vals ∧
        c' = c.addPrims [.swaps (Dict.ofPairs (ks.zip vs))] := by
  simp only [modeSwaps_eq, Except.bind_eq_ok, Except.ite_error_eq_ok, Except.ok.injEq, bne_iff_ne,
    Decidable.not_not, @eq_comm _ _ c']

theorem herald_ok {c c' : Circ K} {nPhot : Nat} {inMode outMode : Int} :
    c.herald nPhot inMode outMode = .ok c' ↔
    ∃ i, c.modeInRange (c.mapMode inMode) = .ok i ∧ ∃ o, c.modeInRange (c.mapMode outMode) = .ok o ∧
      ¬ c.inHer.contains i ∧ ¬ c.outHer.contains o ∧
      c' = { c with inHer := c.inHer.set i nPhot, outHer := c.outHer.set o nPhot,
                    extIn := c.extIn.set i nPhot, extOut := c.extOut.set o nPhot } := by
  simp only [herald_eq, Except.bind_eq_ok, Except.ite_error_eq_ok, Except.ok.injEq, @eq_comm _ _ c']

theorem plus_ok {a b c' : Circ K} :
    a.plus b = .ok c' ↔
    a.n = b.n ∧ (a.inHer.isEmpty = true ∧ b.inHer.isEmpty = true) ∧
      c' = { n := a.n, spec := a.spec ++ b.spec } := by
  simp only [Circ.plus, Except.ite_error_eq_ok, Except.ok.injEq, Decidable.not_not, Bool.or_eq_true,
    Bool.not_eq_true', not_or, Bool.not_eq_false, @eq_comm _ _ c']

end Circ

namespace Heap

theorem get?_set_eq (h : Heap K) (k : String) (c : Circ K) : (h.set k c).get? k = some c :=
  Assoc.find_put_eq h k c

theorem get?_set_ne (h : Heap K) (k k' : String) (c : Circ K) (hne : k' ≠ k) :
    (h.set k c).get? k' = h.get? k' :=
  Assoc.find_put_ne h k k' c hne

def All (P : Circ K → Prop) (h : Heap K) : Prop := ∀ id c, h.get? id = some c → P c

theorem All.nil (P : Circ K → Prop) : All P ([] : Heap K) := fun _ _ h => nomatch h

theorem All.set {P : Circ K → Prop} {h : Heap K} (hh : All P h) (k : String) {c : Circ K} (hc : P c) :
    All P (h.set k c) :=
  Assoc.forall_find_put hh hc

end Heap

section
variable [Zero K] [One K]

theorem heapStep_eq_some {h h' : Heap K} {op : CircOp K} {r : Outcome} (hs : heapStep h op = some (h', r)) :
    (∃ c, op.eval h = some (.ok c) ∧ h' = h.set op.target c ∧ r = none) ∨
      (∃ e, op.eval h = some (.error e) ∧ h' = h ∧ r = some e) := by
  unfold heapStep at hs
  split at hs
  · cases hs
  · rename_i c he; cases hs; exact Or.inl ⟨c, he, rfl, rfl⟩
  · rename_i e he; cases hs; exact Or.inr ⟨e, he, rfl, rfl⟩

theorem heapRun_isRun : IsRun (heapStep (K := K)) heapRun :=
  ⟨fun _ => rfl, fun _ _ _ => rfl⟩

theorem Heap.All.heapStep {P : Circ K → Prop} {h h' : Heap K} {op : CircOp K} {r : Outcome}
    (hh : Heap.All P h) (hc : ∀ c, op.eval h = some (.ok c) → P c) (hs : heapStep h op = some (h', r)) :
    Heap.All P h' := by
  rcases heapStep_eq_some hs with ⟨c, he, rfl, -⟩ | ⟨e, -, rfl, -⟩
  · exact hh.set _ (hc c he)
  · exact hh

end

end LW
