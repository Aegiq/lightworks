/-
  LW.Proofs.C10Map — the construction API is natural in the scalar type: mapping the scalars of
  a circuit commutes with every construction call (C10: a `Parameter` travels through the
  bookkeeping untouched, so resolving it before or after the calls gives the same circuit).
-/
import LW.Proofs.ScalarMap
import LW.Proofs.CircCalls
import LW.Proofs.C02AddShape

namespace LW

variable {K K' : Type}

/-- a scalar map that fixes the two constants the bookkeeping itself writes (`add_mode_to_unitary`) -/
structure Fix01 [Zero K] [One K] [Zero K'] [One K'] (f : K → K') : Prop where
  zero : f 0 = 0
  one : f 1 = 1

section
variable [Zero K] [One K] [Zero K'] [One K'] {f : K → K'}

theorem addModeToUnitary_map (hf : Fix01 f) (u : M K) (k : Nat) :
    addModeToUnitary (u.map f) k = (addModeToUnitary u k).map f := by
  unfold addModeToUnitary
  rw [M.ofFn_map, M.map_n]
  congr 1
  funext r c
  split
  · split <;> simp [hf.zero, hf.one]
  · exact M.get_map f hf.zero u _ _

theorem Prim.addEmptyMode_map (hf : Fix01 f) (mode : Nat) (p : Prim K) :
    (p.map f).addEmptyMode mode = (p.addEmptyMode mode).map f := by
  cases p with
  | unitary m u =>
    simp only [Prim.map, Prim.addEmptyMode, M.map_n]
    by_cases h : bump mode m < mode ∧ mode < bump mode m + u.n
    · simp only [h, and_self, if_true, addModeToUnitary_map hf]
    · simp only [h, if_false]
  | _ => rfl

theorem Comp.addEmptyMode_map (hf : Fix01 f) (mode : Nat) (c : Comp K) :
    (c.map f).addEmptyMode mode = (c.addEmptyMode mode).map f := by
  cases c with
  | prim p => simp only [Comp.map, Comp.addEmptyMode, Prim.addEmptyMode_map hf]
  | group cs m1 m2 hin hout =>
    simp only [Comp.map, Comp.addEmptyMode, List.map_map]
    congr 1
    apply List.map_congr_left
    intro p _
    exact Prim.addEmptyMode_map hf mode p

end

theorem Prim.shift_map (f : K → K') (k : Nat) (p : Prim K) : (p.map f).shift k = (p.shift k).map f := by
  cases p <;> rfl

theorem Comp.shift_map (f : K → K') (k : Nat) (c : Comp K) : (c.map f).shift k = (c.shift k).map f := by
  cases c with
  | prim p => simp only [Comp.map, Comp.shift, Prim.shift_map]
  | group cs m1 m2 hin hout =>
    simp only [Comp.map, Comp.shift, List.map_map]
    congr 1
    apply List.map_congr_left
    intro p _
    exact Prim.shift_map f k p

theorem unpackSpec_map (f : K → K') (spec : List (Comp K)) :
    unpackSpec (spec.map (Comp.map f)) = (unpackSpec spec).map (Comp.map f) := by
  unfold unpackSpec
  induction spec with
  | nil => rfl
  | cons c cs ih =>
    simp only [List.map_cons, List.flatMap_cons, List.map_append, ih]
    congr 1
    cases c with
    | prim p => rfl
    | group ps m1 m2 hin hout => simp [Comp.map, List.map_map, Function.comp_def]

namespace Circ

theorem map_new (f : K → K') (n : Nat) : (Circ.new n : Circ K).map f = Circ.new n := rfl

theorem map_unpackGroups (f : K → K') (c : Circ K) : (c.map f).unpackGroups = c.unpackGroups.map f := by
  simp only [Circ.unpackGroups, Circ.map, unpackSpec_map]

theorem map_copy (f : K → K') (c : Circ K) : (c.map f).copy = c.copy.map f := rfl

theorem map_addPrims (f : K → K') (c : Circ K) (ps : List (Prim K)) :
    (c.addPrims ps).map f = (c.map f).addPrims (ps.map (Prim.map f)) := by
  simp only [Circ.map, Circ.addPrims, List.map_append, List.map_map]
  rfl

theorem bsPrims_map (f : K → K') (a b : Nat) (cs : K × K) (cv : Conv) (l : Option (K × K)) :
    (bsPrims a b cs cv l).map (Prim.map f) =
      bsPrims a b (f cs.1, f cs.2) cv (l.map fun ab => (f ab.1, f ab.2)) := by
  rcases l with _ | ⟨la, lb⟩ <;> rfl

theorem psPrims_map (f : K → K') (a : Nat) (p : K) (l : Option (K × K)) :
    (psPrims a p l).map (Prim.map f) = psPrims a (f p) (l.map fun ab => (f ab.1, f ab.2)) := by
  rcases l with _ | ⟨la, lb⟩ <;> rfl

/-- mapping the scalars commutes with `bind`, the guards and `ok`; what is left is `addPrims` -/
theorem map_bs (f : K → K') (c : Circ K) (m1 m2 : Int) (cs : K × K) (cv : Conv) (l : Option (K × K))
    (rv lv : Bool) :
    (c.map f).bs m1 m2 (f cs.1, f cs.2) cv (l.map fun ab => (f ab.1, f ab.2)) rv lv =
      (c.bs m1 m2 cs cv l rv lv).map (Circ.map f) := by
  simp only [bs_eq, map_mapMode, map_modeInRange, Except.map_bind, apply_ite (Except.map (Circ.map f)),
    Except.map_ok, Except.map_error, map_addPrims, bsPrims_map]
  rfl

theorem map_ps (f : K → K') (c : Circ K) (m : Int) (p : K) (l : Option (K × K)) (lv : Bool) :
    (c.map f).ps m (f p) (l.map fun ab => (f ab.1, f ab.2)) lv =
      (c.ps m p l lv).map (Circ.map f) := by
  simp only [ps_eq, map_mapMode, map_modeInRange, Except.map_bind, apply_ite (Except.map (Circ.map f)),
    Except.map_ok, Except.map_error, map_addPrims, psPrims_map]

theorem map_loss (f : K → K') (c : Circ K) (m : Int) (ab : K × K) (lv : Bool) :
    (c.map f).loss m (f ab.1, f ab.2) lv = (c.loss m ab lv).map (Circ.map f) := by
  simp only [loss_eq, map_mapMode, map_modeInRange, Except.map_bind, apply_ite (Except.map (Circ.map f)),
    Except.map_ok, Except.map_error, map_addPrims]
  rfl

theorem map_barrier (f : K → K') (c : Circ K) (ms : Option (List Int)) :
    (c.map f).barrier ms = (c.barrier ms).map (Circ.map f) := by
  rw [barrier_eq, barrier_eq]
  simp only [map_mapMode, map_modeInRange, map_n, map_internal]
  cases List.mapM (fun m => c.modeInRange (c.mapMode m)) _ with
  | error e => rfl
  | ok ms' => exact congrArg Except.ok (map_addPrims f c [.barrier ms']).symm

theorem map_modeSwaps (f : K → K') (c : Circ K) (sw : List (Int × Int)) :
    (c.map f).modeSwaps sw = (c.modeSwaps sw).map (Circ.map f) := by
  simp only [modeSwaps_eq, map_mapMode, map_modeInRange, Except.map_bind,
    apply_ite (Except.map (Circ.map f)), Except.map_ok, Except.map_error, map_addPrims]
  rfl

theorem map_herald (f : K → K') (c : Circ K) (n : Nat) (i o : Int) :
    (c.map f).herald n i o = (c.herald n i o).map (Circ.map f) := by
  simp only [herald_eq, map_mapMode, map_modeInRange, Except.map_bind,
    apply_ite (Except.map (Circ.map f)), Except.map_ok, Except.map_error, map_inHer, map_outHer,
    map_extIn, map_extOut]
  rfl

theorem map_plus (f : K → K') (a b : Circ K) :
    (a.map f).plus (b.map f) = (a.plus b).map (Circ.map f) := by
  unfold Circ.plus
  simp only [map_n, map_inHer]
  by_cases h1 : a.n ≠ b.n
  · simp [h1, Except.map]
  · by_cases h2 : (!List.isEmpty a.inHer || !List.isEmpty b.inHer) = true
    · simp only [h1, h2, if_true, if_false, Except.map]
    · simp [h1, h2, Except.map, Circ.map]

section Add
open LW.Proofs.C02
variable [Zero K] [One K]

def _root_.LW.Circ.AddSt.map (f : K → K') (st : AddSt K) : AddSt K' :=
  ⟨st.sub.map f, st.spec.map (Comp.map f)⟩

variable [Zero K'] [One K'] {f : K → K'}

theorem map_addEmptyModeBook (f : K → K') (c : Circ K) (k : Nat) :
    (c.map f).addEmptyModeBook k = (c.addEmptyModeBook k).map f := rfl

omit [Zero K] [One K] [Zero K'] [One K'] in
theorem swapSpec_map (f : K → K') (c : Circ K) : swapSpec (c.map f) = (swapSpec c).map (Comp.map f) := by
  by_cases h : ((synthSwaps c.n (Dict.ofPairs (c.outHer.keys.zip c.inHer.keys))).keys !=
      (synthSwaps c.n (Dict.ofPairs (c.outHer.keys.zip c.inHer.keys))).vals) = true
  · have e1 : swapSpec c = _ := if_pos h
    have e2 : swapSpec (c.map f) = _ := if_pos h
    rw [e1, e2, List.map_append]
    rfl
  · have e1 : swapSpec c = _ := if_neg h
    have e2 : swapSpec (c.map f) = _ := if_neg h
    rw [e1, e2]
    rfl

omit [Zero K] [One K] [Zero K'] [One K'] in
theorem addedComps_map (f : K → K') (st : AddSt K) (mode : Nat) (grouped : Bool) :
    addedComps (st.map f) mode grouped = (addedComps st mode grouped).map (Comp.map f) := by
  have hsh : (st.spec.map (Comp.map f)).map (Comp.shift mode) =
      (st.spec.map (Comp.shift mode)).map (Comp.map f) := by
    rw [List.map_map, List.map_map]
    exact List.map_congr_left fun c _ => Comp.shift_map f mode c
  unfold addedComps
  simp only [AddSt.map, map_n, map_inHer, hsh]
  cases grouped
  · simp only [Bool.not_false, if_true]
  · simp only [Bool.not_true, Bool.false_eq_true, if_false, ← primsOf.eq_1, primsOf_map, List.map_cons,
      List.map_nil, Comp.map]

theorem Comp.ins_map (hf : Fix01 f) (ks : List Nat) (c : Comp K) :
    Comp.ins ks (c.map f) = (Comp.ins ks c).map f :=
  List.foldl_hom (Comp.map f) fun c k => Comp.addEmptyMode_map hf k c

theorem addFinal_map (hf : Fix01 f) (self : Circ K) (st : AddSt K) (mode : Nat) (grouped : Bool) :
    addFinal (self.map f) (st.map f) mode grouped = (addFinal self st mode grouped).map f := by
  have h : (self.spec.map (Comp.map f)).map (Comp.ins (ancPos mode st.sub.inHer)) =
      (self.spec.map (Comp.ins (ancPos mode st.sub.inHer))).map (Comp.map f) := by
    rw [List.map_map, List.map_map]
    exact List.map_congr_left fun c _ => Comp.ins_map hf _ c
  rw [addFinal_record, addFinal_record, addedComps_map]
  simp only [AddSt.map, Circ.map, List.map_append, h]

theorem insSt_map (hf : Fix01 f) (ks : List Nat) (st : AddSt K) :
    insSt ks (st.map f) = (insSt ks st).map f := by
  have h1 : insBook ks (st.sub.map f) = (insBook ks st.sub).map f :=
    List.foldl_hom (Circ.map f) fun _ _ => rfl
  have h2 : (st.spec.map (Comp.map f)).map (Comp.ins ks) =
      (st.spec.map (Comp.ins ks)).map (Comp.map f) := by
    rw [List.map_map, List.map_map]
    exact List.map_congr_left fun c _ => Comp.ins_map hf ks c
  simp only [insSt, AddSt.map, h1, h2]

omit [Zero K] [One K] [Zero K'] [One K'] in
theorem pick_map (f : K → K') (circuit : Circ K) (g : Bool) :
    pick (circuit.map f) g = ((pick circuit g).1.map f, (pick circuit g).2) := by
  unfold pick
  simp only [map_unpackGroups, map_inHer]
  split <;> rfl

theorem subIns_map (hf : Fix01 f) (circuit : Circ K) (g : Bool) (ks : List Nat) :
    subIns (circuit.map f) g ks = (subIns circuit g ks).map f := by
  unfold subIns
  rw [pick_map]
  show insSt ks ⟨(pick circuit g).1.map f, swapSpec ((pick circuit g).1.map f)⟩ = _
  rw [swapSpec_map]
  exact insSt_map hf ks ⟨(pick circuit g).1, swapSpec (pick circuit g).1⟩

theorem map_add (hf : Fix01 f) (self circuit : Circ K) (mode : Int) (grouped : Bool) :
    (self.map f).add (circuit.map f) mode grouped = (self.add circuit mode grouped).map (Circ.map f) := by
  have hg : (pick (circuit.map f) grouped).2 = (pick circuit grouped).2 := by rw [pick_map]
  rw [add_eq_ins, add_eq_ins]
  simp only [map_mapMode, map_modeInRange, map_n, map_inHer, map_internal, subIns_map hf, hg,
    Except.map_bind, apply_ite (Except.map (Circ.map f)), Except.map_ok, Except.map_error]
  exact congrArg _ (funext fun m => by rw [← addFinal_map hf])

end Add

end Circ

end LW
