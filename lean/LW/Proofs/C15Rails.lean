/-
  The circuits clause of C15.  A basis-change unitary stretched over the ancillas between the two
  rails of a qubit (`stretchU`) compiles to the 2×2 unitary on the two physical rails; hence the
  circuit `_create_circuit` returns is the base followed by those unitaries on the full modes
  `_map_mode(2k)`, `_map_mode(2k+1)`.  The clause with ADJACENT full modes `_map_mode(2k)`,
  `_map_mode(2k) + 1` holds when no ancilla lies between the rails (`requested_circuits_adjacent`)
  and is false on a constructible base with one (`cexBase`).
-/
import LW.Proofs.C15Create
import LW.Proofs.TomoKron
import LW.Proofs.AddModeUnitary
import LW.Proofs.Reach

namespace LW.Tomo

open LW.Proofs.C02 LW.Proofs.C02Sem

variable {K : Type} [CommRing K]

/-- `add_mode_to_unitary` applied at positions `1, …, t`, as `Circuit.add` does for `t` ancillas between the rails -/
def stretchU : Nat → M K → M K
  | 0, u => u
  | t + 1, u => addModeToUnitary (stretchU t u) (t + 1)

theorem stretchU_n (t : Nat) (u : M K) : (stretchU t u).n = u.n + t := by
  induction t with
  | zero => rfl
  | succ t ih =>
    show (addModeToUnitary (stretchU t u) (t + 1)).n = _
    rw [addModeToUnitary_n, ih, Nat.add_assoc]

/-- the unitaries of `MEASUREMENT_MAPPING[g]`, in circuit order -/
def measUs (i h : K) : Pauli → List (M K)
  | .X => [hM h]
  | .Y => [sM i, zM, hM h]
  | .Z => [M.one 2]
  | .I => [M.one 2]

theorem measUs_n (i h : K) (g : Pauli) : ∀ u ∈ measUs i h g, u.n = 2 := by
  cases g <;> simp [measUs, hM, sM, zM]

theorem measCirc_spec (i h : K) (g : Pauli) :
    (measCirc i h g).spec = (measUs i h g).map fun u => Comp.prim (.unitary 0 u) := by
  cases g <;> rfl

theorem ins_unitary (u : M K) (hu : u.n = 2) (t : Nat) :
    Comp.ins (List.range' 1 t) (Comp.prim (.unitary 0 u)) = Comp.prim (.unitary 0 (stretchU t u)) := by
  induction t with
  | zero => rfl
  | succ t ih =>
    have hn : (stretchU t u).n = t + 2 := by rw [stretchU_n, hu]; omega
    rw [List.range'_concat, Comp.ins, List.foldl_append]
    show (Comp.ins (List.range' 1 t) _).addEmptyMode (1 + 1 * t) = _
    rw [ih, Nat.one_mul, Nat.add_comm 1 t]
    simp only [Comp.addEmptyMode, Prim.addEmptyMode, bump_of_lt (Nat.succ_pos t)]
    rw [if_pos ⟨by omega, by omega⟩]
    rfl

/-- each insertion embeds along `unbump (t + 1)`, which moves the second rail one up -/
theorem stretchU_get (u : M K) (hu : u.n = 2) (t : Nat) {p q : Nat} (hp : p < t + 2) (hq : q < t + 2) :
    (stretchU t u).get p q =
      (embed2 (t + 2) 0 (t + 1) (u.get 0 0) (u.get 0 1) (u.get 1 0) (u.get 1 1)).get p q := by
  induction t generalizing p q with
  | zero =>
    rw [get_embed2 _ _ _ _ _ _ hp hq]
    obtain rfl | rfl : p = 0 ∨ p = 1 := by omega
    all_goals obtain rfl | rfl : q = 0 ∨ q = 1 := by omega
    all_goals simp [stretchU]
  | succ t ih =>
    have hn : (stretchU t u).n = t + 2 := by rw [stretchU_n, hu]; omega
    have hP := pinj_bump (t + 1) (t + 2) (by omega)
    have e := embed2_embedVia hP (m1 := 0) (m2 := t + 1) (by omega) (by omega)
      (u.get 0 0) (u.get 0 1) (u.get 1 0) (u.get 1 1)
    rw [bump_of_lt (by omega), bump_of_ge (Nat.le_refl _)] at e
    show (addModeToUnitary (stretchU t u) (t + 1)).get p q = _
    rw [addModeToUnitary_eq_embedVia, hn, e,
      embedVia_congr hP (fun _ _ => rfl) (fun x y hx hy => ih hx hy)]

/-- by cases on the entry and not through `embedVia` as `stretchU_get`: there is no hypothesis `a + W ≤ N` here -/
theorem embedBlock_of_embed2 (N a W m1 m2 : Nat) (v : M K) (x y z w : K) (hv : v.n = W)
    (h1 : m1 < W) (h2 : m2 < W)
    (hg : ∀ p q, p < W → q < W → v.get p q = (embed2 W m1 m2 x y z w).get p q) :
    embedBlock N a v = embed2 N (a + m1) (a + m2) x y z w := by
  refine M.ofFn_congr fun r k _ _ => ?_
  rw [hv]
  by_cases hr : a ≤ r ∧ r < a + W
  · by_cases hk : a ≤ k ∧ k < a + W
    · obtain ⟨r', rfl⟩ := Nat.exists_eq_add_of_le hr.1
      obtain ⟨k', rfl⟩ := Nat.exists_eq_add_of_le hk.1
      have hr' : r' < W := Nat.lt_of_add_lt_add_left hr.2
      have hk' : k' < W := Nat.lt_of_add_lt_add_left hk.2
      rw [if_pos ⟨hr.1, hr.2, hk.1, hk.2⟩, Nat.add_sub_cancel_left, Nat.add_sub_cancel_left,
        hg r' k' hr' hk', get_embed2 _ _ _ _ _ _ hr' hk']
      simp only [Nat.add_left_cancel_iff]
    · -- a column outside the window meets neither rail
      have e1 : k ≠ a + m1 := by omega
      have e2 : k ≠ a + m2 := by omega
      rw [if_neg (fun h => hk ⟨h.2.2.1, h.2.2.2⟩)]
      simp only [e1, e2, and_false, if_false]
  · have e1 : r ≠ a + m1 := by omega
    have e2 : r ≠ a + m2 := by omega
    rw [if_neg (fun h => hr ⟨h.1, h.2.1⟩)]
    simp only [e1, e2, false_and, if_false]

theorem embedBlock_stretchU (N a t : Nat) (u : M K) (hu : u.n = 2) :
    embedBlock N a (stretchU t u)
      = embed2 N a (a + t + 1) (u.get 0 0) (u.get 0 1) (u.get 1 0) (u.get 1 1) :=
  embedBlock_of_embed2 N a (t + 2) 0 (t + 1) _ _ _ _ _ (by rw [stretchU_n, hu, Nat.add_comm])
    (by omega) (by omega) (fun _ _ hp hq => stretchU_get u hu t hp hq)

theorem compileComp_unitary (i : K) (U : M K) (a : Nat) (v : M K) :
    compileComp i U (.prim (.unitary a v)) = (embedBlock U.n a v).mul U := rfl

omit [CommRing K] in
theorem railGap_spec (c : Circ K) (x : Nat) :
    (c.mapMode (x : Int)).toNat + railGap c x + 1 = (c.mapMode ((x : Int) + 1)).toNat := by
  have h0 : 0 ≤ c.mapMode (x : Int) := skipFold_nonneg _ _ (by omega)
  have h1 : c.mapMode (x : Int) < c.mapMode ((x : Int) + 1) :=
    skipFold_strictMono _ (by omega)
  unfold railGap
  omega

/-- the components `_create_circuit` appends to the base for the setting `s`: for qubit `k` with
operator `g`, one `Unitary` component per 2×2 matrix `u` of `MEASUREMENT_MAPPING[g]`, placed at the
full mode of the first rail and stretched (`add_mode_to_unitary`) over the `railGap` ancillas between
the two rails -/
def railSpec (i h : K) (base : Circ K) (s : Meas) : List (Comp K) :=
  ((List.range s.length).zip s).flatMap fun ks =>
    (measUs i h ks.2).map fun u =>
      Comp.prim (.unitary (base.mapMode (2 * (ks.1 : Int))).toNat
        (stretchU (railGap base (2 * ks.1)) u))

theorem railComps_meas (i h : K) (base : Circ K) (s : Meas) :
    railComps base 0 (s.map (measCirc i h)) = railSpec i h base s := by
  rw [railComps, railSpec, List.length_map, ← List.range_eq_range', List.zip_map_right,
    List.flatMap_map]
  refine List.flatMap_congr fun ks _ => ?_
  rw [Prod.map_snd, Prod.map_fst, id, measCirc_spec, List.map_map]
  refine List.map_congr_left fun u hu => ?_
  rw [Function.comp_apply, ins_unitary u (measUs_n i h ks.2 u hu)]
  simp [Comp.shift, Prim.shift]

theorem createCircuit_rails (i h : K) (nQ : Nat) (base : Circ K) (hwf : base.WF)
    (hin : base.inputModes = 2 * nQ) (s : Meas) (hs : s.length = nQ) :
    createCircuit nQ base (s.map (measCirc i h))
      = .ok { base with spec := base.spec ++ railSpec i h base s } :=
  railComps_meas i h base s ▸ createCircuit_append nQ base hwf hin _
    ((List.length_map _).trans hs) (measCirc_plain i h s)

theorem railSpec_fold (i h : K) (base : Circ K) (s : Meas) (U : M K) :
    (railSpec i h base s).foldl (compileComp i) U = ((List.range s.length).zip s).foldl
      (fun U ks => (measUs i h ks.2).foldl
        (fun U u =>
          (embed2 U.n (base.mapMode (2 * (ks.1 : Int))).toNat
            (base.mapMode (2 * (ks.1 : Int) + 1)).toNat
            (u.get 0 0) (u.get 0 1) (u.get 1 0) (u.get 1 1)).mul U) U) U := by
  rw [railSpec, List.foldl_flatMap]
  refine List.foldl_ext _ _ _ fun U ks _ => ?_
  rw [List.foldl_map]
  refine List.foldl_ext _ _ _ fun U u hu => ?_
  have := railGap_spec base (2 * ks.1)
  push_cast at this
  rw [compileComp_unitary, embedBlock_stretchU _ _ _ _ (measUs_n i h ks.2 u hu), this]

/-- the circuits clause, for every base circuit satisfying the bookkeeping invariant -/
theorem requested_circuits_corrected (i h : K) (nQ : Nat) (base : Circ K) (s : Meas)
    (hwf : base.WF) (hin : base.inputModes = 2 * nQ) (hs : s.length = nQ) :
    ∃ c, createCircuit nQ base (s.map (measCirc i h)) = .ok c ∧
      c = { base with spec := base.spec ++ railSpec i h base s } ∧
      c.n = base.n ∧ c.inHer = base.inHer ∧ c.outHer = base.outHer ∧ c.internal = base.internal ∧
      Circ.Ufull i c = ((List.range nQ).zip s).foldl
        (fun U ks => (measUs i h ks.2).foldl
          (fun U u =>
            (embed2 U.n (base.mapMode (2 * (ks.1 : Int))).toNat
              (base.mapMode (2 * (ks.1 : Int) + 1)).toNat
              (u.get 0 0) (u.get 0 1) (u.get 1 0) (u.get 1 1)).mul U) U)
        (base.Ufull i) := by
  exact ⟨_, createCircuit_rails i h nQ base hwf hin s hs, rfl, rfl, rfl, rfl, rfl, by
    rw [← hs, ← railSpec_fold]
    exact requested_Ufull i base _⟩

/-- the conclusion of `requested_circuits_statement` (LW/Properties/C15, false as it stands) under `WF` and
`hadj`: no ancilla between the two rails of any qubit -/
theorem requested_circuits_adjacent (i h : K) (nQ : Nat) (base : Circ K) (s : Meas) (hwf : base.WF)
    (hin : base.inputModes = 2 * nQ) (hs : s.length = nQ)
    (hadj : ∀ k : Nat, k < nQ →
      base.mapMode (2 * (k : Int) + 1) = base.mapMode (2 * (k : Int)) + 1) :
    ∃ c, createCircuit nQ base (s.map (measCirc i h)) = .ok c ∧ c.n = base.n ∧
      c.inHer = base.inHer ∧ c.outHer = base.outHer ∧
      Circ.Ufull i c = ((List.range nQ).zip s).foldl
        (fun U ks => ((measCirc i h ks.2).spec.map
            (Comp.shift (base.mapMode (2 * (ks.1 : Int))).toNat)).foldl (compileComp i) U)
        (base.Ufull i) := by
  obtain ⟨c, h1, -, h2, h3, h4, -, h6⟩ := requested_circuits_corrected i h nQ base s hwf hin hs
  refine ⟨c, h1, h2, h3, h4, h6.trans (List.foldl_ext _ _ _ fun U ks hks => ?_)⟩
  have hk : ks.1 < nQ := List.mem_range.mp (List.of_mem_zip (show (ks.1, ks.2) ∈ _ from hks)).1
  have h0 : 0 ≤ base.mapMode (2 * (ks.1 : Int)) := skipFold_nonneg _ _ (by omega)
  rw [measCirc_spec, List.map_map, List.foldl_map, hadj ks.1 hk, Int.toNat_add h0 (by decide)]
  refine List.foldl_ext _ _ _ fun U u hu => ?_
  -- with no ancilla between the rails the block is not stretched: `stretchU 0 u` is `u`
  have := embedBlock_stretchU U.n (base.mapMode (2 * (ks.1 : Int))).toNat 0 u (measUs_n i h ks.2 u hu)
  rw [Nat.add_zero] at this
  rw [show Int.toNat 1 = 1 from rfl, ← this]
  simp [Comp.shift, Prim.shift, compileComp_unitary, stretchU]

/-- `S = Circuit(3)` heralded (0 photons) on its middle mode -/
def cexSub : Circ Int :=
  { n := 3, inHer := [(1, 0)], outHer := [(1, 0)], extIn := [(1, 0)], extOut := [(1, 0)] }

/-- `Circuit(2).add(S, 0)`: three full modes, the ancilla (full mode 1) lies between the two rails
(full modes 0 and 2) of the only qubit -/
def cexBase : Circ Int :=
  { n := 3, spec := [.group [] 0 2 [(1, 0)] [(1, 0)]], inHer := [(1, 0)], outHer := [(1, 0)],
    internal := [1] }

theorem cexSub_built : (Circ.new 3 : Circ Int).herald 0 1 1 = .ok cexSub := by rfl

theorem cexBase_built : (Circ.new 2 : Circ Int).add cexSub 0 false = .ok cexBase := by rfl

theorem cexBase_reach : Reach cexBase :=
  Reach.add 0 false (Reach.new 2) (Reach.herald 0 1 1 (Reach.new 3) cexSub_built) cexBase_built

theorem cexBase_WF : cexBase.WF := Proofs.Reach.reach_WF _ cexBase_reach

theorem cexBase_inputModes : cexBase.inputModes = 2 * 1 := rfl

theorem cexBase_rails : cexBase.mapMode 0 = 0 ∧ cexBase.mapMode 1 = 2 := by decide

theorem cex_created :
    createCircuit 1 cexBase ([Pauli.X].map (measCirc (0 : Int) 1))
      = .ok { cexBase with spec := cexBase.spec ++
          [.prim (.unitary 0 (addModeToUnitary (hM 1) 1))] } := by rfl

/-- non-vacuity of `requested_circuits_corrected`, on `cexBase` with the setting `X`:
`[[1, 1], [1, -1]]` (`h = 1` over ℤ) on the full modes 0 and 2, the ancilla mode 1 untouched -/
theorem cex_corrected_instance :
    ∃ c, createCircuit 1 cexBase ([Pauli.X].map (measCirc (0 : Int) 1)) = .ok c ∧
      c.n = 3 ∧ c.inHer = [(1, 0)] ∧ c.outHer = [(1, 0)] ∧
      Circ.Ufull 0 c = (embed2 3 0 2 1 1 1 (-1)).mul (cexBase.Ufull 0) := by
  obtain ⟨c, h1, _, h3, h4, h5, _, h7⟩ :=
    requested_circuits_corrected (0 : Int) 1 1 cexBase [Pauli.X] cexBase_WF rfl rfl
  exact ⟨c, h1, h3, h4, h5, h7⟩

end LW.Tomo
