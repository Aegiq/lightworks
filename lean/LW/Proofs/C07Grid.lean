/-
  C07Grid — deterministic equidistribution.

  On the uniform grid `{0, 1/N, …, (N-1)/N}` the number of points that select index `k` under
  inverse-CDF selection is within 1 of `N · p_k / Σp` (`inverseCdf_grid_frequency_lt`); that the grid
  frequency converges to the normalised weight is derived from this bound in LW/Properties/C07.
-/
import Mathlib.Algebra.Order.Floor.Semiring
import Mathlib.Algebra.Order.Floor.Ring
import Mathlib.Data.Rat.Floor
import Mathlib.Data.List.GetD
import Mathlib.Algebra.Order.Archimedean.Basic
import Mathlib.Order.Interval.Finset.Nat
import Mathlib.Tactic.Linarith
import LW.Proofs.C07Cdf

namespace LW.Proofs.C07

def gridCount (ps : List Rat) (N k : Nat) : Nat :=
  ((List.range N).filter fun (j : Nat) => inverseCdf ps ((j : Rat) / (N : Rat)) = k).length

theorem cum_succ (ps : List Rat) (k : Nat) (hk : k < ps.length) :
    cum ps (k + 1) = cum ps k + ps.getD k 0 :=
  sum_take_succ_getD ps k hk

/-- the grid points `j / N`, `j < N`, lying in `[a, b)` are exactly `⌈a N⌉ ≤ j < ⌈b N⌉` -/
theorem grid_count_Ico (N : Nat) (hN : 0 < N) (a b : Rat) (hb : b ≤ 1) :
    ((List.range N).filter fun (j : Nat) =>
        decide (a ≤ (j : Rat) / (N : Rat) ∧ (j : Rat) / (N : Rat) < b)).length =
      ⌈b * N⌉₊ - ⌈a * N⌉₊ := by
  have hNq : (0 : Rat) < N := by exact_mod_cast hN
  have h1 : ((List.range N).filter fun (j : Nat) =>
        decide (a ≤ (j : Rat) / (N : Rat) ∧ (j : Rat) / (N : Rat) < b)).length =
      ((Finset.range N).filter fun (j : Nat) =>
        a ≤ (j : Rat) / (N : Rat) ∧ (j : Rat) / (N : Rat) < b).card := by
    rfl
  rw [h1, ← Nat.card_Ico]
  congr 1
  ext j
  simp only [Finset.mem_filter, Finset.mem_range, Finset.mem_Ico, Nat.ceil_le, Nat.lt_ceil,
    le_div_iff₀ hNq, div_lt_iff₀ hNq]
  constructor
  · rintro ⟨_, h2, h3⟩; exact ⟨h2, h3⟩
  · rintro ⟨h2, h3⟩
    refine ⟨?_, h2, h3⟩
    exact_mod_cast h3.trans_le (mul_le_of_le_one_left hNq.le hb)

theorem ceil_sub_ceil_lt (x y : Rat) (hx : 0 ≤ x) (hxy : x ≤ y) :
    |((⌈y⌉₊ - ⌈x⌉₊ : Nat) : Rat) - (y - x)| < 1 := by
  rw [Nat.cast_sub (Nat.ceil_mono hxy), abs_lt]
  have h1 := Nat.le_ceil x
  have h2 := Nat.ceil_lt_add_one hx
  have h3 := Nat.le_ceil y
  have h4 := Nat.ceil_lt_add_one (hx.trans hxy)
  constructor <;> linarith

theorem ceil_sub_ceil_bound (N : Nat) (hN : 0 < N) (a b : Rat) (ha : 0 ≤ a) (hab : a ≤ b) :
    |((⌈b * N⌉₊ - ⌈a * N⌉₊ : Nat) : Rat) / N - (b - a)| < 1 / N := by
  have hNq : (0 : Rat) < N := by exact_mod_cast hN
  have h := ceil_sub_ceil_lt (a * N) (b * N) (mul_nonneg ha hNq.le)
    (mul_le_mul_of_nonneg_right hab hNq.le)
  rw [show ((⌈b * N⌉₊ - ⌈a * N⌉₊ : Nat) : Rat) / N - (b - a) =
      (((⌈b * N⌉₊ - ⌈a * N⌉₊ : Nat) : Rat) - (b * N - a * N)) / N by
    rw [sub_div, sub_div, mul_div_cancel_right₀ _ hNq.ne', mul_div_cancel_right₀ _ hNq.ne'],
    abs_div, abs_of_pos hNq]
  exact div_lt_div_of_pos_right h hNq

theorem grid_point_mem {j N : Nat} (hjN : j < N) :
    (0 : Rat) ≤ (j : Rat) / N ∧ (j : Rat) / N < 1 := by
  have hNq : (0 : Rat) < N := by exact_mod_cast Nat.zero_lt_of_lt hjN
  exact ⟨div_nonneg (Nat.cast_nonneg j) hNq.le, (div_lt_one hNq).mpr (by exact_mod_cast hjN)⟩

theorem inverseCdf_grid_eq_iff (ps : List Rat) (hnn : ∀ p ∈ ps, 0 ≤ p) (htot : 0 < ps.sum)
    (k : Nat) (hk : k < ps.length) {j N : Nat} (hjN : j < N) :
    inverseCdf ps ((j : Rat) / N) = k ↔
      cum ps k / ps.sum ≤ (j : Rat) / N ∧ (j : Rat) / N < cum ps (k + 1) / ps.sum :=
  inverseCdf_eq_iff ps hnn htot _ (grid_point_mem hjN).1 (grid_point_mem hjN).2 k hk

theorem inverseCdf_grid_frequency_lt (ps : List Rat) (hnn : ∀ p ∈ ps, 0 ≤ p) (htot : 0 < ps.sum)
    (k : Nat) (hk : k < ps.length) (N : Nat) (hN : 0 < N) :
    |(gridCount ps N k : Rat) / N - ps.getD k 0 / ps.sum| < 1 / N := by
  have ha : 0 ≤ cum ps k / ps.sum := div_nonneg (sum_take_nonneg ps hnn k) htot.le
  have hpk : 0 ≤ ps.getD k 0 := by
    rw [List.getD_eq_getElem ps 0 hk]; exact hnn _ (List.getElem_mem hk)
  have hab : cum ps k / ps.sum ≤ cum ps (k + 1) / ps.sum := by
    rw [cum_succ ps k hk]
    exact div_le_div_of_nonneg_right (le_add_of_nonneg_right hpk) htot.le
  have hb : cum ps (k + 1) / ps.sum ≤ 1 := by
    rw [div_le_one htot]; exact sum_take_le_sum ps hnn (k + 1)
  have hcount : gridCount ps N k =
      ⌈cum ps (k + 1) / ps.sum * N⌉₊ - ⌈cum ps k / ps.sum * N⌉₊ := by
    rw [← grid_count_Ico N hN _ _ hb]
    unfold gridCount
    congr 1
    apply List.filter_congr
    intro j hj
    exact decide_eq_decide.mpr (inverseCdf_grid_eq_iff ps hnn htot k hk (List.mem_range.mp hj))
  have hdiff : ps.getD k 0 / ps.sum = cum ps (k + 1) / ps.sum - cum ps k / ps.sum := by
    rw [cum_succ ps k hk, add_div, add_sub_cancel_left]
  rw [hcount, hdiff]
  exact ceil_sub_ceil_bound N hN _ _ ha hab

theorem inverseCdf_grid_frequency (ps : List Rat) (hnn : ∀ p ∈ ps, 0 ≤ p) (htot : 0 < ps.sum)
    (k : Nat) (hk : k < ps.length) (N : Nat) (hN : 0 < N) :
    |(gridCount ps N k : Rat) / N - ps.getD k 0 / ps.sum| ≤ 1 / N :=
  (inverseCdf_grid_frequency_lt ps hnn htot k hk N hN).le

/-- non-vacuity: weights 1/4, 0, 3/4 on the grid of 8 points: counts 2, 0, 6 -/
example : (∀ p ∈ ([1/4, 0, 3/4] : List Rat), 0 ≤ p) ∧ 0 < ([1/4, 0, 3/4] : List Rat).sum ∧
    gridCount [1/4, 0, 3/4] 8 0 = 2 ∧ gridCount [1/4, 0, 3/4] 8 1 = 0 ∧
    gridCount [1/4, 0, 3/4] 8 2 = 6 := by
  refine ⟨by intro p hp; simp at hp; rcases hp with h | h | h <;> rw [h] <;> norm_num,
    by norm_num, by decide +kernel, by decide +kernel, by decide +kernel⟩

/-- … and a grid on which the frequency is not exact: 7 points, index 0 gets 2/7 ≠ 1/4 but
`|2/7 - 1/4| = 1/28 < 1/7` -/
example : gridCount [1/4, 0, 3/4] 7 0 = 2 ∧
    |((2 : Nat) : Rat) / (7 : Nat) - (1/4) / (([1/4, 0, 3/4] : List Rat).sum)| < 1 / (7 : Nat) := by
  refine ⟨by decide +kernel, ?_⟩
  norm_num [abs_lt]

end LW.Proofs.C07
