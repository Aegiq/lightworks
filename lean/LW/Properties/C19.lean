/-
  C19 — Any constructible circuit can be displayed, without side effects.

  `Disp.display` (LW.Model.Display) is the model of `lightworks.Display(circuit, display_loss,
  mode_labels, display_type, show_parameter_values)`: option validation, the mode-label
  bookkeeping and the position arithmetic of both drawing back-ends on the per-mode location
  arrays, with Python's failure modes explicit — `Err.other` = IndexError (an index outside a
  location array), `Err.value` = ValueError (`max()` over an empty slice), `Err.display` =
  DisplayError.  `Disp.WF c` is the invariant of the circuit object the theorems need, a structure of
  its own: some fields repeat hypotheses of C02's `Circ.WF` (`wf_of_bookkeeping`), the others say at
  least one mode, external heralds and group boxes / group heralds inside the circuit, no 0×0 unitary
  block, beam splitters on two different modes; it is proved to hold of every object built by any
  history of API calls (`constructible_wf`), it is decidable, and the check also evaluates it on the
  model circuit of every displayed object.

  All statements are for every circuit (any number of modes, any spec, groups and heralds
  anywhere), every option record and both back-ends.  Helper lemmas: LW/Proofs/C19*.lean.
-/
import LW.Proofs.C19Built

namespace LW.C19

open LW.Disp

variable {K : Type}

/-- a concrete circuit object with every component kind: beam splitter, loss, a heralded group
next to an ancilla mode, an empty and a non-empty barrier, a swap, a unitary block, external
heralds with input mode ≠ output mode -/
def exampleCirc : Circ Nat :=
  { n := 5,
    spec := [.prim (.bs 0 1 0 0 .rx), .prim (.loss 0 0 0),
             .group [.ps 2 0, .bs 1 3 0 0 .h] 1 3 [(1, 1)] [(1, 1)],
             .prim (.barrier []), .prim (.barrier [0, 4]), .prim (.swaps [(0, 1), (1, 0)]),
             .prim (.unitary 3 ⟨2, #[#[1, 0], #[0, 1]]⟩), .prim (.ps 4 0)],
    inHer := [(2, 1), (4, 0)], outHer := [(2, 1), (0, 0)], extIn := [(4, 0)], extOut := [(0, 0)],
    internal := [2] }

/-- Option validation (decision): on a circuit satisfying the invariant, `Display` raises
`DisplayError` exactly when the display type is neither "svg" nor "mpl" or a label list is given
whose length is not the number of usable modes (`n_modes − #ancilla modes`) — for the matplotlib
back-end this check runs only after the whole circuit has been placed, so the statement rests on
the index safety below. -/
theorem display_options_decision (c : Circ K) (o : Opts) (hw : WF c) :
    display c o = .error .display ↔ BadOpts c o :=
  Disp.display_options_decision c o hw

example : WF exampleCirc ∧ BadOpts exampleCirc { dtype := "mpl", labels := some ["a", "b", "c"] } ∧
    BadOpts exampleCirc { dtype := "png" } := by
  refine ⟨by decide, Or.inr ⟨_, rfl, by decide⟩, Or.inl (by decide)⟩

/-- Displayability: with a known display type and no label list or one of the right length —
whatever `display_loss` and `show_parameter_values` — both back-ends return a drawing. -/
theorem display_total (c : Circ K) (o : Opts) (hw : WF c) (hg : ¬ BadOpts c o) :
    ∃ out, display c o = .ok out :=
  Disp.display_good c o hw hg

example : WF exampleCirc ∧
    ¬ BadOpts exampleCirc { dtype := "mpl", displayLoss := true, labels := some ["a", "b", "c", "d"] } := by
  refine ⟨by decide, ?_⟩
  rw [not_bad_iff]
  refine ⟨Or.inr rfl, ?_⟩
  intro l hl
  cases hl
  decide

/-- the only exception `Display` can raise on such a circuit is `DisplayError` -/
theorem display_raises_only_display_error (c : Circ K) (o : Opts) (hw : WF c) (e : Err)
    (h : display c o = .error e) : e = .display := by
  rcases display_cases c o hw with ⟨-, e'⟩ | ⟨-, out, e'⟩
  · exact Except.error.inj (h.symm.trans e')
  · exact nomatch h.symm.trans e'

/-- Index safety: no read or write of `x_locations` / `y_locations` / the label list, by any
component of either back-end, is out of range (the model never raises IndexError). -/
theorem display_indices_in_range (c : Circ K) (o : Opts) (hw : WF c) :
    display c o ≠ .error .other :=
  fun h => absurd (display_raises_only_display_error c o hw _ h) (by decide)

/-- Non-empty `max()`: every `max(...)` of either back-end — over the slice of `x_locations`
spanned by a beam splitter, unitary block, swap or group, over the modes of a barrier, over all
modes, over the label lengths — is taken over a non-empty sequence (no ValueError). -/
theorem max_nonempty (c : Circ K) (o : Opts) (hw : WF c) :
    display c o ≠ .error .value :=
  fun h => absurd (display_raises_only_display_error c o hw _ h) (by decide)

example : WF exampleCirc := by decide

/-- Index safety, per component: on location arrays of length `n`, `_add(spec)` of either
back-end, with or without loss display, succeeds on a component satisfying `CompOk n` and returns
a location array of length `n` (so the next component finds the same situation). -/
theorem component_step_safe (n : Nat) (b : Backend) (displayLoss : Bool) (ys xs : List Rat)
    (herald : List Nat) (comp : Comp K) (hy : ys.length = n) (hx : xs.length = n)
    (hc : CompOk n comp) :
    ∃ xs', addComp b displayLoss ys herald xs comp = .ok xs' ∧ xs'.length = n :=
  Disp.addComp_ok b displayLoss herald comp hy hx hc

-- the list is `ysOf 125 125 75 [2] 5`, the svg rows of five modes with an ancilla on mode 2
example : CompOk 5 (.group [.ps 2 0] 3 1 [(1, 1)] [(2, 0)] : Comp Nat) ∧
    ([125, 250, 325, 400, 525] : List Rat).length = 5 := by decide

/-- the invariant follows from what C02's `Circ.WF` gives (`inLt`, `intNodup`, the first half of
`intHer`, `modesLt` read with the display model's `compModes` for `Comp.modes`) and the facts that
`Circ.WF` does not record -/
theorem wf_of_bookkeeping (c : Circ K)
    (inLt : ∀ k ∈ c.inHer.keys, k < c.n)
    (intNodup : c.internal.Nodup)
    (intHer : ∀ a ∈ c.internal, (c.inHer.get? a).isSome)
    (modesLt : ∀ comp ∈ c.spec, ∀ m ∈ compModes comp, m < c.n)
    (pos : 0 < c.n)
    (extInLt : ∀ k ∈ c.extIn.keys, k < c.n)
    (extOutLt : ∀ k ∈ c.extOut.keys, k < c.n)
    (shape : ∀ comp ∈ c.spec, ShapeOk c.n comp) : WF c :=
  { pos := pos
    intNodup := intNodup
    intLt := fun a ha => inLt a (Proofs.C02.get?_isSome_iff.mp (intHer a ha))
    extInLt := extInLt
    extOutLt := extOutLt
    compOk := fun comp hc => compOk_of_modes comp (modesLt comp hc) (shape comp hc) }

example : (∀ k ∈ exampleCirc.inHer.keys, k < exampleCirc.n) ∧ exampleCirc.internal.Nodup ∧
    (∀ a ∈ exampleCirc.internal, (exampleCirc.inHer.get? a).isSome) := by decide

/-- Constructible ⇒ invariant: every object of a pool built from nothing by ANY history of API
calls (`heapRun`, LW.Model.Heap: `Circuit(n)`, `Unitary(u)`, `bs`, `ps`, `loss`, `barrier`,
`mode_swaps`, `herald`, `add` — grouped or not, heralded or not, onto parents that already hold
ancilla modes, at any nesting —, `+`, `copy`, `unpack_groups`, `compress_mode_swaps`,
`remove_non_adjacent_bs`; accepted or rejected, in any order, on any number of objects) whose
constructors make at least one mode satisfies `Disp.WF`. -/
theorem constructible_wf [Zero K] [One K] (ops : List (CircOp K)) (h : Heap K)
    (rs : List Outcome) (hc : ∀ op ∈ ops, OpSane op) (hr : heapRun [] ops = some (h, rs)) :
    ∀ id c, h.get? id = some c → WF c :=
  fun id c hx => (heapRun_built (Heap.All.nil Built) hc hr id c hx).wf

/-- C19 on the model, end to end: whatever the history of API calls, every object of the pool is
displayed by both back-ends for every valid option record (with or without loss display and
parameter values, with no label list or one of the right length), and `DisplayError` is raised
exactly for an unknown display type or a label list of the wrong length. -/
theorem constructible_display [Zero K] [One K] (ops : List (CircOp K)) (h : Heap K)
    (rs : List Outcome) (hc : ∀ op ∈ ops, OpSane op) (hr : heapRun [] ops = some (h, rs))
    (id : String) (c : Circ K) (hx : h.get? id = some c) (o : Opts) :
    (BadOpts c o → display c o = .error .display) ∧
      (¬ BadOpts c o → ∃ out, display c o = .ok out) :=
  have hw := constructible_wf ops h rs hc hr id c hx
  ⟨display_bad c o hw, display_good c o hw⟩

/-- a history with a heralded sub-circuit (input mode ≠ output mode) added twice — the second
time over the ancilla of the first —, a rejected call, a rewrite and an unpacked copy -/
example : ∃ h rs, heapRun ([] : Heap Nat)
    [.new "s" 3, .bs "s" 0 2 (0, 0) .rx none true true, .herald "s" 1 2 0,
     .new "c" 4, .add "c" "s" 1 false, .barrier "c" (some []), .add "c" "s" 0 true,
     .bs "c" 0 9 (0, 0) .rx none true true, .nonadj "c", .copy "d" "c", .unpack "d"] = some (h, rs) ∧
    rs = [none, none, none, none, none, none, none, some .modeRange, none, none, none] ∧
    (h.get? "c").map (·.n) = some 6 :=
  ⟨_, _, rfl, rfl, rfl⟩

/-- the insertion of an empty mode — how `Circuit.add` makes room for a new
ancilla in the parent and for a pass-through mode in the added circuit, including the
re-indexing of group boxes and of the heralds drawn on them — keeps every component drawable on
the enlarged circuit -/
theorem empty_mode_insertion_keeps_drawable [Zero K] [One K] (n mode : Nat) (comp : Comp K)
    (h : CompOk n comp) : CompOk (n + 1) (comp.addEmptyMode mode) :=
  Disp.compOk_addEmptyMode mode comp h

example : CompOk 4 (.group [] 1 3 [(1, 1)] [(2, 1)] : Comp Nat) ∧
    (Comp.addEmptyMode 2 (.group [] 1 3 [(1, 1)] [(2, 1)] : Comp Nat)) =
      .group [] 1 4 [(2, 1)] [(3, 1)] := by
  refine ⟨by decide, rfl⟩

/-- shifting the added circuit to its position (the other relabelling of `Circuit.add`) keeps every
component drawable -/
theorem shift_keeps_drawable (n k : Nat) (comp : Comp K) (h : CompOk n comp) :
    CompOk (n + k) (comp.shift k) :=
  Disp.compOk_shift k comp h

example : CompOk 3 (.prim (.swaps [(0, 2), (2, 0)]) : Comp Nat) := by decide

/-- No side effects: `Display` as an operation on the pool of live circuit objects hands back
the pool it was given, whether it returns a drawing or raises (the back-ends work on
`_get_circuit_spec()`, a deep copy; the check compares every live object of the implementation
before and after). -/
theorem display_leaves_pool_unchanged (h h' : Heap K) (id : String) (o : Opts)
    (r : Except Err Out) (hs : displayStep h id o = some (h', r)) : h' = h := by
  obtain ⟨c, -, hs⟩ := Option.map_eq_some_iff.mp hs
  exact (congrArg Prod.fst hs).symm

example : ∃ r, displayStep [("c", exampleCirc)] "c" {} = some ([("c", exampleCirc)], r) :=
  ⟨_, rfl⟩

/-- F12 (regression document): on the code as pinned the svg back-end takes `max()` over the
modes of a barrier without the early return, so `Circuit(2); barrier([])` — a circuit satisfying
the invariant — cannot be displayed; the repaired model displays it. -/
theorem F12_pinned_counterexample :
    WF ({ n := 2, spec := [.prim (.barrier [])] } : Circ Nat) ∧
    displayPinned ({ n := 2, spec := [.prim (.barrier [])] } : Circ Nat) {} = .error .value ∧
    ∃ out, display ({ n := 2, spec := [.prim (.barrier [])] } : Circ Nat) {} = .ok out :=
  ⟨by decide, rfl, display_good _ _ (by decide)
    ((not_bad_iff _ _).mpr ⟨Or.inl rfl, fun l hl => nomatch hl⟩)⟩

/-- the hypothesis `0 < n` of the invariant is needed: a zero-mode circuit (`Circuit(0)` is
accepted by the constructor) makes both back-ends take `max()` of an empty sequence -/
theorem zero_mode_counterexample :
    display (Circ.new 0 : Circ Nat) {} = .error .value ∧
    display (Circ.new 0 : Circ Nat) { dtype := "mpl" } = .error .value :=
  ⟨rfl, rfl⟩

end LW.C19
