/-
  LW.Proofs.C02AddShape — an accepted `Circuit.add` in closed form.  Empty modes are inserted into
  the parent at `ancPos` and into the added circuit at `ptTargets`, both lists computed from the
  bookkeeping alone; the added components are then shifted to the insertion point and appended.
-/
import LW.Proofs.C02AddSub
namespace LW.Proofs.C02
open LW.Proofs.C02Sem (bumps bumps_of_lt bumps_inj le_bumps bumps_le bumps_not_mem)
variable {K : Type}

section
variable [Zero K] [One K]

/-! ### `_add_empty_mode` at the positions `ks`, first to last -/

def Prim.ins (ks : List Nat) (p : Prim K) : Prim K := ks.foldl (fun p k => p.addEmptyMode k) p

def Comp.ins (ks : List Nat) (c : Comp K) : Comp K := ks.foldl (fun c k => c.addEmptyMode k) c

def insBook (ks : List Nat) (c : Circ K) : Circ K := ks.foldl (fun c k => c.addEmptyModeBook k) c

def insSt (ks : List Nat) (st : Circ.AddSt K) : Circ.AddSt K :=
  ⟨insBook ks st.sub, st.spec.map (Comp.ins ks)⟩

theorem map_ins_cons (k : Nat) (ks : List Nat) (spec : List (Comp K)) :
    spec.map (Comp.ins (k :: ks)) = (Circ.addEmptyModeSpec spec k).map (Comp.ins ks) := by
  rw [Circ.addEmptyModeSpec, List.map_map]; rfl

theorem insSt_nil (st : Circ.AddSt K) : insSt [] st = st :=
  congrArg (Circ.AddSt.mk st.sub) (List.map_id' st.spec)

theorem foldl_addEmptyModeSpec (ks : List Nat) (spec : List (Comp K)) :
    ks.foldl (fun s k => Circ.addEmptyModeSpec s k) spec = spec.map (Comp.ins ks) := by
  induction ks generalizing spec with
  | nil => exact (List.map_id' _).symm
  | cons k ks ih => rw [List.foldl_cons, ih, map_ins_cons]

theorem Comp.toPrims_ins (ks : List Nat) (c : Comp K) :
    (Comp.ins ks c).toPrims = c.toPrims.map (Prim.ins ks) := by
  induction ks generalizing c with
  | nil => exact (List.map_id' _).symm
  | cons k ks ih =>
    show (Comp.ins ks (c.addEmptyMode k)).toPrims = _
    rw [ih, Comp.toPrims_addEmptyMode, List.map_map]; rfl

theorem flattenSpec_map_ins (ks : List Nat) (spec : List (Comp K)) :
    flattenSpec (spec.map (Comp.ins ks)) = (flattenSpec spec).map (Prim.ins ks) :=
  flattenSpec_map_of_toPrims _ _ (Comp.toPrims_ins ks) spec

theorem forall_map_ins {P : Nat → Comp K → Prop}
    (step : ∀ {n c}, P n c → ∀ t, P (n + 1) (c.addEmptyMode t)) (ks : List Nat) {n : Nat}
    {spec : List (Comp K)} (h : ∀ c ∈ spec, P n c) :
    ∀ c ∈ spec.map (Comp.ins ks), P (n + ks.length) c := by
  induction ks generalizing n spec with
  | nil => exact (List.map_id' spec).symm ▸ h
  | cons k ks ih =>
    rw [map_ins_cons, List.length_cons, Nat.add_comm ks.length, ← Nat.add_assoc]
    refine ih fun c hc => ?_
    obtain ⟨c0, h0, rfl⟩ := List.mem_map.mp hc
    exact step (h c0 h0) k

omit [Zero K] [One K] in
theorem insBook_eq (ks : List Nat) (c : Circ K) :
    insBook ks c =
      { n := c.n + ks.length, spec := c.spec, inHer := insDict ks c.inHer, outHer := insDict ks c.outHer
        extIn := insDict ks c.extIn, extOut := insDict ks c.extOut, internal := c.internal.map (bumps ks) } := by
  induction ks generalizing c with
  | nil => simp [insBook, insDict, show bumps [] = id from rfl]
  | cons k ks ih =>
    show insBook ks (c.addEmptyModeBook k) = _
    rw [ih]
    simp only [Circ.addEmptyModeBook, List.map_map, List.length_cons, Nat.add_assoc, Nat.add_comm 1]
    rfl

omit [Zero K] [One K] in
@[simp] theorem insBook_n (ks : List Nat) (c : Circ K) : (insBook ks c).n = c.n + ks.length := by
  rw [insBook_eq]

theorem SubInv.ins {h : Nat} (ts : List Nat) {st : Circ.AddSt K} (inv : SubInv h st) :
    SubInv h (insSt ts st) := by
  have e : (insSt ts st).sub.inHer = Dict.mapKeys (bumps ts) st.sub.inHer :=
    (congrArg Circ.inHer (insBook_eq ts st.sub)).trans (insDict_of_nodup inv.nodup ts)
  have en : (insSt ts st).sub.n = st.sub.n + ts.length := insBook_n ts st.sub
  refine ⟨?_, ?_, ?_, ?_⟩
  · rw [e, keys_mapKeys]; exact nodup_map_of_inj (fun a b => bumps_inj ts) inv.nodup
  · rw [e, length_mapKeys]; exact inv.len
  · rw [e, keys_mapKeys, en]
    intro k hk
    obtain ⟨a, ha, rfl⟩ := List.mem_map.mp hk
    exact Nat.lt_of_le_of_lt (bumps_le ts a) (Nat.add_lt_add_right (inv.lt a ha) _)
  · rw [en]
    exact forall_map_ins (P := fun n c => ∀ m ∈ c.modes, m < n)
      (fun h t => Comp.modes_addEmptyMode_lt t _ _ h) ts inv.modes

theorem SubInv.insert {h : Nat} {st : Circ.AddSt K} (inv : SubInv h st) (t : Nat) :
    SubInv h { sub := st.sub.addEmptyModeBook t, spec := Circ.addEmptyModeSpec st.spec t } :=
  inv.ins [t]

omit [Zero K] [One K] in
theorem SubInv.len_le {h : Nat} {st : Circ.AddSt K} (inv : SubInv h st) : h ≤ st.sub.n := by
  have := length_le_of_nodup_lt _ _ inv.nodup inv.lt
  rwa [Dict.keys, List.length_map, inv.len] at this

omit [Zero K] [One K] in
theorem insBook_inHer_nil (ks : List Nat) {c : Circ K} (h : c.inHer = []) : (insBook ks c).inHer = [] := by
  rw [insBook_eq]
  show insDict ks c.inHer = []
  rw [h, insDict_of_nodup (d := []) List.nodup_nil]
  rfl

/-- the positions at which the pass-through loop inserts an empty mode into an added circuit with
`n` modes and input heralds `H`, for the parent's ancilla modes `l` -/
def ptTargets (mode : Nat) : List Nat → Nat → Dict → List Nat
  | [], _, _ => []
  | i :: l, n, H =>
    if 0 ≤ targetOf H.keys ((i : Int) - (mode : Int)) ∧
        targetOf H.keys ((i : Int) - (mode : Int)) < (n : Int) then
      (targetOf H.keys ((i : Int) - (mode : Int))).toNat ::
        ptTargets mode l (n + 1) (bumpDict (targetOf H.keys ((i : Int) - (mode : Int))).toNat H)
    else ptTargets mode l n H

theorem ptFold_eq (mode : Nat) (l : List Nat) (st : Circ.AddSt K) :
    l.foldl (ptStep mode) st = insSt (ptTargets mode l st.sub.n st.sub.inHer) st := by
  induction l generalizing st with
  | nil => exact (insSt_nil st).symm
  | cons i l ih =>
    rw [List.foldl_cons, ih]
    rcases ptStep_cases mode st i with ⟨e, hc⟩ | ⟨e, hc⟩
    · rw [e, ptTargets, if_neg hc]
    · rw [e, ptTargets, if_pos hc]
      exact congrArg (Circ.AddSt.mk _) (map_ins_cons ..).symm

theorem ptTargets_cons_ptStep (mode i : Nat) (l : List Nat) (st : Circ.AddSt K) :
    ptTargets mode (i :: l) st.sub.n st.sub.inHer =
      ptTargets mode [i] st.sub.n st.sub.inHer ++
        ptTargets mode l (ptStep mode st i).sub.n (ptStep mode st i).sub.inHer := by
  rcases ptStep_cases mode st i with ⟨e, hc⟩ | ⟨e, hc⟩
  · simp only [ptTargets, if_neg hc, e, List.nil_append]
  · simp only [ptTargets, if_pos hc, e, List.cons_append, List.nil_append]
    rfl

/-- What the new-ancilla loop has done to the parent `c0` after the positions `P`: the old modes are
relabelled by `f`.  The only instance is `ancInv_fold`, at `f = bumps …`; `f` is a variable so that
`addFinal_props` can forget how it is computed and use just these fields: it is injective, moves a
mode up by at most `P.length`, and avoids the inserted modes `mode + m`. -/
structure AncInv (c0 : Circ K) (mode : Nat) (P : List Nat) (s : Circ K) (f : Nat → Nat) : Prop where
  n_eq : s.n = c0.n + P.length
  inj : ∀ a b, f a = f b → a = b
  le : ∀ a, a ≤ f a
  le' : ∀ a, f a ≤ a + P.length
  avoid : ∀ a, ∀ m ∈ P, f a ≠ mode + m
  inHer : s.inHer = Dict.mapKeys f c0.inHer
  outHer : s.outHer = Dict.mapKeys f c0.outHer
  internal : s.internal = c0.internal.map f ++ P.map (mode + ·)
  modes : ∀ c ∈ s.spec, ∀ m ∈ c.modes, m < s.n

/-- the ancilla list after the new-ancilla loop has inserted the modes `A`, first to last -/
def ancInt (A I : List Nat) : List Nat := A.foldl (fun I k => I.map (bump k) ++ [k]) I

omit [Zero K] [One K] in
theorem ancInt_sorted {A : List Nat} (hA : A.Pairwise (· < ·)) (I : List Nat) :
    ancInt A I = I.map (bumps A) ++ A := by
  induction A generalizing I with
  | nil => simp [ancInt, show bumps [] = id from rfl]
  | cons k A ih =>
    -- the position just inserted lies below all later ones
    have hk : bumps A k = k := bumps_of_lt _ _ fun a ha => List.rel_of_pairwise_cons hA ha
    show ancInt A (I.map (bump k) ++ [k]) = _
    rw [ih hA.of_cons, List.map_append, List.map_map, List.map_singleton, hk, List.append_assoc]
    rfl

theorem ancFold_closed (mode : Nat) (L : List Nat) (s : Circ K) :
    L.foldl (ancStep mode) s =
      { insBook (L.map (mode + ·)) s with
        spec := s.spec.map (Comp.ins (L.map (mode + ·)))
        internal := ancInt (L.map (mode + ·)) s.internal } := by
  induction L generalizing s with
  | nil => simp [insBook, ancInt, show Comp.ins (K := K) [] = id from rfl]
  | cons m L ih =>
    rw [List.foldl_cons, ih, insBook_eq, insBook_eq]
    simp only [ancStep, Circ.addEmptyModeBook, List.map_cons, List.length_cons, List.map_map,
      insDict, ancInt, List.foldl_cons, Circ.addEmptyModeSpec, Nat.add_assoc, Nat.add_comm 1]
    rfl

theorem ancInv_fold {self : Circ K} (hwf : self.WF) (mode : Nat) {L : List Nat}
    (hL : L.Pairwise (· < ·)) :
    AncInv self mode L (L.foldl (ancStep mode) self) (bumps (L.map (mode + ·))) := by
  have hks : (L.map (mode + ·)).Pairwise (· < ·) :=
    List.pairwise_map.mpr (hL.imp fun h => Nat.add_lt_add_left h mode)
  rw [ancFold_closed mode L, insBook_eq, List.length_map, ancInt_sorted hks]
  refine ⟨rfl, fun _ _ => bumps_inj _, le_bumps _, fun a => ?_, fun a m hm => ?_,
    insDict_of_nodup hwf.inNodup _, insDict_of_nodup hwf.outNodup _, rfl, ?_⟩
  · have := bumps_le (L.map (mode + ·)) a; rwa [List.length_map] at this
  · exact fun e => bumps_not_mem _ hks a (e ▸ List.mem_map_of_mem hm)
  · rw [← List.length_map (f := (mode + ·))]
    exact forall_map_ins (P := fun n c => ∀ m ∈ c.modes, m < n)
      (fun h t => Comp.modes_addEmptyMode_lt t _ _ h) _ hwf.modesLt

end

/-- the positions at which the parent receives the heralded modes `H` of the added circuit -/
def ancPos (mode : Nat) (H : Dict) : List Nat := (sortNat H.keys).map (mode + ·)

theorem ancPos_length (mode : Nat) (H : Dict) : (ancPos mode H).length = H.length := by
  rw [ancPos, List.length_map, length_sortNat]; exact List.length_map _

theorem flattenSpec_addedComps (st : Circ.AddSt K) (mode : Nat) (grouped : Bool) :
    flattenSpec (addedComps st mode grouped) = (flattenSpec st.spec).map (Prim.shift mode) := by
  rw [← flattenSpec_shift]
  cases grouped
  · rfl
  · exact List.append_nil _

theorem addedComps_modes {h : Nat} (st : Circ.AddSt K) (inv : SubInv h st) (mode : Nat) (grouped : Bool) :
    ∀ x ∈ addedComps st mode grouped, ∀ m ∈ x.modes, mode ≤ m ∧ m < st.sub.n + mode := by
  have hsh : ∀ x ∈ st.spec.map (Comp.shift mode), ∀ m ∈ x.modes, mode ≤ m ∧ m < st.sub.n + mode := by
    intro x hx m hm
    obtain ⟨c, hc, rfl⟩ := List.mem_map.mp hx
    exact ⟨Comp.modes_shift_ge mode c m hm, Comp.modes_shift_lt mode st.sub.n c (inv.modes c hc) m hm⟩
  unfold addedComps
  split
  · exact hsh
  · intro x hx m hm
    rw [List.mem_singleton.mp hx] at hm
    obtain ⟨p, hp, hm⟩ := List.mem_flatMap.mp hm
    obtain ⟨c, hc, hp⟩ := List.mem_flatMap.mp hp
    exact hsh c hc m (Comp.mem_modes.mpr ⟨p, hp, hm⟩)

section
variable [Zero K] [One K]

/-- a herald dictionary of the parent after the herald loop has entered the heralds `H` of the added
circuit at the insertion point -/
def herSet (mode : Nat) (H d : Dict) : Dict :=
  (H.map fun p => (p.1 + mode, p.2)).foldl (fun d p => d.set p.1 p.2) d

theorem addFinal_record (self : Circ K) (st : Circ.AddSt K) (mode : Nat) (g : Bool) :
    addFinal self st mode g =
      { n := self.n + st.sub.inHer.length
        spec := self.spec.map (Comp.ins (ancPos mode st.sub.inHer)) ++ addedComps st mode g
        inHer := herSet mode st.sub.inHer (insDict (ancPos mode st.sub.inHer) self.inHer)
        outHer := herSet mode st.sub.inHer (insDict (ancPos mode st.sub.inHer) self.outHer)
        extIn := insDict (ancPos mode st.sub.inHer) self.extIn
        extOut := insDict (ancPos mode st.sub.inHer) self.extOut
        internal := ancInt (ancPos mode st.sub.inHer) self.internal } := by
  unfold addFinal
  simp only [herFold_eq]
  rw [ancFold_closed, insBook_eq, ← ancPos, ancPos_length]
  rfl

theorem addFinal_shape (self : Circ K) (st : Circ.AddSt K) (mode : Nat) (g : Bool) :
    (addFinal self st mode g).n = self.n + st.sub.inHer.length ∧
    (addFinal self st mode g).spec =
      self.spec.map (Comp.ins (ancPos mode st.sub.inHer)) ++ addedComps st mode g := by
  rw [addFinal_record]
  exact ⟨rfl, rfl⟩

/-- the circuit that is inserted, with the swap returning its heralds, after empty modes have been
inserted at `ts` -/
def subIns (sub : Circ K) (g : Bool) (ts : List Nat) : Circ.AddSt K :=
  insSt ts ⟨(pick sub g).1, swapSpec (pick sub g).1⟩

theorem subIns_n (sub : Circ K) (g : Bool) (ts : List Nat) : (subIns sub g ts).sub.n = sub.n + ts.length := by
  rw [subIns, insSt, insBook_n, (pick_props sub g).1]

theorem subInv_subIns {sub : Circ K} (hsub : sub.WF) (g : Bool) (ts : List Nat) :
    SubInv sub.inHer.length (subIns sub g ts) :=
  (SubInv.init sub hsub g).ins ts

theorem add_eq_ins (self sub : Circ K) (m : Int) (g : Bool) :
    self.add sub m g = (self.modeInRange (self.mapMode m)).bind fun mode =>
      if mode + sub.n - sub.inHer.length > self.n then .error .modeRange
      else if mode + (sub.n + (ptTargets mode (sortNat self.internal) sub.n sub.inHer).length)
          - sub.inHer.length > self.n then .error .modeRange
      else .ok (addFinal self (subIns sub g (ptTargets mode (sortNat self.internal) sub.n sub.inHer))
        mode (pick sub g).2) := by
  obtain ⟨pn, pin, -⟩ := pick_props sub g
  rw [add_eq]
  congr 1
  funext mode
  unfold addTail
  rw [ptFold_eq]
  simp only [subIns, insSt, insBook_n, pn, pin]

theorem add_ok_ins {self sub self' : Circ K} {m : Int} {g : Bool} (h : self.add sub m g = .ok self') :
    ∃ mode ts, self.modeInRange (self.mapMode m) = .ok mode ∧
      ts = ptTargets mode (sortNat self.internal) sub.n sub.inHer ∧
      mode + (sub.n + ts.length) - sub.inHer.length ≤ self.n ∧
      self' = addFinal self (subIns sub g ts) mode (pick sub g).2 := by
  simp only [add_eq_ins, Except.bind_eq_ok, Except.ite_error_eq_ok, Except.ok.injEq] at h
  obtain ⟨mode, hm, -, h2, rfl⟩ := h
  exact ⟨mode, _, hm, rfl, Nat.le_of_not_gt h2, rfl⟩

theorem add_shape_wf {self sub self' : Circ K} {m : Int} {g : Bool} (hsub : sub.WF)
    (h : self.add sub m g = .ok self') :
    ∃ mode ts, mode < self.n ∧
      ts = ptTargets mode (sortNat self.internal) sub.n sub.inHer ∧
      self'.n = self.n + sub.inHer.length ∧
      mode + (sub.n + ts.length) ≤ self'.n ∧
      self'.spec = self.spec.map (Comp.ins (ancPos mode (subIns sub g ts).sub.inHer)) ++
        addedComps (subIns sub g ts) mode (pick sub g).2 := by
  obtain ⟨mode, ts, hm, hts, hfit, rfl⟩ := add_ok_ins h
  have inv := subInv_subIns hsub g ts
  have hle := inv.len_le
  rw [subIns_n] at hle
  obtain ⟨hn, hsp⟩ := addFinal_shape self (subIns sub g ts) mode (pick sub g).2
  rw [inv.len] at hn
  exact ⟨mode, ts, Circ.modeInRange_lt hm, hts, hn, by omega, hsp⟩

end

end LW.Proofs.C02
