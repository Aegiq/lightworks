/-
  LW.Proofs.C12Inst — the executable body of `convert_correct_statement` for one circuit over an
  exact tower; LW/Properties/C12Inst.lean evaluates it on two concrete circuits.
-/
import LW.Model.QConvertSem
import LW.Model.GateTowers

namespace LW.QC

open LW.Gates LW.QF

section
variable {K : Type} [Add K] [Mul K] [Neg K] [Zero K] [One K] [Eqv K]

/-- the scalar, existential in the statement, is the argument `k` -/
def convertCorrectB (c : GC K) (par : Nat → K × K) (aps : Bool) (nq : Nat) (gs : List Instr) (k : K) : Bool :=
  match convert aps true nq gs with
  | .error _ => false
  | .ok o =>
    match buildCirc c par nq o.plan with
    | .error _ => false
    | .ok circ =>
      (circ.n - circ.inHer.length == 2 * nq) &&
      (bitStrings nq).all fun ib => (fockStates (2 * nq) nq).all fun out =>
        !accepted o.psQubits out ||
        Eqv.eqv (gateAmp c.i circ (dualRail ib) out)
          (if isDualRail out then k * idealRun c par 0 gs (delta ib) (unDualRail out) else 0)
end

end LW.QC
