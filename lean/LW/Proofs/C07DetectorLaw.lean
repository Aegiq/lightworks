/-
  C07DetectorLaw — on an i.i.d. uniform tape the detected state
  has law `detectorKernel`.

  The real twin `detectorSampleR` reads the tape only through the tests `u > η` (efficiency stage)
  and `u < p_dark` (dark-count stage), i.e. through independent bits; the event "detected state = t"
  is a finite disjoint union of boxes, whose probabilities are computed by independence and summed
  by the bit-tape calculus of C07BitLaw.
-/
import Mathlib.Probability.Independence.Basic
import LW.Proofs.C07BitLaw
import LW.Proofs.C07StrongLaw

namespace LW.Proofs.C07

open MeasureTheory ProbabilityTheory

theorem wt_nonneg {w : ℝ} (h0 : 0 ≤ w) (h1 : w ≤ 1) (c : Bool) : 0 ≤ wt w c := by
  cases c
  · exact sub_nonneg.mpr h1
  · exact h0

def allBits : ℕ → Finset (List Bool)
  | 0 => {[]}
  | n + 1 => (allBits n).image (List.cons true) ∪ (allBits n).image (List.cons false)

theorem mem_allBits {n : ℕ} {b : List Bool} : b ∈ allBits n ↔ b.length = n := by
  induction n generalizing b with
  | zero => simp [allBits]
  | succ n ih =>
    simp only [allBits, Finset.mem_union, Finset.mem_image, ih]
    constructor
    · rintro (⟨a, ha, rfl⟩ | ⟨a, ha, rfl⟩) <;> simp [ha]
    · intro h
      cases b with
      | nil => simp at h
      | cons c b =>
        cases c
        · exact Or.inr ⟨b, by simpa using h, rfl⟩
        · exact Or.inl ⟨b, by simpa using h, rfl⟩

/-- weight of a bit pattern: bit `i` is true with probability `w i` -/
noncomputable def patW (w : ℕ → ℝ) (b : List Bool) : ℝ :=
  ∏ i ∈ Finset.range b.length, wt (w i) (b.getD i false)

theorem patW_cons (w : ℕ → ℝ) (c : Bool) (b : List Bool) :
    patW w (c :: b) = wt (w 0) c * patW (fun i => w (i + 1)) b := by
  unfold patW
  rw [List.length_cons, Finset.prod_range_succ', mul_comm]
  simp

theorem sum_allBits (n : ℕ) (w : ℕ → ℝ) (G : List Bool → ℝ) :
    ∑ b ∈ allBits n, patW w b * G b = C06.mix (bitLaw ((List.range n).map w)) G := by
  induction n generalizing w G with
  | zero => simp [allBits, patW, mix_bitLaw_nil]
  | succ n ih =>
    have hdisj : Disjoint ((allBits n).image (List.cons true))
        ((allBits n).image (List.cons false)) := by
      rw [Finset.disjoint_left]
      intro b hb1 hb2
      simp only [Finset.mem_image] at hb1 hb2
      obtain ⟨a, _, rfl⟩ := hb1
      obtain ⟨a', _, h⟩ := hb2
      simp at h
    rw [allBits, Finset.sum_union hdisj,
      Finset.sum_image (fun a _ b _ h => List.cons_injective h),
      Finset.sum_image (fun a _ b _ h => List.cons_injective h),
      List.range_succ_eq_map, List.map_cons, List.map_map, mix_bitLaw_cons]
    simp only [patW_cons, wt, if_true, Bool.false_eq_true, if_false, mul_assoc]
    rw [← Finset.mul_sum, ← Finset.mul_sum, ih, ih]
    rfl

theorem patW_nonneg (w : ℕ → ℝ) (h0 : ∀ i, 0 ≤ w i) (h1 : ∀ i, w i ≤ 1) (b : List Bool) :
    0 ≤ patW w b :=
  Finset.prod_nonneg fun i _ => wt_nonneg (h0 i) (h1 i) _

def side (A : Set ℝ) (c : Bool) : Set ℝ := if c then A else Aᶜ

theorem mem_side (A : Set ℝ) (c : Bool) (x : ℝ) [Decidable (x ∈ A)] :
    x ∈ side A c ↔ decide (x ∈ A) = c := by
  cases c <;> simp [side]

theorem measurableSet_side {A : Set ℝ} (hA : MeasurableSet A) (c : Bool) :
    MeasurableSet (side A c) := by
  cases c
  · exact hA.compl
  · exact hA

theorem uniform01_side {A : Set ℝ} (hA : MeasurableSet A) (c : Bool) :
    uniform01 (side A c) = ENNReal.ofReal (wt (uniform01 A).toReal c) := by
  cases c
  · rw [side, if_neg Bool.false_ne_true, wt, if_neg Bool.false_ne_true, prob_compl_eq_one_sub hA,
      ENNReal.ofReal_sub _ ENNReal.toReal_nonneg, ENNReal.ofReal_one,
      ENNReal.ofReal_toReal (measure_ne_top _ _)]
  · rw [side, if_pos rfl, wt, if_pos rfl, ENNReal.ofReal_toReal (measure_ne_top _ _)]

section indep
variable {Ω : Type*}

noncomputable def bitsOf (V : ℕ → Ω → ℝ) (A : ℕ → Set ℝ) (n : ℕ) (ω : Ω) : List Bool :=
  open Classical in (List.range n).map fun i => decide (V i ω ∈ A i)

theorem bitsOf_eq_iff (V : ℕ → Ω → ℝ) (A : ℕ → Set ℝ) (n : ℕ) (b : List Bool)
    (hb : b.length = n) :
    {ω | bitsOf V A n ω = b} = ⋂ i ∈ Finset.range n, (V i) ⁻¹' side (A i) (b.getD i false) := by
  classical
  ext ω
  simp only [Set.mem_ofPred_eq, Set.mem_iInter, Finset.mem_range, Set.mem_preimage, mem_side]
  constructor
  · intro h i hi
    rw [← h]
    simp [bitsOf, hi]
  · intro h
    refine List.ext_getElem (by simp [bitsOf, hb]) fun i _ h2 => ?_
    rw [← List.getD_eq_getElem _ false h2, ← h i (hb ▸ h2)]
    simp [bitsOf]

theorem length_bitsOf (V : ℕ → Ω → ℝ) (A : ℕ → Set ℝ) (n : ℕ) (ω : Ω) :
    (bitsOf V A n ω).length = n := by
  simp [bitsOf]

variable [MeasurableSpace Ω] {μ : Measure Ω}

/-- a bit pattern is an intersection of one event per variate, so its probability is the product -/
theorem measure_bitsOf_pattern (V : ℕ → Ω → ℝ) (hindep : iIndepFun V μ)
    (hlaw : ∀ i, Measure.map (V i) μ = uniform01) (A : ℕ → Set ℝ) (hA : ∀ i, MeasurableSet (A i))
    (n : ℕ) (b : List Bool) (hb : b.length = n) :
    μ {ω | bitsOf V A n ω = b} =
      ENNReal.ofReal (patW (fun i => (uniform01 (A i)).toReal) b) := by
  have hS : ∀ i, MeasurableSet (side (A i) (b.getD i false)) := fun i => measurableSet_side (hA i) _
  rw [bitsOf_eq_iff V A n b hb, hindep.meas_biInter (fun i _ => ⟨_, hS i, rfl⟩), patW, hb,
    ENNReal.ofReal_prod_of_nonneg fun i _ => wt_nonneg ENNReal.toReal_nonneg measureReal_le_one _]
  refine Finset.prod_congr rfl fun i _ => ?_
  rw [← Measure.map_apply_of_aemeasurable (aemeasurable_of_map_eq_uniform (V i) (hlaw i)) (hS i),
    hlaw i, uniform01_side (hA i)]

theorem nullMeasurableSet_bitsOf_eq (V : ℕ → Ω → ℝ)
    (hlaw : ∀ i, Measure.map (V i) μ = uniform01) (A : ℕ → Set ℝ) (hA : ∀ i, MeasurableSet (A i))
    (n : ℕ) (b : List Bool) (hb : b.length = n) :
    NullMeasurableSet {ω | bitsOf V A n ω = b} μ := by
  rw [bitsOf_eq_iff V A n b hb]
  exact Finset.nullMeasurableSet_biInter _ fun i _ =>
    (aemeasurable_of_map_eq_uniform (V i) (hlaw i)).nullMeasurableSet_preimage
      (measurableSet_side (hA i) _)

/-- any event about the bits has the probability given by the bit calculus -/
theorem measure_bitsOf (V : ℕ → Ω → ℝ) (hindep : iIndepFun V μ)
    (hlaw : ∀ i, Measure.map (V i) μ = uniform01) (A : ℕ → Set ℝ) (hA : ∀ i, MeasurableSet (A i))
    (n : ℕ) (G : List Bool → Prop) [DecidablePred G] :
    μ {ω | G (bitsOf V A n ω)} =
      ENNReal.ofReal (C06.mix (bitLaw ((List.range n).map fun i => (uniform01 (A i)).toReal))
        (fun b => ind (G b))) := by
  rw [measure_eq_sum_fibres (bitsOf V A n) (allBits n) (fun ω => mem_allBits.mpr (by simp [bitsOf]))
    (fun b hb => nullMeasurableSet_bitsOf_eq V hlaw A hA n b (mem_allBits.mp hb)) G,
    ← sum_allBits, Finset.sum_filter, ENNReal.ofReal_sum_of_nonneg fun b _ => mul_nonneg
      (patW_nonneg _ (fun _ => ENNReal.toReal_nonneg) (fun _ => measureReal_le_one) b)
      (by unfold ind; split <;> norm_num)]
  -- a pattern has probability `patW` by independence (`measure_bitsOf_pattern`)
  refine Finset.sum_congr rfl fun b hb => ?_
  by_cases hG : G b
  · rw [if_pos hG, ind, if_pos hG, mul_one]
    exact measure_bitsOf_pattern V hindep hlaw A hA n b (mem_allBits.mp hb)
  · rw [if_neg hG, ind, if_neg hG, mul_zero, ENNReal.ofReal_zero]

/-- a list over the positions of a tape whose first `a` entries are tested by `A`, the next `b` by
`B`, splits at `a` -/
theorem map_range_two_blocks {γ : Type*} (A B : Set ℝ) (a b : ℕ) (f : Set ℝ → ℕ → γ) :
    ((List.range (a + b)).map fun i => f (if i < a then A else B) i) =
      (List.range a).map (f A) ++ (List.range b).map fun i => f B (a + i) := by
  rw [List.range_add, List.map_append, List.map_map]
  congr 1
  · exact List.map_congr_left fun i hi => by rw [if_pos (List.mem_range.mp hi)]
  · exact List.map_congr_left fun i _ => by
      rw [Function.comp_apply, if_neg (Nat.not_lt.mpr (Nat.le_add_right a i))]

theorem measure_two_blocks (V : ℕ → Ω → ℝ) (hindep : iIndepFun V μ)
    (hlaw : ∀ i, Measure.map (V i) μ = uniform01) {A B : Set ℝ} (hA : MeasurableSet A)
    (hB : MeasurableSet B) (a b : ℕ) (G : List Bool → List Bool → Prop) [∀ x y, Decidable (G x y)] :
    μ {ω | G (bitsOf V (fun _ => A) a ω) (bitsOf (fun i => V (a + i)) (fun _ => B) b ω)} =
      ENNReal.ofReal (C06.mix
        (bitLaw (List.replicate a (uniform01 A).toReal ++ List.replicate b (uniform01 B).toReal))
        fun x => ind (G (x.take a) (x.drop a))) := by
  classical
  have h := measure_bitsOf V hindep hlaw (fun i => if i < a then A else B)
    (fun i => by split; exacts [hA, hB]) (a + b) (fun x => G (x.take a) (x.drop a))
  rw [map_range_two_blocks A B a b fun S _ => (uniform01 S).toReal, List.map_const',
    List.map_const', List.length_range, List.length_range] at h
  refine Eq.trans (congrArg μ (Set.ext fun ω => ?_)) h
  have hsplit : bitsOf V (fun i => if i < a then A else B) (a + b) ω =
      bitsOf V (fun _ => A) a ω ++ bitsOf (fun i => V (a + i)) (fun _ => B) b ω :=
    map_range_two_blocks A B a b fun S i => decide (V i ω ∈ S)
  rw [Set.mem_ofPred_eq, Set.mem_ofPred_eq, hsplit, List.take_left' (length_bitsOf ..),
    List.drop_left' (length_bitsOf ..)]

end indep

def keptSet (d : Det) : Set ℝ := {u | ¬ u > (d.eta : ℝ)}
def darkSet (d : Det) : Set ℝ := {u | u < (d.pDark : ℝ)}

theorem measurableSet_keptSet (d : Det) : MeasurableSet (keptSet d) :=
  (measurableSet_lt measurable_const measurable_id).compl

theorem measurableSet_darkSet (d : Det) : MeasurableSet (darkSet d) :=
  measurableSet_lt measurable_id measurable_const

theorem uniform01_keptSet (d : Det) (h0 : 0 ≤ d.eta) (h1 : d.eta ≤ 1) :
    uniform01 (keptSet d) = ENNReal.ofReal (d.eta : ℝ) := by
  have h0' : (0 : ℝ) ≤ d.eta := by exact_mod_cast h0
  have h1' : (d.eta : ℝ) ≤ 1 := by exact_mod_cast h1
  -- the kept set is the complement of `(η, ∞)`, which meets `[0,1)` in `(η, 1)`
  have hlost : uniform01 (Set.Ioi (d.eta : ℝ)) = ENNReal.ofReal (1 - d.eta) := by
    have : Set.Ioi (d.eta : ℝ) ∩ Set.Ico 0 1 = Set.Ioo (d.eta : ℝ) 1 := by
      ext u
      simp only [Set.mem_inter_iff, Set.mem_Ioi, Set.mem_Ico, Set.mem_Ioo]
      exact ⟨fun h => ⟨h.1, h.2.2⟩, fun h => ⟨h.1, h0'.trans h.1.le, h.2⟩⟩
    rw [uniform01, Measure.restrict_apply measurableSet_Ioi, this, Real.volume_Ioo]
  rw [show keptSet d = (Set.Ioi (d.eta : ℝ))ᶜ from rfl, prob_compl_eq_one_sub measurableSet_Ioi,
    hlost, ← ENNReal.ofReal_one, ← ENNReal.ofReal_sub _ (sub_nonneg.mpr h1'), sub_sub_cancel]

theorem uniform01_darkSet (d : Det) (h3 : d.pDark ≤ 1) :
    uniform01 (darkSet d) = ENNReal.ofReal (d.pDark : ℝ) := by
  have h3' : (d.pDark : ℝ) ≤ 1 := by exact_mod_cast h3
  rw [uniform01, Measure.restrict_apply (measurableSet_darkSet d)]
  have : darkSet d ∩ Set.Ico 0 1 = Set.Ico 0 (d.pDark : ℝ) := by
    ext u
    simp only [darkSet, Set.mem_inter_iff, Set.mem_ofPred_eq, Set.mem_Ico]
    constructor
    · rintro ⟨hu, hu0, _⟩; exact ⟨hu0, hu⟩
    · rintro ⟨hu0, hu⟩; exact ⟨hu, hu0, lt_of_lt_of_le hu h3'⟩
  rw [this, Real.volume_Ico, sub_zero]

section law
variable {Ω : Type*}

theorem detectorSampleR_eq_outB (V : ℕ → Ω → ℝ) (d : Det) (s : FState) (T : ℕ)
    (hT : nEff d s + nDark d s ≤ T) (ω : Ω) :
    (detectorSampleR d s ((List.range T).map fun i => V i ω)).1 =
      outB d s (bitsOf V (fun _ => keptSet d) (nEff d s) ω)
        (bitsOf (fun i => V (nEff d s + i)) (fun _ => darkSet d) (nDark d s) ω) := by
  classical
  obtain ⟨E, rfl⟩ : ∃ E, T = nEff d s + (nDark d s + E) := ⟨T - (nEff d s + nDark d s), by omega⟩
  rw [detectorSampleR_closed, List.range_add, List.map_append, List.range_add, List.map_append,
    List.map_append, detClosed_eq_outB _ _ d s _ _ _ (by rw [List.length_map, List.length_range])
      (by rw [List.length_map, List.length_map, List.length_range])]
  unfold bitsOf
  simp only [List.map_map, Function.comp_def, keptSet, darkSet, Set.mem_ofPred_eq]
  exact congrArg₂ (outB d s) (List.map_congr_left fun i _ => decide_eq_decide.mpr Iff.rfl)
    (List.map_congr_left fun i _ => decide_eq_decide.mpr Iff.rfl)

variable [MeasurableSpace Ω] {μ : Measure Ω}

theorem detectorSampleR_law (V : ℕ → Ω → ℝ) (hindep : iIndepFun V μ)
    (hlaw : ∀ i, Measure.map (V i) μ = volume.restrict (Set.Ico (0 : ℝ) 1))
    (d : Det) (h0 : 0 ≤ d.eta) (h1 : d.eta ≤ 1) (h2 : 0 ≤ d.pDark) (h3 : d.pDark ≤ 1)
    (s : FState) (T : ℕ) (hT : nEff d s + nDark d s ≤ T) (t : FState) :
    μ {ω | (detectorSampleR d s ((List.range T).map fun i => V i ω)).1 = t} =
      ENNReal.ofReal ((kernelWeight d s t : ℚ) : ℝ) := by
  have hbits := measure_two_blocks V hindep hlaw (measurableSet_keptSet d) (measurableSet_darkSet d)
    (nEff d s) (nDark d s) (fun b1 b2 => outB d s b1 b2 = t)
  rw [uniform01_keptSet d h0 h1, uniform01_darkSet d h3,
    ENNReal.toReal_ofReal (by exact_mod_cast h0), ENNReal.toReal_ofReal (by exact_mod_cast h2)]
    at hbits
  have hcast := map_mix_bitLaw (Rat.castHom ℝ)
    (List.replicate (nEff d s) d.eta ++ List.replicate (nDark d s) d.pDark)
    (fun b => ind (outB d s (b.take (nEff d s)) (b.drop (nEff d s)) = t))
  rw [detLaw_eq_kernelWeight d h1 h2 s t, Rat.coe_castHom, List.map_append, List.map_replicate,
    List.map_replicate] at hcast
  rw [hcast]
  refine Eq.trans (congrArg μ (Set.ext fun ω => ?_)) (hbits.trans (congrArg ENNReal.ofReal ?_))
  · rw [Set.mem_ofPred_eq, Set.mem_ofPred_eq, detectorSampleR_eq_outB V d s T hT ω]
  · apply mix_bitLaw_congr
    intro b _
    unfold ind
    split <;> simp

end law

end LW.Proofs.C07
