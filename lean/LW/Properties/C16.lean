/-
  C16 — Process tomography and gate fidelity agree with the library's own references.

  Only the property theorems and their non-vacuity examples live here; proofs are in
  LW/Proofs/{TomoMat,C16Choi,C16LI,C16GateFid,C16MLE}.lean and, for the list-level MLE clause,
  LW/Proofs/{TomoRun,C16MLE,C16F49,C16MLEFields}.lean (on top of the C15 development).

  Model: LW.Model.ProcTomo.  `choiFromUnitary` and `pVec` follow the REPAIRED code (findings F9,
  F8); the pinned variants are `choiFromUnitaryPinned`, `pVecPinned`.

  Proved here, for every number of qubits `n = k+1`, every matrix `V` (unitary or not) over any
  field with a star in which `2 ≠ 0`, `i² = -1`, `conj i = -i`:
    * the reference Choi matrix is the Choi matrix of `ρ ↦ V ρ V†` in the convention the tomography
      classes reconstruct (`choi_is_channel_matrix`);
    * it solves the linear system LI inverts (`reference_solves_li_system`);
    * the LI transform matrix is injective — square, hence invertible — with the closed form
      `liInverse` as its inverse (`li_transform_invertible`);
    * hence LI on noiseless data of `V` returns exactly `choi_from_unitary(V)` (`li_returns_choi`).
    * the sum of `GateFidelity.process(target)` on the reconstructed output states evaluates to
      `(|tr(U†V)|² + d)/(d(d+1))` (`gate_fidelity_formula`, Pauli twirl), and to 1 for `U = V`
      unitary (`gate_fidelity_self`);
    * each pair of rows of the MLE model matrix applied to the reference Choi matrix gives the
      noiseless outcome probabilities `(tr ρ' ± tr(Pρ'))/(2·4ⁿ)`, `ρ' = VρV†`
      (`mle_model_consistent_partial`).
  LI and gate fidelity are stated on the `lambdas` dict (`liInverse (lamsOfUnitary …)`) and on the
  reconstructed states (`gateFidelityOf`), not on the model functions `liProcess` / `gateFidelity`
  that the driver runs; the step from noiseless outcome tables to these inputs (`runExperiments`,
  `expectation`) is proved for the MLE data only (`Tomo.mleData_born`).
  MLE data-model consistency, list level (the Python lists `_p_vec(choi)` and `_n_vec_from_data`):
    * PROVED (`mle_model_consistent_corrected`): on noiseless data of a unitary `V`, for every order
      of the settings, the data vector is `_p_vec(choi_from_unitary(V))` times a non-zero constant
      (`4ⁿ/len(data)`) — in every field in which `len(data) = 6ⁿ·(4ⁿ-1)` is non-zero, in particular
      in characteristic zero (`mle_model_consistent_charZero`), hence over the complex numbers the
      code uses.
    * FALSE: `mle_model_consistent_statement` (below), the same statement quantified over ALL
      fields with `2 ≠ 0`.  Witness (`mle_model_consistent_statement_false`):
      the field with 49 elements `𝔽₇[i]` (`i² = -1`, `h = 2`, `2h² = 1`), three qubits, `V = 1`:
      `len(data) = 6³·63 = 13608 = 7·1944` is zero there, `_n_vec_from_data` divides by it
      (`x/0 = 0`) and returns the zero vector, which is no non-zero multiple of `_p_vec`.  The extra
      hypothesis is also necessary: whenever `len(data) = 0` in the field the conclusion fails
      (`mle_count_hypothesis_necessary`).  This is a defect of the over-general statement, not of
      the library (Python never leaves characteristic zero).
  The projection steps and the update rule of the projected-gradient optimiser are modelled in
  LW.Model.MLEProj; what is proved of them is in LW/Properties/C16Proj.lean.
  NOT covered: convergence of the optimiser (of Dykstra's iteration and of the gradient descent),
  and `eigh`, `pinv`, `sqrtm` themselves (externals; DESIGN §10).
-/
import Mathlib.Data.Complex.Basic
import Mathlib.Algebra.Star.Rat
import Mathlib.Tactic.NormNum
import LW.Proofs.C16LI
import LW.Proofs.C16GateFid
import LW.Proofs.C16MLEFields

open scoped BigOperators

namespace LW.C16

open LW.Tomo LW.Proofs.C16

variable {K : Type} [Field K] [StarRing K] [DecidableEq K]

/-- `choi_from_unitary(V)` (repaired) is the Choi matrix of `ρ ↦ V ρ V†`:
`Σ_{a,b} ρ[a,b]·C[(a,c),(b,e)] = (V ρ V†)[c,e]` for every `ρ`. -/
theorem choi_is_channel_matrix (V rho : M K) {c e : Nat} (hc : c < V.n) (he : e < V.n) :
    ∑ a ∈ Finset.range V.n, ∑ b ∈ Finset.range V.n,
        rho.get a b * (choiFromUnitary V).get (a * V.n + c) (b * V.n + e)
      = (channel V rho).get c e :=
  choi_channel V rho hc he

/-- the reference Choi matrix solves the system linear inversion inverts: the row of
`transform_matrix` for `(input, measurement)` applied to `vec(choi_from_unitary(V))` is the
noiseless expectation value `tr(P_meas · V ρ_in V†)` (which C15 `expectation_eq_trace` shows
`_calculate_expectation_value` returns on noiseless outcome tables). -/
theorem reference_solves_li_system {i : K} (hi : star i = -i) (n : Nat) (V : M K) (hV : V.n = 2 ^ n)
    (ins : Ins) (hins : ins.length = n) (meas : Meas) (hm : meas.length = n) :
    liApply i (choiFromUnitary V) ins meas = trPauli i (channel V (rhoKron i ins)) meas :=
  liApply_choi hi n V hV ins hins meas hm

/-- the LI transform matrix has the closed-form left inverse `liInverse` (so it is injective and,
being square `16ⁿ × 16ⁿ`, invertible: `np.linalg.pinv` returns its inverse). -/
theorem li_transform_invertible {i : K} (hi : i * i = -1) (hs : star i = -i) (h2 : (1 + 1 : K) ≠ 0)
    (k : Nat) (C : M K) {a' c' b' e' : Nat} (ha' : a' < 2 ^ (k + 1)) (hc' : c' < 2 ^ (k + 1))
    (hb' : b' < 2 ^ (k + 1)) (he' : e' < 2 ^ (k + 1)) :
    (liInverse i (k + 1) (lamsOf i (k + 1) C)).get (a' * 2 ^ (k + 1) + c') (b' * 2 ^ (k + 1) + e')
      = C.get (a' * 2 ^ (k + 1) + c') (b' * 2 ^ (k + 1) + e') :=
  liInverse_liApply hi hs h2 k C (idx_lt ha' hc') (idx_lt hb' he')

/-- two Choi matrices with the same noiseless data are equal (uniqueness of the LI solution). -/
theorem li_solution_unique {i : K} (hi : i * i = -1) (hs : star i = -i) (h2 : (1 + 1 : K) ≠ 0)
    (k : Nat) (C1 C2 : M K)
    (h : ∀ ins meas, liApply i C1 ins meas = liApply i C2 ins meas)
    {a c b e : Nat} (ha : a < 2 ^ (k + 1)) (hc : c < 2 ^ (k + 1)) (hb : b < 2 ^ (k + 1))
    (he : e < 2 ^ (k + 1)) :
    C1.get (a * 2 ^ (k + 1) + c) (b * 2 ^ (k + 1) + e)
      = C2.get (a * 2 ^ (k + 1) + c) (b * 2 ^ (k + 1) + e) := by
  rw [← liInverse_liApply hi hs h2 k C1 (idx_lt ha hc) (idx_lt hb he),
    ← liInverse_liApply hi hs h2 k C2 (idx_lt ha hc) (idx_lt hb he)]
  have : lamsOf i (k + 1) C1 = lamsOf i (k + 1) C2 := by
    unfold lamsOf
    apply List.flatMap_congr
    intro ins _
    apply List.map_congr_left
    intro meas _
    rw [h ins meas]
  rw [this]

/-- Linear inversion on the noiseless expectation values of `ρ ↦ V ρ V†` returns exactly
`choi_from_unitary(V)` — for every `V`, complex and non-symmetric as much as H or CNOT. -/
theorem li_returns_choi {i : K} (hi : i * i = -1) (hs : star i = -i) (h2 : (1 + 1 : K) ≠ 0) (k : Nat)
    (V : M K) (hV : V.n = 2 ^ (k + 1)) :
    liInverse i (k + 1) (lamsOfUnitary i (k + 1) V) = choiFromUnitary V :=
  Proofs.C16.li_returns_choi hi hs h2 k V hV

/-- F9 (pinned tree): the row-stacking `choi_from_unitary` differs from the Choi matrix LI
returns already for a real rotation (here `V = [[3,-4],[4,3]]/5`). -/
theorem F9_pinned_counterexample :
    (choiFromUnitaryPinned (mat2 (3 / 5 : ℚ) (-4 / 5) (4 / 5) (3 / 5))).get 0 1
      ≠ (choiFromUnitary (mat2 (3 / 5 : ℚ) (-4 / 5) (4 / 5) (3 / 5))).get 0 1 := by
  unfold choiFromUnitaryPinned choiFromUnitary
  rw [M.get_ofFn _ (by simp) (by simp), M.get_ofFn _ (by simp) (by simp)]
  simp [conj_eq_star]
  norm_num

/-- Gate fidelity: with the reconstructed output states of `ρ ↦ V ρ V†` (C15: state tomography
returns exactly these on noiseless data) the value computed by `GateFidelity.process(target)` is
the average gate fidelity `(|tr(U†V)|² + d)/(d(d+1))` — for every target `U` and every `V`. -/
theorem gate_fidelity_formula {i : K} (hi : i * i = -1) (hs : star i = -i) (h2 : (1 + 1 : K) ≠ 0)
    (k : Nat) (T V : M K) (hT : T.n = 2 ^ (k + 1)) (hV : V.n = 2 ^ (k + 1)) :
    gateFidelityOf i (k + 1) T ((combineAll tomoInputsLI (k + 1)).map fun ins =>
        (ins, channel V (rhoKron i ins)))
      = avgGateFidelity (k + 1) T V :=
  Tomo.gate_fidelity_formula hi hs h2 k T V hT hV

/-- … and it is one when the target equals the implemented unitary. -/
theorem gate_fidelity_self {i : K} (hi : i * i = -1) (hs : star i = -i) (h2 : (1 + 1 : K) ≠ 0)
    (k : Nat) (V : M K) (hV : V.n = 2 ^ (k + 1)) (hU : V.dagger.mul V = M.one (2 ^ (k + 1)))
    (hd1 : (1 + 1 : K) ^ (k + 1) + 1 ≠ 0) :
    gateFidelityOf i (k + 1) V ((combineAll tomoInputsLI (k + 1)).map fun ins =>
        (ins, channel V (rhoKron i ins))) = 1 :=
  Proofs.C16.gate_fidelity_self hi hs h2 k V hV hU hd1

/-- The expansion coefficients `GateFidelity._calculate_alpha_and_u_basis` obtains from
`np.linalg.solve`: every Pauli string is the `alphaN` combination of the input density matrices
(the solution is unique because these are a basis, `li_transform_invertible`). -/
theorem alpha_expands_pauli {i : K} (h2 : (1 + 1 : K) ≠ 0) (k : Nat) (qs : Meas) (hq : qs.length = k + 1)
    {a b : Nat} (ha : a < 2 ^ (k + 1)) (hb : b < 2 ^ (k + 1)) :
    (((combineAll tomoInputsLI (k + 1)).map fun ins =>
        alphaN qs ins * (rhoKron i ins).get a b).sum : K) = (pauliKron i qs).get a b :=
  alpha_reconstruct h2 k qs hq ha hb

/-- MLE (repaired `_p_vec`, F8): the two rows of `_a_mat` for `(input, measurement)` applied to the
reference Choi matrix are `(tr ρ' ± tr(P ρ'))/(2·4ⁿ)` with `ρ' = V ρ_in V†` — the noiseless
probabilities of the two outcome classes, which is what `_n_vec_from_data` builds from the
noiseless expectation value `tr(Pρ')/tr ρ'` (C15 `expectation_eq_trace`) up to the constant
`len(data)·tr ρ'/4ⁿ`.  Row level; the packaging into the two Python lists is
`mle_model_consistent_corrected`. -/
theorem mle_model_consistent_partial (i : K) (n : Nat) (V : M K) (hV : V.n = 2 ^ n) (ins : Ins)
    (hins : ins.length = n) (meas : Meas) (hm : meas.length = n) :
    pairing (aRowMats i n ins meas).1 (choiFromUnitary V)
        = (twoPow (2 * n))⁻¹ * (half * (trN n (channel V (rhoKron i ins))
            + trPauli i (channel V (rhoKron i ins)) meas)) ∧
    pairing (aRowMats i n ins meas).2 (choiFromUnitary V)
        = (twoPow (2 * n))⁻¹ * (half * (trN n (channel V (rhoKron i ins))
            + -trPauli i (channel V (rhoKron i ins)) meas)) :=
  mle_rows i n V hV ins hins meas hm

/-- list-level statement of the MLE data-model consistency for all fields
with `2 ≠ 0`: the vector of model probabilities of the reference Choi matrix is proportional to the
data vector, so the true Choi matrix is a global minimiser of the likelihood cost handed to the
optimiser.  FALSE in positive characteristic (`mle_model_consistent_statement_false`); true with the
hypothesis `len(data) ≠ 0` (`mle_model_consistent_corrected`). -/
def mle_model_consistent_statement : Prop :=
  ∀ (K : Type) [Field K] [StarRing K] [DecidableEq K] (i h : K), Consts i h → (1 + 1 : K) ≠ 0 →
    ∀ (n : Nat) (V : M K) (order : List Meas) (rs : List (Res K)) (nv : List K), 0 < n →
    V.n = 2 ^ n → (V.dagger.mul V = M.one (2 ^ n)) → order.Perm (requiredSet n) →
    rs = (combineAll tomoInputsMLE n).flatMap (fun ins =>
      order.map fun s => bornTable i h n (channel V (rhoKron i ins)) s) →
    (do let data ← mleData n order rs; nVec n data) = .ok nv →
    ∃ c : K, c ≠ 0 ∧ (pVec i n (choiFromUnitary V)).map (· * c) = nv

/-- `mle_model_consistent_statement` is false.  Witness: `K = 𝔽₇[i]` (49 elements; `i² = -1`, `conj i = -i`,
`h = 2` with `2h² = 8 = 1`, `2 ≠ 0`), `n = 3`, `V = 1`, `order = requiredSet 3`: the number of data
entries `6³·(4³-1) = 13608` is divisible by 7, so `_n_vec_from_data` is the zero vector, whereas the
two entries of `_p_vec` for input `Z+Z+Z+` and measurement `ZZZ` sum to `4⁻³ ≠ 0`. -/
theorem mle_model_consistent_statement_false : ¬ mle_model_consistent_statement := by
  intro H
  have hn : 0 < 3 := by norm_num
  have h2 := F49.two_ne_zero'
  have hU : (M.one (2 ^ 3) : M F49).dagger.mul (M.one (2 ^ 3)) = M.one (2 ^ 3) :=
    one_dagger_mul_one _
  have hV : (M.one (2 ^ 3) : M F49).n = 2 ^ 3 := rfl
  obtain ⟨nv, hnv, hno⟩ := mle_count_necessary consts_F49 h2 3 hn (M.one (2 ^ 3)) hV hU
    (requiredSet 3) (List.Perm.refl _) F49.count_zero
  exact hno (H F49 F49.I F49.H consts_F49 h2 3 (M.one (2 ^ 3)) (requiredSet 3) _ nv hn
    hV hU (List.Perm.refl _) rfl hnv)

/-- MLE data-model consistency, list level: on noiseless data of a unitary `V` (for
every order in which the settings are requested) the data vector `_n_vec_from_data` builds is the
vector of model probabilities `_p_vec(choi_from_unitary(V))` times a non-zero constant — in every
field in which the number of data entries `len(data) = 6ⁿ·(4ⁿ-1)` is non-zero (the only hypothesis
added to `mle_model_consistent_statement`; necessary by `mle_count_hypothesis_necessary`). -/
theorem mle_model_consistent_corrected {i h : K} (hc : Consts i h) (h2 : (1 + 1 : K) ≠ 0) (n : Nat)
    (V : M K) (order : List Meas) (rs : List (Res K)) (nv : List K) (hn : 0 < n)
    (hV : V.n = 2 ^ n) (hU : V.dagger.mul V = M.one (2 ^ n)) (hord : order.Perm (requiredSet n))
    (hrs : rs = (combineAll tomoInputsMLE n).flatMap (fun ins =>
      order.map fun s => bornTable i h n (channel V (rhoKron i ins)) s))
    (hnv : (do let data ← mleData n order rs; nVec n data) = .ok nv)
    (hlen : ((6 ^ n * (4 ^ n - 1) : Nat) : K) ≠ 0) :
    ∃ c : K, c ≠ 0 ∧ (pVec i n (choiFromUnitary V)).map (· * c) = nv :=
  mle_model_consistent_nz hc h2 n V order rs nv hn hV hU hord hrs hnv hlen

/-- … in particular in characteristic zero, e.g. over ℂ: `mle_model_consistent_statement` with
`[CharZero K]` added. -/
theorem mle_model_consistent_charZero [CharZero K] {i h : K} (hc : Consts i h) (h2 : (1 + 1 : K) ≠ 0)
    (n : Nat) (V : M K) (order : List Meas) (rs : List (Res K)) (nv : List K) (hn : 0 < n)
    (hV : V.n = 2 ^ n) (hU : V.dagger.mul V = M.one (2 ^ n)) (hord : order.Perm (requiredSet n))
    (hrs : rs = (combineAll tomoInputsMLE n).flatMap (fun ins =>
      order.map fun s => bornTable i h n (channel V (rhoKron i ins)) s))
    (hnv : (do let data ← mleData n order rs; nVec n data) = .ok nv) :
    ∃ c : K, c ≠ 0 ∧ (pVec i n (choiFromUnitary V)).map (· * c) = nv :=
  mle_model_consistent_char0 hc h2 n V order rs nv hn hV hU hord hrs hnv

/-- the data pipeline does succeed on noiseless data (so `hnv` above is satisfiable for every
unitary, order and field), and the hypothesis `len(data) ≠ 0` is necessary: if the count vanishes
in `K`, the vector the pipeline returns is NOT a non-zero multiple of the model probabilities. -/
theorem mle_count_hypothesis_necessary {i h : K} (hc : Consts i h) (h2 : (1 + 1 : K) ≠ 0) (n : Nat)
    (hn : 0 < n) (V : M K) (hV : V.n = 2 ^ n) (hU : V.dagger.mul V = M.one (2 ^ n))
    (order : List Meas) (hord : order.Perm (requiredSet n))
    (hzero : ((6 ^ n * (4 ^ n - 1) : Nat) : K) = 0) :
    ∃ nv, (do let data ← mleData n order ((combineAll tomoInputsMLE n).flatMap (fun ins =>
              order.map fun s => bornTable i h n (channel V (rhoKron i ins)) s)); nVec n data)
        = .ok nv ∧
      ¬ ∃ c : K, c ≠ 0 ∧ (pVec i n (choiFromUnitary V)).map (· * c) = nv :=
  mle_count_necessary hc h2 n hn V hV hU order hord hzero

/-! ### non-vacuity: the hypotheses are met over ℂ by a complex, non-symmetric unitary -/

noncomputable section
open Classical

/-- `V = [[3, -4i], [4, 3i]]/5` (unitary, complex, non-symmetric): LI returns its reference Choi
matrix, and gate fidelity against any target is the closed formula -/
example :
    liInverse Complex.I 1 (lamsOfUnitary Complex.I 1
        (mat2 (3 / 5 : ℂ) (-4 / 5 * Complex.I) (4 / 5) (3 / 5 * Complex.I)))
      = choiFromUnitary (mat2 (3 / 5 : ℂ) (-4 / 5 * Complex.I) (4 / 5) (3 / 5 * Complex.I)) :=
  li_returns_choi Complex.I_mul_I Complex.conj_I (by norm_num) 0 _ rfl

example (T : M ℂ) (hT : T.n = 2) :
    gateFidelityOf Complex.I 1 T ((combineAll tomoInputsLI 1).map fun ins =>
        (ins, channel (mat2 (3 / 5 : ℂ) (-4 / 5 * Complex.I) (4 / 5) (3 / 5 * Complex.I))
          (rhoKron Complex.I ins)))
      = avgGateFidelity 1 T (mat2 (3 / 5 : ℂ) (-4 / 5 * Complex.I) (4 / 5) (3 / 5 * Complex.I)) :=
  gate_fidelity_formula Complex.I_mul_I Complex.conj_I (by norm_num) 0 T _ hT rfl

/-- `mle_model_consistent_corrected` / `_charZero` are not vacuous: over ℂ, one qubit, the same `V`
(`exV`), settings in the order `requiredSet 1`: the data pipeline succeeds on the noiseless tables
(first conjunct: every hypothesis of the theorem is met, with `nv` the explicit vector `nvOf …`) and
that vector is a non-zero multiple of `_p_vec(choi_from_unitary(V))`. -/
example :
    (do let data ← mleData 1 (requiredSet 1) ((combineAll tomoInputsMLE 1).flatMap (fun ins =>
          (requiredSet 1).map fun s =>
            bornTable Complex.I (((Real.sqrt 2)⁻¹ : ℝ) : ℂ) 1 (channel exV (rhoKron Complex.I ins)) s));
        nVec 1 data)
      = .ok (nvOf Complex.I exV 1 (((6 ^ 1 * (4 ^ 1 - 1) : Nat)) : ℂ)) ∧
    ∃ c : ℂ, c ≠ 0 ∧ (pVec Complex.I 1 (choiFromUnitary exV)).map (· * c)
      = nvOf Complex.I exV 1 (((6 ^ 1 * (4 ^ 1 - 1) : Nat)) : ℂ) :=
  mle_example_complex

end

end LW.C16
