/-
  LW.Proofs.C12Correct — `convert_correct_full`: amplitude-level correctness of the model of the
  qiskit converter, for every instruction list, either mode, every field with valid gate constants.
  The substitution homomorphism `circHom` of the circuit built from the plan is the composition
  `listHom` of the homomorphisms of the instructions (`buildCirc_listHom`); `gateAmp` is `∏ t_k!`
  times the coefficient amplitude of `circHom` (`gateAmp_eq_amp`), and the factorials are 1 on the
  qubit subspace; the forward induction `main_ind` over the list is fed the per-instruction interface
  `iface_of_shape` (C13 tables) and the safety of the post-selection rules (`rules_safe`).
-/
import Mathlib.Algebra.Star.Basic
import LW.Proofs.C02
import LW.Proofs.C12InstrPlan
import LW.Proofs.C12Plan
import LW.Proofs.C12Iface
import LW.Proofs.C12SubTab

open MvPolynomial

namespace LW.C12F

open LW LW.QC LW.Gates LW.QF LW.Proofs.C02Sem

section
variable {R : Type} [CommRing R]

theorem applySQ_delta_agree (m : ℕ → ℕ → R) (nq q : ℕ) (ib mid : List Bool) (hib : ib.length = nq)
    (hmid : mid.length = nq) (hq : q < nq)
    (hag : ∀ q', q' < nq → q' ∉ [q] → getBit mid q' = getBit ib q') :
    applySQ m q (delta ib) mid = m (getBit mid q).toNat (getBit ib q).toNat := by
  have e1 : mid.set q (getBit ib q) = ib := by
    apply bits_ext (n := nq) (by simpa using hmid) hib
    intro q' hq'
    rw [getBit_set]
    by_cases h : q' = q
    · subst h; rw [if_pos ⟨rfl, by omega⟩]
    · rw [if_neg (fun hc => h hc.1)]
      exact hag q' hq' (by simpa using h)
  have e2 : mid.set q (!getBit ib q) ≠ ib := by
    intro hc
    have := congrArg (fun l => getBit l q) hc
    simp only [getBit_set] at this
    have hql : q < mid.length := by omega
    simp only [hql, and_self, if_true] at this
    cases hb : getBit ib q <;> simp [hb] at this
  unfold applySQ delta
  cases hb : getBit ib q
  · rw [hb] at e1 e2
    simp only [Bool.not_false] at e2
    rw [if_pos e1, if_neg e2]
    simp
  · rw [hb] at e1 e2
    simp only [Bool.not_true] at e2
    rw [if_neg e2, if_pos e1]
    simp

theorem iface_single [StarRing R] (c : GC R) (par : ℕ → R × R) (nq : ℕ) (g : Instr) (f : Bool)
    (q : ℕ) (hq : g.qubits = [q]) (hlt : q < nq) : Iface c par nq g f := by
  have hS := sits_single c par f hq hlt
  obtain ⟨-, hQ, hH, hsub, hK⟩ := instr_single (K := R) f hq
  have hone : g.qubits.length = 1 := by rw [hq]; rfl
  refine ⟨hS.touch, ?_, hS.table ?_, fun cf _ => (stepRel_single hone f cf cf).mpr rfl⟩
  · intro idx P w s hP hne hw hs
    obtain ⟨hout, hsum⟩ := hS.redistributes hP hne hw hs
    rw [stepRel_single hone]
    funext q'
    by_cases hqq : q' = q
    · rw [hq] at hsum
      simpa [hqq] using hsum.symm
    · exact hout q' (by rw [hq]; simpa using hqq)
  · intro idx ib mid hib hmid hag
    rw [hq] at hag
    rw [hK, applyInstr_single c par idx _ _ hq, one_mul, hQ, hH, hsub, applySQ_delta_agree _ nq q ib mid hib hmid hlt hag,
      List.append_nil, List.append_nil]
    exact amp_sq c (sqOfName g.name (par idx)) (getBit ib q) (getBit mid q)

end

section
variable {F : Type} [Field F] [StarRing F]

theorem iface_two (c : GC F) (hv : c.Valid) (par : ℕ → F × F) (nq : ℕ) (g : Instr) (f : Bool)
    (a b : ℕ) (hq : g.qubits = [a, b]) (hab : a ≠ b) (ha : a < nq) (hb : b < nq)
    (hn : g.name ≠ "swap") : Iface c par nq g f := by
  have hS := sits_two c par f hq hab ha hb hn
  obtain ⟨-, hQ, hH, hsub, hK⟩ := instr_two (K := F) f hq hn
  have hmem : ∀ q, q ∈ [min a b, max a b] ↔ q ∈ [a, b] := fun q => by
    rw [← hQ, ← hq]
    exact hS.perm.mem_iff
  have htg : (if g.name = "cx" then (if a < b then 1 else 0) else 0) < 2 := by
    split_ifs <;> decide
  refine hS.iface (by rw [hq]; exact Nat.succ_succ_ne_one 0) hn ?_ ?_
  · intro hf idx β o hβ ho hs hnd
    subst hf
    rw [hQ] at hβ ho hs
    rw [hH, hsub]
    exact amp_two_leak c hv _ _ htg β hβ o ho hs hnd
  · intro idx ib mid hib hmid hag
    rw [hq] at hag
    rw [hQ, hH, hsub, amp_two c hv _ f _ htg _ _ rfl rfl, hK]
    by_cases hcx : g.name = "cx"
    · rw [applyInstr_cx c par idx _ _ hq hcx, if_pos hcx, if_pos (decide_eq_true hcx)]
      exact scaleBy_namedCNOT_map _ (hQ ▸ hS.nodup)
        (by show (if a < b then 1 else 0) < 2; split_ifs <;> omega) (getD_minmax a b)
        hmem (fun h => hab (List.mem_singleton.mp h).symm) hb hib hmid hag
    · rw [applyInstr_cz c par idx _ _ hq hn hcx, if_neg (fun h => hcx (of_decide_eq_true h))]
      exact scaleBy_namedCZ_map _ hmem hib hmid hag

theorem iface_three (c : GC F) (hv : c.Valid) (par : ℕ → F × F) (nq : ℕ) (g : Instr) (f : Bool)
    (a b t : ℕ) (hq : g.qubits = [a, b, t]) (hnd : [a, b, t].Nodup) (ha : a < nq) (hb : b < nq)
    (ht : t < nq) (hf : f = true) (hspan : max a (max b t) - min a (min b t) = 2)
    (hname : g.name = "ccx" ∨ g.name = "ccz") : Iface c par nq g f := by
  have hS := sits_three c par f hq hnd ha hb ht hspan
  obtain ⟨-, hQ, hH, hsub, hK⟩ := instr_three (K := F) f hq
  obtain ⟨-, -, htb⟩ := span_bounds hspan
  have htC : t ∉ [a, b] := by
    rw [List.nodup_cons, List.nodup_cons] at hnd
    intro h
    rcases List.mem_cons.mp h with e | h
    · exact hnd.1 (e ▸ List.mem_cons_of_mem _ List.mem_cons_self)
    · exact hnd.2.1 ((List.mem_singleton.mp h) ▸ List.mem_cons_self)
  generalize min a (min b t) = mn at hQ htb hsub
  have hmem : ∀ q, q ∈ [mn, mn + 1, mn + 2] ↔ q ∈ [a, b, t] := fun q => by
    rw [← hQ, ← hq]
    exact hS.perm.mem_iff
  have htg : (if g.name = "ccx" then t - mn else 0) < 3 := by
    split_ifs
    · omega
    · decide
  refine hS.iface (by rw [hq]; exact Nat.succ_succ_ne_one 1)
    (by rcases hname with h | h <;> rw [h] <;> decide) (fun hf' => by rw [hf] at hf'; cases hf') ?_
  intro idx ib mid hib hmid hag
  rw [hq] at hag
  rw [hQ, hH, hsub, amp_three c hv _ _ htg _ _ rfl rfl, hK]
  by_cases hcx : g.name = "ccx"
  · rw [applyInstr_ccx c par idx _ _ hq hcx, if_pos hcx, if_pos (decide_eq_true hcx)]
    exact scaleBy_namedCNOT_map _ (hQ ▸ hS.nodup) (by show t - mn < 3; omega) (getD_span3 htb)
      hmem htC ht hib hmid hag
  · rw [applyInstr_ccz c par idx _ _ hq hcx, if_neg (fun h => hcx (of_decide_eq_true h))]
    exact scaleBy_namedCZ_map _ hmem hib hmid hag

end

theorem iface_of_shape {R : Type} [Field R] [StarRing R] (c : GC R) (hv : c.Valid) (par : ℕ → R × R) (nq : ℕ) (g : Instr) (f : Bool)
    (h : Shape nq g f) : Iface c par nq g f := by
  cases h with
  | single q hq hlt => exact iface_single c par nq g f q hq hlt
  | swap a b hq hab ha hb hn => exact iface_swap c par nq g f a b hq hab ha hb hn
  | two a b hq hab ha hb hn => exact iface_two c hv par nq g f a b hq hab ha hb hn
  | three a b t hq hnd ha hb ht hf hspan hn =>
    exact iface_three c hv par nq g f a b t hq hnd ha hb ht hf hspan hn

theorem placeAll_hom {R : Type} [CommRing R] [StarRing R] (c : GC R) (par : ℕ → R × R) (nq : ℕ) :
    ∀ (gs : List Instr) (idx : ℕ) (fs : List Bool) (plan : List Placed) (P : ℕ),
      (∀ g ∈ gs, g.qubits.Nodup ∧ ∀ q ∈ g.qubits, q < nq) → fs.length = gs.length →
      placeAll idx gs fs = .ok plan → 2 * nq ≤ P →
      (∀ p ∈ plan, PlacedOk nq p) ∧ planHer plan = listHer gs fs ∧
        planHom c par plan P = listHom c par idx gs fs P ∧ List.Forall₂ (Shape nq) gs fs := by
  intro gs
  induction gs with
  | nil =>
    intro idx fs plan P _ hl h _
    simp only [placeAll, Except.ok.injEq] at h
    subst h
    have : fs = [] := List.eq_nil_of_length_eq_zero (by simpa using hl)
    subst this
    exact ⟨by simp, rfl, rfl, List.Forall₂.nil⟩
  | cons g rest ih =>
    intro idx fs plan P hwf hl h hP
    cases fs with
    | nil => simp at hl
    | cons f fs' =>
      obtain ⟨here, later, h1, h2, rfl⟩ := placeAll_cons_ok h
      have hg := hwf g List.mem_cons_self
      obtain ⟨hsh, a1, a2, a3⟩ := placeInstr_hom c par nq idx g f here P hg.1 hg.2 h1 hP
      obtain ⟨b1, b2, b3, b4⟩ := ih (idx + 1) fs' later (P + (instrHer g f).length)
        (fun g' hg' => hwf g' (List.mem_cons_of_mem _ hg')) (by simpa using hl) h2 (by omega)
      refine ⟨?_, ?_, ?_, List.Forall₂.cons hsh b4⟩
      · intro p hp
        rcases List.mem_append.mp hp with hp | hp
        · exact a1 p hp
        · exact b1 p hp
      · rw [planHer_append, a2, b2]
        rfl
      · rw [planHom_append, a2, a3, b3]
        rfl

theorem herInv_new {R : Type} [CommRing R] [StarRing R] (N : ℕ) : HerInv (Circ.new N : Circ R) :=
  ⟨LW.Proofs.C02.new_WF N, rfl, rfl, rfl⟩

theorem specOk_new {R : Type} (N : ℕ) : SpecOk N (Circ.new N : Circ R).spec := by
  intro p hp
  simp [Circ.new, flattenSpec] at hp

theorem buildCirc_listHom {R : Type} [CommRing R] [StarRing R] (c : GC R) (par : ℕ → R × R)
    (aps fixed : Bool) (nq : ℕ) (gs : List Instr) (o : ConvOut)
    (hwf : ∀ g ∈ gs, g.qubits.Nodup ∧ ∀ q ∈ g.qubits, q < nq)
    (hconv : convert aps fixed nq gs = .ok o) :
    ∃ circ, buildCirc c par nq o.plan = .ok circ ∧ HerInv circ ∧
      circ.n - circ.inHer.length = 2 * nq ∧ circ.inHer.map (·.2) = listHer gs o.flags ∧
      circHom c.i circ = listHom c par 0 gs o.flags (2 * nq) ∧
      List.Forall₂ (Shape nq) gs o.flags := by
  obtain ⟨hflags, hplan, -⟩ := convert_ok aps fixed nq gs o hconv
  have hlen : o.flags.length = gs.length := by
    rw [hflags]
    split_ifs
    · exact psAnalyze_flags_length fixed gs
    · simp
  obtain ⟨hpok, hher, hhom, hshape⟩ :=
    placeAll_hom c par nq gs 0 o.flags o.plan (2 * nq) hwf hlen hplan (Nat.le_refl _)
  obtain ⟨circ, hfold, hinv, hq, hcher, hchom⟩ := plan_fold c par nq o.plan hpok
    (Circ.new (2 * nq)) (herInv_new _) (specOk_new _) rfl
  refine ⟨circ, hfold, hinv, hq, ?_, ?_, hshape⟩
  · rw [hcher, hher]; rfl
  · rw [hchom, circHom_new, AlgHom.comp_id]
    exact hhom

noncomputable def herPart (n : ℕ) (Hs : List ℕ) : ℕ →₀ ℕ := (List.replicate n 0 ++ Hs).toFinsupp

theorem herPart_apply_ge (n : ℕ) (Hs : List ℕ) {z : ℕ} (hz : n ≤ z) :
    herPart n Hs z = Hs.getD (z - n) 0 := by
  unfold herPart
  rw [List.toFinsupp_apply, List.getD_append_right _ _ _ _ (by simpa using hz)]
  simp

theorem herPart_support (n : ℕ) (Hs : List ℕ) : ∀ z ∈ (herPart n Hs).support, n ≤ z := by
  intro z hz
  by_contra hc
  rw [Finsupp.mem_support_iff] at hz
  apply hz
  unfold herPart
  rw [List.toFinsupp_apply, List.getD_append _ _ _ _ (by simp; omega)]
  simp

theorem herAt_herPart (n : ℕ) (Hs : List ℕ) : HerAt n Hs (herPart n Hs) := by
  intro k _
  rw [herPart_apply_ge n Hs (by omega)]
  congr 1
  omega

theorem toFinsupp_eq_mk (u Hs : List ℕ) :
    (u ++ Hs).toFinsupp = mk u (herPart u.length Hs) := by
  ext z
  rw [List.toFinsupp_apply]
  by_cases hz : z < u.length
  · rw [mk_apply_lt (herPart_support _ _) hz, List.getD_append _ _ _ _ hz]
  · rw [mk_apply_ge (by omega), herPart_apply_ge _ _ (by omega),
      List.getD_append_right _ _ _ _ (by omega)]

theorem factProd_instrHer (g : Instr) (f : Bool) : factProd (instrHer g f) = 1 := by
  unfold instrHer
  split
  · split_ifs <;> rfl
  · rfl
  · rfl

theorem factProd_listHer : ∀ (gs : List Instr) (fs : List Bool), factProd (listHer gs fs) = 1
  | [], _ => rfl
  | g :: rest, fs => by
    show factProd (instrHer g _ ++ listHer rest fs.tail) = 1
    rw [factProd_append, factProd_instrHer, factProd_listHer rest fs.tail]

theorem instrK_ne_zero {R : Type} [Field R] (c : GC R) (hv : c.Valid) (g : Instr) (f : Bool) :
    instrK c g f ≠ 0 := by
  obtain ⟨h1, h2, h3⟩ := scalar_sq_field c hv
  have hk1 : -c.third ≠ 0 := by
    intro h; rw [h] at h1; simp at h1
  have hk2 : c.half * c.half ≠ 0 := by
    intro h; rw [h] at h2; simp at h2
  -- `instrK` spells the `ccx`/`ccz` scalar out; it is `kCCZf c` of C13Field by unfolding
  have hk3 : kCCZf c ≠ 0 := by
    intro h; rw [h] at h3; simp at h3
  unfold instrK
  split
  · split_ifs
    · exact one_ne_zero
    · exact hk1
    · exact hk2
  · exact hk3
  · exact one_ne_zero

theorem listK_ne_zero {R : Type} [Field R] (c : GC R) (hv : c.Valid) :
    ∀ (gs : List Instr) (fs : List Bool), listK c gs fs ≠ 0
  | [], _ => one_ne_zero
  | g :: rest, fs => mul_ne_zero (instrK_ne_zero c hv g _) (listK_ne_zero c hv rest fs.tail)

theorem mem_dedupSorted {q : ℕ} {l : List ℕ} : q ∈ dedupSorted l ↔ q ∈ l := by
  unfold dedupSorted
  rw [List.mem_eraseDups]
  exact LW.Proofs.C02.mem_sortNat

theorem psAnalyze_has_lt (fixed : Bool) (nq : ℕ) : ∀ (gs : List Instr),
    (∀ g ∈ gs, ∀ q ∈ g.qubits, q < nq) → ∀ q ∈ (psAnalyze fixed gs).2, q < nq
  | [], _, q, hq => by simp [psAnalyze] at hq
  | g :: rest, hwf, q, hq => by
    rw [psAnalyze_has_cons] at hq
    have ih := psAnalyze_has_lt fixed nq rest (fun g' hg' => hwf g' (List.mem_cons_of_mem _ hg'))
    split_ifs at hq
    · rcases List.mem_append.mp hq with h | h
      · exact ih q h
      · exact hwf g List.mem_cons_self q h
    · exact ih q hq

/-- As `rules` the analyser's list `(psAnalyze true gs).2` serves as it is, with repetitions, while
`accepted` tests `dedupSorted` of it, which has the same members (`mem_dedupSorted`).  Heralded-only
conversion returns no rule and needs none. -/
theorem rules_safe (aps : Bool) (nq : ℕ) (gs : List Instr) (o : ConvOut)
    (hwf : ∀ g ∈ gs, ∀ q ∈ g.qubits, q < nq) (hconv : convert aps true nq gs = .ok o)
    (out : List ℕ) (hout : out.length = 2 * nq) (hacc : accepted o.psQubits out = true)
    (η : ℕ →₀ ℕ) (hη : ∀ z ∈ η.support, 2 * nq ≤ z) :
    ∃ rules, Safe nq gs o.flags rules ∧ ∀ q ∈ rules, cfgN nq (mk out η) q = 1 := by
  obtain ⟨hflags, -, hpsq⟩ := convert_ok aps true nq gs o hconv
  cases aps with
  | false =>
    refine ⟨[], safe_heralded nq gs o.flags hwf fun f hf => ?_, fun q hq => nomatch hq⟩
    rw [hflags] at hf
    simp only [Bool.false_eq_true, if_false, List.mem_map] at hf
    obtain ⟨_, _, rfl⟩ := hf
    rfl
  | true =>
    have hfl : o.flags = (psAnalyze true gs).1 := by rw [hflags]; rfl
    refine ⟨(psAnalyze true gs).2, ?_, fun q hq => ?_⟩
    · rw [hfl]
      exact safe_psAnalyze nq gs hwf
    · have hqn := psAnalyze_has_lt true nq gs hwf q hq
      have hqm : q ∈ dedupSorted (psAnalyze true gs).2 := mem_dedupSorted.mpr hq
      have hne : ¬ (dedupSorted (psAnalyze true gs).2).isEmpty = true := by
        intro hc
        rw [List.isEmpty_iff] at hc
        rw [hc] at hqm
        simp at hqm
      rw [hpsq, if_pos ⟨rfl, hne⟩] at hacc
      unfold accepted at hacc
      simp only [List.all_eq_true, beq_iff_eq] at hacc
      rw [cfgN_lt _ hqn, mk_apply_lt (by rw [hout]; exact hη) (by omega),
        mk_apply_lt (by rw [hout]; exact hη) (by omega)]
      exact hacc q hqm

/-- `LW.C12.convert_correct_statement` with the scalar named: the product `listK` of the scalars of
the instructions (non-zero by `listK_ne_zero`).  The circuit of the statement is `buildCirc` over
`R`, the plan `o.plan` assembled from the library's gates; `o.circ` (`ConvOut.circ`) is the same
fold over the scalar-free `Triv` (`placedCirc`), the bookkeeping the driver reports, and does not
occur here. -/
theorem convert_correct_full {R : Type} [Field R] (c : GC R) (hv : c.Valid) (par : Nat → R × R)
    (aps : Bool) (nq : Nat) (gs : List Instr) (o : ConvOut)
    (hwf : ∀ g ∈ gs, g.qubits.Nodup ∧ ∀ q ∈ g.qubits, q < nq)
    (hconv : convert aps true nq gs = .ok o) :
    ∃ circ, buildCirc c par nq o.plan = .ok circ ∧ circ.n - circ.inHer.length = 2 * nq ∧
      ∀ ib ∈ bitStrings nq, ∀ out ∈ fockStates (2 * nq) nq, accepted o.psQubits out = true →
        gateAmp c.i circ (dualRail ib) out =
          if isDualRail out then
            listK c gs o.flags * idealRun c par 0 gs (delta ib) (unDualRail out)
          else 0 := by
  -- no `star` occurs in what is used; `[StarRing _]` is a section variable of the `Circuit.add` layer
  -- (C02Sem), which `SubOk`, `HerInv` and `circHom_add` inherit, and any instance serves
  let _ : StarRing R := starRingOfComm
  obtain ⟨circ, hfold, hinv, hq, hHs, hcircHom, hshape⟩ :=
    buildCirc_listHom c par aps true nq gs o hwf hconv
  have hif : List.Forall₂ (Iface c par nq) gs o.flags :=
    hshape.imp (fun g f h => iface_of_shape c hv par nq g f h)
  refine ⟨circ, hfold, hq, ?_⟩
  intro ib hib out hout hacc
  have hibl : ib.length = nq := mem_bitStrings.mp hib
  obtain ⟨houtl, _⟩ := Gates.mem_fockStates hout
  have hdl : (dualRail ib).length = 2 * nq := by rw [dualRail_length, hibl]
  have hamp := gateAmp_eq_amp c.i circ hinv.wf hinv.io (dualRail ib) out (by rw [hdl, hq])
    (by rw [houtl, hq])
  rw [hHs, hcircHom] at hamp
  have e1 := toFinsupp_eq_mk out (listHer gs o.flags)
  have e2 := toFinsupp_eq_mk (dualRail ib) (listHer gs o.flags)
  rw [houtl] at e1
  rw [hdl] at e2
  rw [e1, e2] at hamp
  obtain ⟨rules, hsafe, hrules⟩ := rules_safe aps nq gs o (fun g hg => (hwf g hg).2) hconv out houtl
    hacc (herPart (2 * nq) (listHer gs o.flags)) (herPart_support _ _)
  rw [main_ind hif rules out houtl 0 (2 * nq) ib _ (Nat.le_refl _) hsafe hibl
    (herPart_support _ _) (herAt_herPart _ _) hrules] at hamp
  rw [hamp]
  by_cases hdr : isDualRail out = true
  · rw [if_pos hdr]
    have hfp : factProd (out ++ listHer gs o.flags) = 1 := by
      rw [factProd_append, factProd_listHer, ← dualRail_unDualRail out hdr, factProd_dualRail]
    rw [hfp, Nat.cast_one, one_mul]
  · rw [if_neg hdr, mul_zero]

end LW.C12F
