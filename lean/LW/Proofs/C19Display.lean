/-
  LW.Proofs.C19Display — index safety of the drawing back-ends and the option-validation decision
  (the lemmas behind the theorems of LW/Properties/C19.lean): every access of a `do` block of
  LW.Model.Display succeeds on location arrays of the right length, so each block runs through.
  The last part (`primModes`, `compModes`, `ShapeOk`, `compOk_prim_iff`, `compOk_of_modes`) splits
  `CompOk` into "its modes are modes of the circuit" and `ShapeOk`; LW.Proofs.C19Built and
  `wf_of_bookkeeping` take it from there.
-/
import LW.Model.Display
import LW.Proofs.ExceptLemmas
import LW.Proofs.ModeRank

namespace LW.Disp

variable {K : Type}

@[simp] theorem ok_bind {α β : Type} (a : α) (f : α → Except Err β) :
    (Except.ok a >>= f) = f a := rfl

@[simp] theorem error_bind {α β : Type} (e : Err) (f : α → Except Err β) :
    (Except.error e >>= f) = Except.error e := rfl

@[simp] theorem pure_eq_ok {α : Type} (a : α) : (pure a : Except Err α) = Except.ok a := rfl

def OkLen (n : Nat) (r : Except Err (List Rat)) : Prop := ∃ l, r = .ok l ∧ l.length = n

theorem OkLen.ok {n : Nat} {l : List Rat} (h : l.length = n) : OkLen n (.ok l) := ⟨l, rfl, h⟩

/-! Each access that succeeds is an equation `… = .ok …`; a `do` block is run through by rewriting
with these and `ok_bind`. -/

theorem getE_ok {l : List Rat} {i : Nat} (h : i < l.length) : getE l i = .ok l[i] := by
  unfold getE
  rw [List.getElem?_eq_getElem h]

theorem setE_ok {l : List Rat} {i : Nat} (v : Rat) (h : i < l.length) :
    setE l i v = .ok (l.set i v) := if_pos h

theorem maxE_ok {l : List Rat} (h : l ≠ []) : maxE l = .ok (maxL l) := by
  cases l with
  | nil => exact absurd rfl h
  | cons x xs => rfl

theorem nmaxE_ok {l : List Nat} (h : l ≠ []) : nmaxE l = .ok (nmaxL l) := by
  cases l with
  | nil => exact absurd rfl h
  | cons x xs => rfl

theorem slice_length (l : List Rat) (lo hiEx : Nat) :
    (slice l lo hiEx).length = min (hiEx - lo) (l.length - lo) := by
  unfold slice
  rw [List.length_take, List.length_drop]

theorem slice_ne_nil {l : List Rat} {lo hiEx : Nat} (h1 : lo < hiEx) (h2 : hiEx ≤ l.length) :
    slice l lo hiEx ≠ [] := by
  apply List.ne_nil_of_length_pos
  rw [slice_length]
  exact Nat.lt_min.mpr ⟨Nat.sub_pos_of_lt h1, Nat.sub_pos_of_lt (Nat.lt_of_lt_of_le h1 h2)⟩

theorem mem_span {lo hi i : Nat} : i ∈ span lo hi ↔ lo ≤ i ∧ i ≤ hi := by
  unfold span
  rw [List.mem_range'_1]
  omega

theorem readAll_ok {l : List Rat} {is : List Nat} (h : ∀ i ∈ is, i < l.length) :
    readAll l is = .ok () := by
  induction is with
  | nil => rfl
  | cons i is ih =>
    unfold readAll
    rw [getE_ok (h i (List.mem_cons_self ..)), ok_bind]
    exact ih fun j hj => h j (List.mem_cons_of_mem _ hj)

theorem writeAll_ok {l : List Rat} (v : Rat) {is : List Nat} (h : ∀ i ∈ is, i < l.length) :
    OkLen l.length (writeAll l v is) := by
  induction is generalizing l with
  | nil => exact ⟨l, rfl, rfl⟩
  | cons i is ih =>
    unfold writeAll
    rw [setE_ok v (h i (List.mem_cons_self ..)), ok_bind]
    have := @ih (l.set i v) (by
      intro j hj
      rw [List.length_set]
      exact h j (List.mem_cons_of_mem _ hj))
    rwa [List.length_set] at this

theorem mapM_getE_ok {l : List Rat} {is : List Nat} (h : ∀ i ∈ is, i < l.length) :
    is.mapM (getE l) = .ok (is.map fun i => l.getD i 0) :=
  Except.mapM_ok_of_forall is fun i hi => (getE_ok (h i hi)).trans (congrArg Except.ok (List.getElem_eq_getD 0))

theorem addSpan_ok {n : Nat} {ys xs : List Rat} (herald : List Nat) {lo hi : Nat} (w : Rat)
    (hy : ys.length = n) (hx : xs.length = n) (h1 : lo ≤ hi) (h2 : hi < n) :
    OkLen n (addSpan ys herald xs lo hi w) := by
  unfold addSpan
  rw [maxE_ok (slice_ne_nil (Nat.lt_succ_of_le h1) (hx ▸ h2)), ok_bind,
    readAll_ok fun i hi' => hy ▸ Nat.lt_of_le_of_lt (mem_span.mp (List.mem_filter.mp hi').1).2 h2,
    ok_bind]
  exact hx ▸ writeAll_ok _ fun i hi' => hx ▸ Nat.lt_of_le_of_lt (mem_span.mp hi').2 h2

theorem addPs_ok {n : Nat} (b : Backend) {ys xs : List Rat} {m : Nat}
    (hy : ys.length = n) (hx : xs.length = n) (hm : m < n) : OkLen n (addPs b ys xs m) := by
  unfold addPs
  rw [getE_ok (hx ▸ hm), ok_bind, getE_ok (hy ▸ hm), ok_bind, setE_ok _ (hx ▸ hm)]
  exact OkLen.ok (List.length_set.trans hx)

/-- beam splitters, unitary blocks and group boxes first read the `y` positions of their two outer
modes; in range, these reads change nothing -/
theorem reads_bind {n : Nat} {ys : List Rat} {lo hi : Nat} {α : Type} (k : Except Err α)
    (hy : ys.length = n) (h1 : lo ≤ hi) (h2 : hi < n) :
    (getE ys hi >>= fun _ => getE ys lo >>= fun _ => k) = k := by
  rw [getE_ok (hy ▸ h2), ok_bind, getE_ok (hy ▸ Nat.lt_of_le_of_lt h1 h2), ok_bind]

theorem boxed_ok {n : Nat} {ys xs : List Rat} (herald : List Nat) {lo hi : Nat} (w : Rat)
    (hy : ys.length = n) (hx : xs.length = n) (h1 : lo ≤ hi) (h2 : hi < n) :
    OkLen n (getE ys hi >>= fun _ => getE ys lo >>= fun _ => addSpan ys herald xs lo hi w) := by
  rw [reads_bind _ hy h1 h2]
  exact addSpan_ok herald w hy hx h1 h2

theorem min_le_max (a b : Nat) : min a b ≤ max a b :=
  Nat.le_trans (Nat.min_le_left a b) (Nat.le_max_left a b)

theorem min_lt_max {a b : Nat} (h : a ≠ b) : min a b < max a b := by
  rcases Nat.lt_or_gt_of_ne h with h | h
  · rwa [Nat.min_eq_left (Nat.le_of_lt h), Nat.max_eq_right (Nat.le_of_lt h)]
  · rwa [Nat.min_eq_right (Nat.le_of_lt h), Nat.max_eq_left (Nat.le_of_lt h)]

theorem addBs_ok {n : Nat} (b : Backend) {ys xs : List Rat} (herald : List Nat) {m1 m2 : Nat}
    (hy : ys.length = n) (hx : xs.length = n) (h1 : m1 < n) (h2 : m2 < n) :
    OkLen n (addBs b ys herald xs m1 m2) :=
  boxed_ok herald _ hy hx (min_le_max m1 m2) (Nat.max_lt.mpr ⟨h1, h2⟩)

theorem addUnitary_ok {n : Nat} (b : Backend) {ys xs : List Rat} (herald : List Nat) {m k : Nat}
    (hy : ys.length = n) (hx : xs.length = n) (hk : 0 < k) (hm : m + k ≤ n) :
    OkLen n (addUnitary b ys herald xs m k) := by
  unfold addUnitary
  rw [if_neg (Nat.ne_of_gt hk)]
  exact boxed_ok herald _ hy hx (Nat.le_sub_one_of_lt (Nat.lt_add_of_pos_right hk))
    (Nat.sub_one_lt_of_le (Nat.add_pos_right m hk) hm)

theorem addBarrierSvgPinned_ok {n : Nat} {ys xs : List Rat} {ms : List Nat}
    (hy : ys.length = n) (hx : xs.length = n) (hm : ∀ m ∈ ms, m < n) (hne : ms ≠ []) :
    OkLen n (addBarrierSvgPinned ys xs ms) := by
  unfold addBarrierSvgPinned
  rw [mapM_getE_ok fun i hi => hx ▸ hm i hi, ok_bind, maxE_ok fun h => hne (List.map_eq_nil_iff.mp h), ok_bind,
    readAll_ok fun i hi => hy ▸ hm i hi, ok_bind]
  exact hx ▸ writeAll_ok _ fun i hi => hx ▸ hm i hi

theorem addBarrierSvg_ok {n : Nat} {ys xs : List Rat} {ms : List Nat}
    (hy : ys.length = n) (hx : xs.length = n) (hm : ∀ m ∈ ms, m < n) :
    OkLen n (addBarrierSvg ys xs ms) := by
  unfold addBarrierSvg
  split
  · exact OkLen.ok hx
  · rename_i h
    exact addBarrierSvgPinned_ok hy hx hm fun h' => h (h' ▸ rfl)

theorem addBarrierMpl_ok {n : Nat} {ys xs : List Rat} {ms : List Nat}
    (hy : ys.length = n) (hx : xs.length = n) (hm : ∀ m ∈ ms, m < n) :
    OkLen n (addBarrierMpl ys xs ms) := by
  unfold addBarrierMpl
  rw [mapM_getE_ok fun i hi => hx ▸ hm i hi, ok_bind, readAll_ok fun i hi => hy ▸ hm i hi, ok_bind]
  exact hx ▸ writeAll_ok _ fun i hi => hx ▸ hm i hi

theorem max?_eq_nmaxL {l : List Nat} (h : l ≠ []) : l.max? = some (nmaxL l) := by
  cases l with
  | nil => exact absurd rfl h
  | cons x xs => rfl

theorem min?_eq_nminL {l : List Nat} (h : l ≠ []) : l.min? = some (nminL l) := by
  cases l with
  | nil => exact absurd rfl h
  | cons x xs => rfl

theorem nmaxL_mem {l : List Nat} (h : l ≠ []) : nmaxL l ∈ l :=
  List.max?_mem (max?_eq_nmaxL h)

theorem le_nmaxL {l : List Nat} {y : Nat} (h : y ∈ l) : y ≤ nmaxL l :=
  (List.max?_le_iff (max?_eq_nmaxL (List.ne_nil_of_mem h))).mp (Nat.le_refl _) y h

theorem nminL_le {l : List Nat} {y : Nat} (h : y ∈ l) : nminL l ≤ y :=
  (List.le_min?_iff (min?_eq_nminL (List.ne_nil_of_mem h))).mp (Nat.le_refl _) y h

theorem nminL_le_nmaxL {l : List Nat} (h : l ≠ []) : nminL l ≤ nmaxL l :=
  nminL_le (nmaxL_mem h)

/-- keys and values below `n`: what `CompOk` asks of a swap -/
def DictLt (n : Nat) (d : Dict) : Prop := ∀ p ∈ d, p.1 < n ∧ p.2 < n

theorem dictLt_iff {n : Nat} {d : Dict} : DictLt n d ↔ ∀ m ∈ d.keys ++ d.vals, m < n := by
  constructor
  · intro h m hm
    rcases List.mem_append.mp hm with h1 | h1
    · obtain ⟨p, hp, rfl⟩ := List.mem_map.mp h1
      exact (h p hp).1
    · obtain ⟨p, hp, rfl⟩ := List.mem_map.mp h1
      exact (h p hp).2
  · exact fun h p hp => ⟨h _ (List.mem_append_left _ (List.mem_map.mpr ⟨p, hp, rfl⟩)),
      h _ (List.mem_append_right _ (List.mem_map.mpr ⟨p, hp, rfl⟩))⟩

theorem fillSwaps_lt {σ : Dict} {lo hi n : Nat} (hσ : DictLt n σ) (hhi : hi < n) :
    DictLt n (fillSwaps σ lo hi) := by
  intro p hp
  rcases List.mem_append.mp hp with h | h
  · exact hσ p h
  · obtain ⟨m, hm, rfl⟩ := List.mem_map.mp h
    have := Nat.lt_of_le_of_lt (mem_span.mp (List.mem_filter.mp hm).1).2 hhi
    exact ⟨this, this⟩

theorem addSwaps_ok {n : Nat} (b : Backend) {ys xs : List Rat} (herald : List Nat) {σ : Dict}
    (hy : ys.length = n) (hx : xs.length = n) (hσ : ∀ m ∈ σ.keys ++ σ.vals, m < n) :
    OkLen n (addSwaps b ys herald xs σ) := by
  unfold addSwaps
  split
  · exact OkLen.ok hx
  · rename_i hne
    have hk : σ.keys ≠ [] := by
      intro h
      apply hne
      cases σ with
      | nil => rfl
      | cons p ps => cases h
    have hlohi := nminL_le_nmaxL hk
    have hhi : nmaxL σ.keys < n := hσ _ (List.mem_append_left _ (nmaxL_mem hk))
    have hfull : ∀ i ∈ ((fillSwaps σ (nminL σ.keys) (nmaxL σ.keys)).filter
        fun p => !herald.contains p.1).flatMap fun p => [p.1, p.2], i < ys.length := by
      intro i hi
      obtain ⟨p, hp, hip⟩ := List.mem_flatMap.mp hi
      have hpb := fillSwaps_lt (dictLt_iff.mpr hσ) hhi p (List.mem_filter.mp hp).1
      rcases List.mem_cons.mp hip with rfl | hip
      · exact hy ▸ hpb.1
      · exact hy ▸ List.mem_singleton.mp hip ▸ hpb.2
    dsimp only
    rw [maxE_ok (slice_ne_nil (Nat.lt_succ_of_le hlohi) (hx ▸ hhi)), ok_bind, readAll_ok hfull,
      ok_bind,
      readAll_ok fun i hi => hy ▸ Nat.lt_of_le_of_lt (mem_span.mp (List.mem_filter.mp hi).1).2 hhi,
      ok_bind]
    exact hx ▸ writeAll_ok _ fun i hi => hx ▸ Nat.lt_of_le_of_lt (mem_span.mp hi).2 hhi

theorem addGroup_ok {n : Nat} (b : Backend) {ys xs : List Rat} (herald : List Nat) {m1 m2 : Nat}
    {hin hout : Dict} (hy : ys.length = n) (hx : xs.length = n) (h1 : m1 < n) (h2 : m2 < n)
    (hh : ∀ k ∈ hin.keys ++ hout.keys, k + min m1 m2 < n) :
    OkLen n (addGroup b ys herald xs m1 m2 hin hout) := by
  have hhi : max m1 m2 < n := Nat.max_lt.mpr ⟨h1, h2⟩
  unfold addGroup
  dsimp only
  rw [reads_bind _ hy (min_le_max m1 m2) hhi]
  obtain ⟨xs', hxs', hl⟩ := addSpan_ok (ys := ys) (xs := xs) herald
    (b.boxW + 2 * (if (!hin.isEmpty || !hout.isEmpty) = true then b.extra else 0)) hy hx
    (min_le_max m1 m2) hhi
  rw [hxs', ok_bind]
  unfold addHeralds
  rw [readAll_ok, ok_bind]
  · exact OkLen.ok hl
  · intro i hi
    rcases List.mem_append.mp hi with h | h
    · obtain ⟨k, hk, rfl⟩ := List.mem_map.mp h
      exact hy ▸ hh k (List.mem_append_left _ hk)
    · obtain ⟨k, hk, rfl⟩ := List.mem_map.mp h
      exact hy ▸ hh k (List.mem_append_right _ hk)

/-- Index safety, one component: on location arrays of length `n` every `_add_*` of both
back-ends stays in range, takes `max()` over a non-empty slice, and hands back an array of length
`n`, provided the component satisfies `CompOk n`. -/
theorem addComp_ok {n : Nat} (b : Backend) (dl : Bool) {ys xs : List Rat} (herald : List Nat)
    (comp : Comp K) (hy : ys.length = n) (hx : xs.length = n) (hc : CompOk n comp) :
    OkLen n (addComp b dl ys herald xs comp) := by
  cases comp with
  | prim p =>
    cases p with
    | bs m1 m2 c s cv => exact addBs_ok b herald hy hx hc.1 hc.2.1
    | ps m p => exact addPs_ok b hy hx hc
    | loss m a c =>
      simp only [addComp]
      split
      · exact addPs_ok b hy hx hc
      · exact OkLen.ok hx
    | barrier ms =>
      cases b with
      | svg => exact addBarrierSvg_ok hy hx hc
      | mpl => exact addBarrierMpl_ok hy hx hc
    | swaps σ => exact addSwaps_ok b herald hy hx hc
    | unitary m u => exact addUnitary_ok b herald hy hx hc.1 hc.2
  | group cs m1 m2 hin hout => exact addGroup_ok b herald hy hx hc.1 hc.2.1 hc.2.2

theorem foldlM_addComp_ok {n : Nat} (b : Backend) (dl : Bool) {ys : List Rat} (herald : List Nat)
    (spec : List (Comp K)) {xs : List Rat} (hy : ys.length = n) (hx : xs.length = n)
    (hc : ∀ comp ∈ spec, CompOk n comp) :
    OkLen n (spec.foldlM (addComp b dl ys herald) xs) := by
  induction spec generalizing xs with
  | nil => exact OkLen.ok hx
  | cons comp rest ih =>
    obtain ⟨xs', h', hl⟩ := addComp_ok b dl herald comp hy hx (hc comp (List.mem_cons_self ..))
    rw [List.foldlM_cons, h']
    simp only [ok_bind]
    exact ih hl fun c hc' => hc c (List.mem_cons_of_mem _ hc')

theorem ysGo_length (dy dys : Rat) (herald : List Nat) (k i : Nat) (y : Rat) :
    (ysGo dy dys herald k i y).length = k := by
  induction k generalizing i y with
  | zero => rfl
  | succ k ih => simp [ysGo, ih]

theorem ysOf_length (y0 dy dys : Rat) (herald : List Nat) (n : Nat) :
    (ysOf y0 dy dys herald n).length = n := ysGo_length ..

/-- the labels suffice when the user labels not yet used cover the non-herald modes still to come
(`List.countP` over `i, …, i + k - 1`) -/
theorem fullLabels_ok (herald : List Nat) (labels : List String) (k i cnt : Nat)
    (h : cnt + (List.range' i k).countP (fun j => !herald.contains j) ≤ labels.length) :
    ∃ full, fullLabels herald labels k i cnt = .ok full ∧ full.length = k := by
  induction k generalizing i cnt with
  | zero => exact ⟨[], rfl, rfl⟩
  | succ k ih =>
    rw [List.range'_succ] at h
    unfold fullLabels
    cases hc : herald.contains i with
    | true =>
      rw [List.countP_cons_of_neg (by rw [hc]; decide)] at h
      obtain ⟨rest, hr, hl⟩ := ih (i + 1) cnt h
      refine ⟨"-" :: rest, ?_, congrArg (· + 1) hl⟩
      rw [if_pos rfl, hr]
      rfl
    | false =>
      rw [List.countP_cons_of_pos (by rw [hc]; rfl)] at h
      have hlt : cnt < labels.length :=
        Nat.lt_of_lt_of_le (Nat.lt_add_of_pos_right (Nat.succ_pos _)) h
      obtain ⟨rest, hr, hl⟩ := ih (i + 1) (cnt + 1) (by rwa [Nat.add_assoc, Nat.add_comm 1])
      refine ⟨labels[cnt] :: rest, ?_, congrArg (· + 1) hl⟩
      rw [if_neg Bool.false_ne_true, List.getElem?_eq_getElem hlt]
      dsimp only
      rw [hr]
      rfl

def cnt (p : Nat → Bool) (c : Nat) : Nat := ((List.range c).filter p).length

theorem cnt_le (p : Nat → Bool) (c : Nat) : cnt p c ≤ c :=
  Nat.le_trans (List.length_filter_le p _) (Nat.le_of_eq List.length_range)

theorem modeLabels_good {n : Nat} {herald : List Nat} (labels : Option (List String))
    (hn : herald.Nodup) (hl : ∀ a ∈ herald, a < n)
    (hgood : ∀ l, labels = some l → l.length = n - herald.length) :
    ∃ full, modeLabels n herald labels = .ok full ∧ full.length = n := by
  -- the herald modes and the other modes below `n` make up the `n` modes
  have hb := LW.Proofs.C02Sem.length_freeOf_add_cntLt hn n
  rw [LW.Proofs.C02Sem.cntLt_all herald n hl, LW.Proofs.C02Sem.freeOf,
    ← List.countP_eq_length_filter, List.range_eq_range'] at hb
  unfold modeLabels
  cases labels with
  | none =>
    simp only [pure_eq_ok, ok_bind]
    exact fullLabels_ok herald _ n 0 0 (by rw [List.length_map, List.length_range]; omega)
  | some l =>
    have := hgood l rfl
    simp only [this, ne_eq, not_true_eq_false, if_false, pure_eq_ok, ok_bind]
    exact fullLabels_ok herald _ n 0 0 (by omega)

theorem modeLabels_bad {n : Nat} {herald : List Nat} {l : List String}
    (h : l.length ≠ n - herald.length) : modeLabels n herald (some l) = .error .display := by
  unfold modeLabels
  simp only [h, ne_eq, not_false_eq_true, if_true]
  rfl

theorem inputStubs_ok {n : Nat} (b : Backend) (herald : List Nat) {ys xs : List Rat} (extIn : Dict)
    (hy : ys.length = n) (hx : xs.length = n) : OkLen n (inputStubs b herald ys xs extIn) := by
  unfold inputStubs
  split
  · exact OkLen.ok hx
  · rw [readAll_ok fun i hi => hy ▸ hx ▸ List.mem_range.mp (List.mem_filter.mp hi).1]
    exact OkLen.ok (List.length_mapIdx.trans hx)

theorem drawBody_ok (b : Backend) (c : Circ K) (dl : Bool) {ys : List Rat} (x0 : Rat)
    (hw : WF c) (hy : ys.length = c.n) : OkLen c.n (drawBody b c dl ys x0 addComp) := by
  unfold drawBody
  dsimp only
  obtain ⟨xs1, e1, l1⟩ := inputStubs_ok b c.internal c.extIn hy (List.length_replicate (a := x0))
  obtain ⟨xs2, e2, l2⟩ := foldlM_addComp_ok b dl c.internal c.spec hy l1 hw.compOk
  rw [e1, ok_bind, e2, ok_bind, maxE_ok (List.ne_nil_of_length_pos (l2 ▸ hw.pos)), ok_bind,
    readAll_ok fun i hi => hy ▸ l2 ▸ List.mem_range.mp (List.mem_filter.mp hi).1, ok_bind]
  unfold addHeralds
  rw [readAll_ok fun i hi => hy ▸ (List.mem_append.mp hi).elim (hw.extInLt i) (hw.extOutLt i),
    ok_bind]
  exact OkLen.ok (List.length_mapIdx.trans l2)

theorem modeLabels_cases {n : Nat} {herald : List Nat} (labels : Option (List String))
    (hn : herald.Nodup) (hl : ∀ a ∈ herald, a < n) :
    ((∃ l, labels = some l ∧ l.length ≠ n - herald.length) ∧ modeLabels n herald labels = .error .display) ∨
    ((∀ l, labels = some l → l.length = n - herald.length) ∧
      ∃ full, modeLabels n herald labels = .ok full ∧ full.length = n) := by
  by_cases hg : ∀ l, labels = some l → l.length = n - herald.length
  · exact Or.inr ⟨hg, modeLabels_good labels hn hl hg⟩
  · obtain ⟨l, hg⟩ := Classical.not_forall.mp hg
    obtain ⟨e, hb⟩ := Classical.not_imp.mp hg
    exact Or.inl ⟨⟨l, e, hb⟩, e ▸ modeLabels_bad hb⟩

/-- Normal form: on a circuit satisfying the invariant each back-end is the label block followed by
a drawing that cannot fail — at which point of `draw()` the labels are checked makes no difference.
For svg `F` is chosen after the case split on `modeLabels` (a dummy where the labels are rejected, a
constant where they are accepted), so the equation only transfers error and success. -/
theorem drawSvg_eq (c : Circ K) (o : Opts) (hw : WF c) :
    ∃ F : List String → Out, drawSvg c o = (modeLabels c.n c.internal o.labels).map F := by
  rcases modeLabels_cases (n := c.n) o.labels hw.intNodup hw.intLt with ⟨-, e⟩ | ⟨-, full, ef, lf⟩
  · refine ⟨fun l => ⟨0, 0, [], l⟩, ?_⟩
    unfold drawSvg drawSvgWith
    dsimp only
    rw [e]
    rfl
  · unfold drawSvg drawSvgWith
    dsimp only
    have hy := ysOf_length 125 125 75 c.internal c.n
    obtain ⟨xs, ex, lx⟩ := drawBody_ok .svg c o.displayLoss
      (100 + (if nmaxL (full.map String.length) > 4
        then ((nmaxL (full.map String.length) - 4 : Nat) : Rat) * (35 / 2) else 0) + 50) hw hy
    rw [ef, ok_bind,
      nmaxE_ok (List.ne_nil_of_length_pos (List.length_map (as := full) _ ▸ lf ▸ hw.pos)), ok_bind,
      readAll_ok fun i hi => Nat.lt_of_lt_of_eq (lf ▸ List.mem_range.mp hi) hy.symm, ok_bind,
      ex, ok_bind,
      maxE_ok (List.ne_nil_of_length_pos (List.length_map (as := xs) _ ▸ lx ▸ hw.pos)), ok_bind,
      maxE_ok (List.ne_nil_of_length_pos (Nat.lt_of_lt_of_eq hw.pos hy.symm)), ok_bind,
      readAll_ok fun i hi => Nat.lt_of_lt_of_eq (List.mem_range.mp hi) hy.symm]
    exact ⟨fun _ => _, rfl⟩

theorem drawMpl_eq (c : Circ K) (o : Opts) (hw : WF c) :
    ∃ F : List String → Out, drawMpl c o = (modeLabels c.n c.internal o.labels).map F := by
  unfold drawMpl drawMplWith
  dsimp only
  have hy := ysOf_length 0 1 (3 / 5) c.internal c.n
  obtain ⟨xs, ex, lx⟩ := drawBody_ok .mpl c o.displayLoss (1 / 2) hw hy
  rw [ex, ok_bind, maxE_ok (List.ne_nil_of_length_pos (lx ▸ hw.pos)), ok_bind,
    maxE_ok (List.ne_nil_of_length_pos (Nat.lt_of_lt_of_eq hw.pos hy.symm)), ok_bind]
  exact ⟨_, rfl⟩

theorem display_eq (c : Circ K) (o : Opts) (hw : WF c) :
    ∃ F : List String → Out, display c o =
      if o.dtype = "mpl" ∨ o.dtype = "svg" then (modeLabels c.n c.internal o.labels).map F
      else .error .display := by
  unfold display
  by_cases hm : o.dtype = "mpl"
  · obtain ⟨F, e⟩ := drawMpl_eq c o hw
    exact ⟨F, by rw [if_pos hm, if_pos (Or.inl hm), e]⟩
  · by_cases hs : o.dtype = "svg"
    · obtain ⟨F, e⟩ := drawSvg_eq c o hw
      exact ⟨F, by rw [if_neg hm, if_pos hs, if_pos (Or.inr hs), e]⟩
    · exact ⟨fun l => ⟨0, 0, [], l⟩, by rw [if_neg hm, if_neg hs, if_neg (not_or.mpr ⟨hm, hs⟩)]⟩

theorem display_cases (c : Circ K) (o : Opts) (hw : WF c) :
    (BadOpts c o ∧ display c o = .error .display) ∨ (¬ BadOpts c o ∧ ∃ out, display c o = .ok out) := by
  obtain ⟨F, e⟩ := display_eq c o hw
  rw [e]
  by_cases ht : o.dtype = "mpl" ∨ o.dtype = "svg"
  · rw [if_pos ht]
    rcases modeLabels_cases (n := c.n) o.labels hw.intNodup hw.intLt with ⟨hb, e⟩ | ⟨hg, full, ef, -⟩
    · exact Or.inl ⟨Or.inr hb, by rw [e]; rfl⟩
    · refine Or.inr ⟨?_, F full, by rw [ef]; rfl⟩
      rintro (⟨h1, h2⟩ | ⟨l, hl, hne⟩)
      · exact ht.elim h2 h1
      · exact hne (hg l hl)
  · rw [if_neg ht]
    exact Or.inl ⟨Or.inl ⟨fun h => ht (Or.inr h), fun h => ht (Or.inl h)⟩, rfl⟩

theorem display_good (c : Circ K) (o : Opts) (hw : WF c) (hg : ¬ BadOpts c o) :
    ∃ out, display c o = .ok out :=
  (display_cases c o hw).elim (fun h => absurd h.1 hg) And.right

theorem display_bad (c : Circ K) (o : Opts) (hw : WF c) (hb : BadOpts c o) :
    display c o = .error .display :=
  (display_cases c o hw).elim And.right fun h => absurd hb h.1

theorem display_options_decision (c : Circ K) (o : Opts) (hw : WF c) :
    display c o = .error .display ↔ BadOpts c o :=
  ⟨fun h => (display_cases c o hw).elim And.left fun ⟨_, _, e⟩ => (nomatch e.symm.trans h),
    display_bad c o hw⟩

theorem not_bad_iff (c : Circ K) (o : Opts) :
    ¬ BadOpts c o ↔ (o.dtype = "svg" ∨ o.dtype = "mpl") ∧
      ∀ l, o.labels = some l → l.length = c.n - c.internal.length := by
  unfold BadOpts
  rw [not_or, Decidable.not_and_iff_not_or_not, Decidable.not_not, Decidable.not_not, not_exists]
  exact and_congr_right fun _ => forall_congr' fun l => by rw [not_and, Decidable.not_not]

/-- modes a leaf component reads or writes: the display model's own list, equal to `Prim.modes`
(LW/Proofs/CircInv.lean) by `primModes_eq` of LW.Proofs.C19Built -/
def primModes : Prim K → List Nat
  | .bs m1 m2 .. => [m1, m2]
  | .ps m _ => [m]
  | .loss m .. => [m]
  | .barrier ms => ms
  | .swaps σ => σ.keys ++ σ.vals
  | .unitary m u => (List.range u.n).map (· + m)

/-- the display model's own `Comp.modes` (LW/Proofs/CircInv.lean): the same function written over
`primModes`; no lemma states the equality, `primModes_eq` on the leaves is all that is used -/
def compModes : Comp K → List Nat
  | .prim p => primModes p
  | .group cs .. => cs.flatMap primModes

/-- what the drawing needs of a spec entry beyond "its modes are modes of the circuit": a unitary
block is not 0×0; a beam splitter acts on two different modes; the box of a group and the heralds
it shows lie inside the circuit -/
def ShapeOk (n : Nat) : Comp K → Prop
  | .prim (.bs m1 m2 ..) => m1 ≠ m2
  | .prim (.unitary _ u) => 0 < u.n
  | .group _ m1 m2 hin hout => m1 < n ∧ m2 < n ∧ ∀ k ∈ hin.keys ++ hout.keys, k + min m1 m2 < n
  | _ => True

theorem compOk_prim_iff {n : Nat} (p : Prim K) :
    CompOk n (.prim p) ↔ (∀ m ∈ primModes p, m < n) ∧ ShapeOk n (.prim p) := by
  cases p with
  | bs m1 m2 c s cv =>
    show m1 < n ∧ m2 < n ∧ m1 ≠ m2 ↔ (∀ m ∈ [m1, m2], m < n) ∧ m1 ≠ m2
    simp only [List.forall_mem_cons, List.not_mem_nil, false_imp_iff, implies_true, and_true,
      and_assoc]
  | ps m p =>
    show m < n ↔ (∀ x ∈ [m], x < n) ∧ True
    rw [List.forall_mem_singleton, and_true]
  | loss m a c =>
    show m < n ↔ (∀ x ∈ [m], x < n) ∧ True
    rw [List.forall_mem_singleton, and_true]
  | barrier ms => exact (and_iff_left trivial).symm
  | swaps σ => exact (and_iff_left trivial).symm
  | unitary m u =>
    show 0 < u.n ∧ m + u.n ≤ n ↔ (∀ x ∈ (List.range u.n).map (· + m), x < n) ∧ 0 < u.n
    constructor
    · rintro ⟨hp, hle⟩
      refine ⟨fun x hx => ?_, hp⟩
      obtain ⟨r, hr, rfl⟩ := List.mem_map.mp hx
      exact Nat.lt_of_lt_of_le (Nat.add_lt_add_right (List.mem_range.mp hr) m)
        (Nat.add_comm m u.n ▸ hle)
    · rintro ⟨h, hp⟩
      -- the last mode of the block
      have := h (u.n - 1 + m) (List.mem_map.mpr
        ⟨u.n - 1, List.mem_range.mpr (Nat.sub_one_lt (Nat.ne_of_gt hp)), rfl⟩)
      exact ⟨hp, by omega⟩

theorem compOk_of_modes {n : Nat} (comp : Comp K) (hm : ∀ m ∈ compModes comp, m < n)
    (hs : ShapeOk n comp) : CompOk n comp := by
  cases comp with
  | prim p => exact (compOk_prim_iff p).mpr ⟨hm, hs⟩
  | group cs m1 m2 hin hout => exact hs

end LW.Disp
