/-
  LW.Model.ProcTomo — process tomography and gate fidelity (C16).

  Mirrors lightworks/tomography/{process_tomography, process_tomography_li,
  process_tomography_mle, gate_fidelity, utils, mappings}.py:
    `RHO_MAPPING`, `INPUT_MAPPING`, `TOMO_INPUTS`, `ProcessTomography._run_required_experiments`
    (through `runExperiments`), `LIProcessTomography.process` (transform matrix rows, the linear
    solve), `choi_from_unitary`, `MLETomographyAlgorithm._n_vec_from_data/_a_mat/_p_vec`,
    `GateFidelity.process/_calculate_alpha_and_u_basis`.

  Externals are parameters with explicit contracts:
    * `np.linalg.pinv(T) @ λ`   — for the invertible `T` of this file the unique solution of
                                   `T x = λ`; the model computes it in closed form (`liInverse`,
                                   from the dual bases of the input states and the Paulis) and the
                                   theorems show `liInverse` is the two-sided inverse of `liApply`;
    * `np.linalg.solve`         — the unique expansion coefficients of a Pauli string in the
                                   input density matrices (`alphaCoeff`, closed form);
    * the projected-gradient loop of `pgdb` — its update rule and projections are modelled in
                                   LW.Model.MLEProj, its cost, gradient and line search are not;
                                   `eigh`, `sqrtm` — not modelled (DESIGN §10).

  F8 / F9: the definitions `choiFromUnitary` and `pVec` follow the REPAIRED code (column-stacking;
  no transpose); the pinned variants are kept as `choiFromUnitaryPinned`, `pVecPinned`.
  Core Lean only.
-/
import LW.Model.Tomo

namespace LW.Tomo

variable {K : Type}

/-! ### input states -/

inductive InLabel | Xp | Xm | Yp | Ym | Zp | Zm
deriving DecidableEq, Repr, Inhabited

def InLabel.toString : InLabel → String
  | .Xp => "X+" | .Xm => "X-" | .Yp => "Y+" | .Ym => "Y-" | .Zp => "Z+" | .Zm => "Z-"

def InLabel.parse? : String → Option InLabel
  | "X+" => some .Xp | "X-" => some .Xm | "Y+" => some .Yp | "Y-" => some .Ym
  | "Z+" => some .Zp | "Z-" => some .Zm | _ => none

/-- `TOMO_INPUTS` of `process_tomography_li.py` and `gate_fidelity.py` -/
def tomoInputsLI : List InLabel := [.Zp, .Zm, .Xp, .Yp]
/-- `TOMO_INPUTS` of `process_tomography_mle.py` -/
def tomoInputsMLE : List InLabel := [.Xp, .Xm, .Yp, .Ym, .Zp, .Zm]

abbrev Ins := List InLabel

def Ins.toString (l : Ins) : String := ",".intercalate (l.map InLabel.toString)

section Matrices
variable [Add K] [Mul K] [Neg K] [Zero K] [One K] [Inv K]

/-- `1/2` -/
def half : K := (1 + 1 : K)⁻¹

/-- `RHO_MAPPING` -/
def rhoM (i : K) : InLabel → M K
  | .Xp => mat2 half half half half
  | .Xm => mat2 half (-half) (-half) half
  | .Yp => mat2 half (-(i * half)) (i * half) half
  | .Ym => mat2 half (i * half) (-(i * half)) half
  | .Zp => mat2 1 0 0 0
  | .Zm => mat2 0 0 0 1

/-- `INPUT_MAPPING[label][0]`: 0 for `State([1,0])`, 1 for `State([0,1])` -/
def inputBit : InLabel → Nat
  | .Xp => 0 | .Xm => 1 | .Yp => 0 | .Ym => 1 | .Zp => 0 | .Zm => 1

/-- unitary of `INPUT_MAPPING[label][1]`: `H`, the circuit `H; S` (matrix `S·H`), `I` -/
def inputU (i h : K) : InLabel → M K
  | .Xp => hM h | .Xm => hM h
  | .Yp => (sM i).mul (hM h) | .Ym => (sM i).mul (hM h)
  | .Zp => M.one 2 | .Zm => M.one 2

def rhoKron (i : K) (ins : Ins) : M K := kronList (ins.map (rhoM i))

def scale (c : K) (A : M K) : M K := M.ofFn A.n fun r k => c * A.get r k
def madd (A B : M K) : M K := M.ofFn A.n fun r k => A.get r k + B.get r k
def conjM [HasConj K] (A : M K) : M K := M.ofFn A.n fun r k => conj (A.get r k)

/-- the channel of the unitary (or scaled unitary) `V`: `ρ ↦ V ρ V†` -/
def channel [HasConj K] (V rho : M K) : M K := (V.mul rho).mul V.dagger

/-! ### reference Choi matrix -/

/-- `choi_from_unitary` (repaired, F9): `np.outer(U.T.flatten(), conj(U.T.flatten()))`, i.e.
`C[(a,c),(b,d)] = V[c,a]·conj V[d,b]` — the convention under which
`E(ρ)[c,d] = Σ_{a,b} ρ[a,b] C[(a,c),(b,d)]`, the one linear inversion and MLE reconstruct -/
def choiFromUnitary [HasConj K] (V : M K) : M K :=
  M.ofFn (V.n * V.n) fun j k =>
    V.get (j % V.n) (j / V.n) * conj (V.get (k % V.n) (k / V.n))

/-- `choi_from_unitary` as pinned (`U.flatten()`, row-stacking) -/
def choiFromUnitaryPinned [HasConj K] (V : M K) : M K :=
  M.ofFn (V.n * V.n) fun j k =>
    V.get (j / V.n) (j % V.n) * conj (V.get (k / V.n) (k % V.n))

/-! ### linear inversion -/

/-- the Frobenius-type pairing `Σ_{j,k} A[j,k]·B[j,k]` (`row @ vec(B)`) -/
def pairing (A B : M K) : K := M.sumN A.n fun j => M.sumN A.n fun k => A.get j k * B.get j k

/-- the matrix whose flattening is the row of `transform_matrix` for `(in_s, meas)`:
`conj(vec(kron(conj ρ, P))) = vec(kron(ρ, conj P))` -/
def liRowMat [HasConj K] (i : K) (ins : Ins) (meas : Meas) : M K :=
  conjM (kron (conjM (rhoKron i ins)) (pauliKron i meas))

/-- `(transform_matrix @ vec(C))[(in_s, meas)]` -/
def liApply [HasConj K] (i : K) (C : M K) (ins : Ins) (meas : Meas) : K :=
  pairing (liRowMat i ins meas) C

/-- dual basis of `(Z+, Z-, X+, Y+)` under `pairing` -/
def dualRho (i : K) : InLabel → M K
  | .Zp => mat2 1 (-(half * (1 + i))) (-(half * (1 + -i))) 0
  | .Zm => mat2 0 (-(half * (1 + i))) (-(half * (1 + -i))) 1
  | .Xp => mat2 0 1 1 0
  | .Yp => mat2 0 i (-i) 0
  | _ => mat2 0 0 0 0

/-- dual basis of the conjugated Paulis: `P/2` -/
def dualPauli (i : K) (p : Pauli) : M K := scale half (pauliM i p)

/-- closed form of `pinv(transform_matrix) @ λ` reshaped to a matrix: the solution of
`liApply C = λ`.  `lams` is the item list of the `lambdas` dict. -/
def liInverse (i : K) (n : Nat) (lams : List ((Ins × Meas) × K)) : M K :=
  let terms := lams.map fun e =>
    (e.2, kron (kronList (e.1.1.map (dualRho i))) (kronList (e.1.2.map (dualPauli i))))
  M.ofFn (2 ^ n * 2 ^ n) fun j k => lsum (terms.map fun t => t.1 * t.2.get j k)

end Matrices

/-! ### running the experiments -/

section Run
variable [Add K] [Mul K] [Neg K] [Zero K] [One K] [Inv K] [DecidableEq K]

/-- `ProcessTomography._run_required_experiments(inputs)` as a function of the order in which
the required settings were enumerated and of the results the callback returned
(input-major, `order`-minor); returns the `full_results` item list -/
def runExperiments (n : Nat) (inputs : List Ins) (order : List Meas) (rs : List (Res K)) :
    Except Err (List ((Ins × Meas) × Res K)) := do
  let per := order.length
  -- `zip(req_measurements, results[per*i : per*(i+1)], strict=True)` raises on a short slice
  let sorted ← (inputs.zipIdx).mapM fun (ins, idx) =>
    let slice := (rs.drop (per * idx)).take per
    if slice.length ≠ per then throw .value else pure (ins, order.zip slice)
  let full ← sorted.mapM fun (ins, d) =>
    (tomoMeasurements n).mapM fun meas =>
      match lookup d (meas.map toZ) with
      | some r => pure ((ins, meas), r)
      | none => throw .other
  pure full.flatten

/-- `LIProcessTomography._calculate_expectation_values` -/
def expectationValues (full : List ((Ins × Meas) × Res K)) : Except Err (List ((Ins × Meas) × K)) :=
  full.mapM fun e => do
    let v ← expectation e.1.2 e.2
    pure (e.1, v)

/-- `LIProcessTomography.process()` -/
def liProcess (i : K) (n : Nat) (order : List Meas) (rs : List (Res K)) : Except Err (M K) := do
  let full ← runExperiments n (combineAll tomoInputsLI n) order rs
  let lams ← expectationValues full
  pure (liInverse i n lams)

/-! ### gate fidelity -/

/-- coefficients of the Pauli matrices in `(Z+, Z-, X+, Y+)`:  the solution of
`column_stack(vec ρ_k) α = vec(P)` (`np.linalg.solve`) -/
def alphaCoeff : Pauli → InLabel → K
  | .I, .Zp => 1 | .I, .Zm => 1
  | .Z, .Zp => 1 | .Z, .Zm => -1
  | .X, .Zp => -1 | .X, .Zm => -1 | .X, .Xp => 1 + 1
  | .Y, .Zp => -1 | .Y, .Zm => -1 | .Y, .Yp => 1 + 1
  | _, _ => 0

def lprod (l : List K) : K := l.foldr (· * ·) 1

/-- n-qubit coefficient: the product over the qubits -/
def alphaN (ps : Meas) (ins : Ins) : K := lprod ((ps.zip ins).map fun pi => alphaCoeff pi.1 pi.2)

/-- `list(PAULI_MAPPING)` order -/
def Pauli.basisOrder : List Pauli := [.I, .X, .Y, .Z]

variable [HasConj K]

/-- the sum of equation 19: `Σ_i Σ_j α_ij · tr(U · U_i† · U† · ρ_j)` and the fidelity.
`rhos` are the tomographically reconstructed output density matrices for `combineAll
tomoInputsLI n`, in that order. -/
def gateFidelityOf (i : K) (n : Nat) (target : M K) (rhos : List (Ins × M K)) : K :=
  let total := lsum ((combineAll Pauli.basisOrder n).map fun ps =>
    let uj := pauliKron i ps
    let m := (target.mul uj.dagger).mul target.dagger
    lsum (rhos.map fun ir => alphaN ps ir.1 * trace (m.mul ir.2)))
  let d : K := twoPow n
  (total + d * d) * (d * d * (d + 1))⁻¹

/-- `GateFidelity.process(target)` (before `np.real`) -/
def gateFidelity (i : K) (n : Nat) (order : List Meas) (rs : List (Res K)) (target : M K) :
    Except Err K := do
  let inputs := combineAll tomoInputsLI n
  let full ← runExperiments n inputs order rs
  let rhos ← inputs.mapM fun ins => do
    let mine := (full.filter fun e => e.1.1 == ins).map fun e => (e.1.2, e.2)
    let rho ← densityMatrix i n mine
    pure (ins, rho)
  -- `target @ conj(uj.T) @ ...` : numpy raises ValueError on a dimension mismatch
  if target.n ≠ 2 ^ n then throw .value
  pure (gateFidelityOf i n target rhos)

/-- the value the property names: `(|tr(U†V)|² + d) / (d(d+1))` -/
def avgGateFidelity (n : Nat) (target V : M K) : K :=
  let t := trace (target.dagger.mul V)
  let d : K := twoPow n
  (t * conj t + d) * (d * (d + 1))⁻¹

/-! ### maximum likelihood: the data pipeline handed to the optimiser -/

/-- `_n_vec_from_data` : `[(1+n)/2, (1-n)/2]` per (input, non-trivial measurement), divided by
`len(data)` -/
def nVec (n : Nat) (data : List ((Ins × Meas) × K)) : Except Err (List K) := do
  let len : K := lsum (data.map fun _ => (1 : K))
  let rows ← (combineAll tomoInputsMLE n).mapM fun ins =>
    (tomoMeasurements n true).mapM fun meas =>
      match (data.find? fun e => e.1 == (ins, meas)) with
      | some e => pure [(1 + e.2) * half * len⁻¹, (1 + -e.2) * half * len⁻¹]
      | none => throw .other /- KeyError -/
  pure rows.flatten.flatten

/-- the matrices whose flattenings are the two rows of `_a_mat` for `(in_s, meas)` -/
def aRowMats (i : K) (n : Nat) (ins : Ins) (meas : Meas) : M K × M K :=
  let id := M.one (2 ^ n)
  let obs := pauliKron i meas
  let c : K := (twoPow (2 * n))⁻¹
  (scale c (kron (rhoKron i ins) (scale half (madd id obs)).transpose),
   scale c (kron (rhoKron i ins) (scale half (madd id (scale (-1) obs))).transpose))

/-- `_p_vec(choi)` before clipping (repaired, F8: `A @ vec(choi)`) -/
def pVec (i : K) (n : Nat) (C : M K) : List K :=
  (combineAll tomoInputsMLE n).flatMap fun ins =>
    (tomoMeasurements n true).flatMap fun meas =>
      let ab := aRowMats i n ins meas
      [pairing ab.1 C, pairing ab.2 C]

/-- `_p_vec(choi)` as pinned: `A @ vec(choi.T)` -/
def pVecPinned (i : K) (n : Nat) (C : M K) : List K := pVec i n C.transpose

/-- `MLEProcessTomography.process()` up to the call of the optimiser: the `nij` dict -/
def mleData (n : Nat) (order : List Meas) (rs : List (Res K)) :
    Except Err (List ((Ins × Meas) × K)) := do
  let full ← runExperiments n (combineAll tomoInputsMLE n) order rs
  let keep := full.filter fun e => e.1.2 != List.replicate n Pauli.I
  expectationValues keep

end Run

end LW.Tomo
