/-
  LW.Proofs.C14Cell — the matrix side of the Reck mesh: a 2×2 block on two modes as an algebra
  homomorphism (`E2`), reversal of the mode order, the unit-cell identity
  ps · bs(½) · ps · bs(½) = bs_matrix, and `Realises`: valid settings whose `Reck.synth` is a given
  matrix, which is all the two halves of the argument (decomposition, mesh) share.
-/
import Mathlib.Data.Matrix.Mul
import Mathlib.LinearAlgebra.Matrix.Notation
import Mathlib.LinearAlgebra.Matrix.ConjTranspose
import Mathlib.Tactic.FinCases
import Mathlib.Tactic.LinearCombination
import Mathlib.Tactic.Ring
import LW.Proofs.MatAlg
import LW.Proofs.CompMat
import LW.Proofs.CircuitWf
import LW.Model.Reck

open Matrix

namespace LW.Proofs.C14

variable {K : Type} [CommRing K]

/-- the selector of the two modes: column 0 is the basis vector of `m1`, column 1 that of `m2` -/
def sel {n : Nat} (m1 m2 : Fin n) : Matrix (Fin n) (Fin 2) K :=
  fun r a => if r = (if a = 0 then m1 else m2) then 1 else 0

/-- the 2×2 block `A` on modes `(m1, m2)`, identity elsewhere -/
def E2 {n : Nat} (m1 m2 : Fin n) (A : Matrix (Fin 2) (Fin 2) K) : Matrix (Fin n) (Fin n) K :=
  emb (sel m1 m2) A

theorem selT_mul_sel {n : Nat} {m1 m2 : Fin n} (h : m1 ≠ m2) :
    (sel (K := K) m1 m2)ᵀ * sel (K := K) m1 m2 = 1 := by
  ext a b
  simp only [Matrix.mul_apply, Matrix.transpose_apply, sel, ite_mul, one_mul, zero_mul,
    Finset.sum_ite_eq', Finset.mem_univ, if_true, Matrix.one_apply]
  fin_cases a <;> fin_cases b <;> simp [h, h.symm]

variable [StarRing K] in
theorem sel_conjTranspose {n : Nat} (m1 m2 : Fin n) : (sel (K := K) m1 m2)ᴴ = (sel m1 m2)ᵀ := by
  ext a r
  simp only [Matrix.conjTranspose_apply, Matrix.transpose_apply, sel, apply_ite star, star_one,
    star_zero]

theorem E2_mul {n : Nat} {m1 m2 : Fin n} (h : m1 ≠ m2) (A B : Matrix (Fin 2) (Fin 2) K) :
    E2 m1 m2 A * E2 m1 m2 B = E2 m1 m2 (A * B) :=
  emb_mul (selT_mul_sel h) A B

theorem E2_one {n : Nat} (m1 m2 : Fin n) : E2 m1 m2 (1 : Matrix (Fin 2) (Fin 2) K) = 1 :=
  emb_one _

variable [StarRing K] in
theorem E2_conjTranspose {n : Nat} (m1 m2 : Fin n) (A : Matrix (Fin 2) (Fin 2) K) :
    (E2 m1 m2 A)ᴴ = E2 m1 m2 Aᴴ :=
  emb_conjTranspose (sel_conjTranspose m1 m2) A

variable [StarRing K] in
theorem E2_unitary {n : Nat} {m1 m2 : Fin n} (h : m1 ≠ m2) {A : Matrix (Fin 2) (Fin 2) K}
    (hA : Aᴴ * A = 1) : E2 m1 m2 A ∈ Matrix.unitaryGroup (Fin n) K :=
  emb_mem_unitaryGroup (selT_mul_sel h) (sel_conjTranspose m1 m2)
    (Matrix.mem_unitaryGroup_iff'.mpr hA)

theorem E2_apply {n : Nat} {m1 m2 : Fin n} (h : m1 ≠ m2) (A : Matrix (Fin 2) (Fin 2) K)
    (r k : Fin n) :
    E2 m1 m2 A r k =
      if r = m1 ∧ k = m1 then A 0 0 else if r = m1 ∧ k = m2 then A 0 1
      else if r = m2 ∧ k = m1 then A 1 0 else if r = m2 ∧ k = m2 then A 1 1
      else if r = k then 1 else 0 := by
  have h' := h.symm
  simp only [E2, emb, Matrix.add_apply, Matrix.mul_apply, Matrix.transpose_apply, sel, Fin.sum_univ_two,
    Matrix.sub_apply, Matrix.one_apply, Fin.isValue, if_true, one_ne_zero, if_false]
  rcases eq_or_ne r m1 with rfl | h1
  · rcases eq_or_ne k r with rfl | h3
    · simp [h]
    · rcases eq_or_ne k m2 with rfl | h4
      · simp [h, h']
      · simp [h, h3, h4, h3.symm]
  · rcases eq_or_ne r m2 with rfl | h2
    · rcases eq_or_ne k m1 with rfl | h3
      · simp [h, h']
      · rcases eq_or_ne k r with rfl | h4
        · simp [h']
        · simp [h', h3, h4, h4.symm]
    · simp [h1, h2]

theorem E2_swap {n : Nat} {m1 m2 : Fin n} (h : m1 ≠ m2) (A : Matrix (Fin 2) (Fin 2) K) :
    E2 m1 m2 A = E2 m2 m1 !![A 1 1, A 1 0; A 0 1, A 0 0] := by
  have h' := h.symm
  ext r k
  rw [E2_apply h, E2_apply h']
  rcases eq_or_ne r m1 with rfl | h1
  · rcases eq_or_ne k r with rfl | h3
    · simp [h]
    · rcases eq_or_ne k m2 with rfl | h4
      · simp [h, h']
      · simp [h, h3, h4]
  · rcases eq_or_ne r m2 with rfl | h2
    · rcases eq_or_ne k m1 with rfl | h3
      · simp [h, h']
      · rcases eq_or_ne k r with rfl | h4
        · simp [h']
        · simp [h', h3, h4]
    · simp [h1, h2]

theorem mul_E2_apply {n : Nat} {m1 m2 : Fin n} (h : m1 ≠ m2) (X : Matrix (Fin n) (Fin n) K)
    (A : Matrix (Fin 2) (Fin 2) K) (r k : Fin n) :
    (X * E2 m1 m2 A) r k =
      if k = m1 then X r m1 * A 0 0 + X r m2 * A 1 0
      else if k = m2 then X r m1 * A 0 1 + X r m2 * A 1 1
      else X r k := by
  rw [Matrix.mul_apply]
  simp only [E2_apply h]
  by_cases h3 : k = m1
  · subst h3
    rw [if_pos rfl, Finset.sum_eq_add_of_mem k m2 (Finset.mem_univ _) (Finset.mem_univ _) h]
    · simp [Ne.symm h]
    · intro c _ hc
      simp [hc.1, hc.2]
  · by_cases h4 : k = m2
    · subst h4
      rw [if_neg h3, if_pos rfl,
        Finset.sum_eq_add_of_mem m1 k (Finset.mem_univ _) (Finset.mem_univ _) h]
      · simp [Ne.symm h]
      · intro c _ hc
        simp [hc.1, hc.2]
    · rw [if_neg h3, if_neg h4, Finset.sum_eq_single k]
      · simp [h3, h4]
      · intro c _ hc
        simp [h3, h4, hc]
      · simp

theorem toMatN_embed2 {n m1 m2 : Nat} (h1 : m1 < n) (h2 : m2 < n) (hne : m1 ≠ m2) (a b c d : K) :
    (embed2 n m1 m2 a b c d).toMatN n = E2 ⟨m1, h1⟩ ⟨m2, h2⟩ !![a, b; c, d] := by
  ext r k
  have hne' : (⟨m1, h1⟩ : Fin n) ≠ ⟨m2, h2⟩ := fun e => hne (Fin.mk.inj e)
  rw [E2_apply hne']
  simp only [M.toMatN, get_embed2 _ _ _ _ _ _ r.2 k.2, Fin.ext_iff]
  simp

theorem toMatN_embed1_left {n m1 m2 : Nat} (h1 : m1 < n) (h2 : m2 < n) (hne : m1 ≠ m2) (p : K) :
    (embed1 n m1 p).toMatN n = E2 ⟨m1, h1⟩ ⟨m2, h2⟩ !![p, 0; 0, 1] := by
  rw [← toMatN_embed2 h1 h2 hne]
  ext r k
  simp only [M.toMatN, get_embed1 _ _ r.2 k.2, get_embed2 _ _ _ _ _ _ r.2 k.2]
  by_cases e : (r : Nat) = k
  · by_cases e1 : (k : Nat) = m1
    · simp [e, e1]
    · by_cases e2 : (k : Nat) = m2 <;> simp [e, e1, e2, Ne.symm hne]
  · have : ¬ ((r : Nat) = m1 ∧ (k : Nat) = m1) := by omega
    have : ¬ ((r : Nat) = m2 ∧ (k : Nat) = m2) := by omega
    simp [*]

theorem toMatN_embed1_right {n m1 m2 : Nat} (h1 : m1 < n) (h2 : m2 < n) (hne : m1 ≠ m2) (p : K) :
    (embed1 n m2 p).toMatN n = E2 ⟨m1, h1⟩ ⟨m2, h2⟩ !![1, 0; 0, p] := by
  rw [toMatN_embed1_left h2 h1 (Ne.symm hne), E2_swap (fun e => hne (Fin.mk.inj e).symm)]
  simp

/-- `np.flip(·, axis=(0,1))` on a matrix -/
def Rev {n : Nat} (X : Matrix (Fin n) (Fin n) K) : Matrix (Fin n) (Fin n) K :=
  X.submatrix Fin.rev Fin.rev

theorem Rev_mul {n : Nat} (X Y : Matrix (Fin n) (Fin n) K) : Rev (X * Y) = Rev X * Rev Y := by
  unfold Rev
  exact (Matrix.submatrix_mul_equiv X Y Fin.rev Fin.revPerm Fin.rev).symm

theorem Rev_one {n : Nat} : Rev (1 : Matrix (Fin n) (Fin n) K) = 1 := by
  unfold Rev
  exact Matrix.submatrix_one_equiv Fin.revPerm

omit [CommRing K] in
theorem Rev_Rev {n : Nat} (X : Matrix (Fin n) (Fin n) K) : Rev (Rev X) = X := by
  ext r k; simp [Rev]

theorem Rev_E2 {n : Nat} {m1 m2 : Fin n} (h : m1 ≠ m2) (A : Matrix (Fin 2) (Fin 2) K) :
    Rev (E2 m1 m2 A) = E2 (Fin.rev m1) (Fin.rev m2) A := by
  have h' : Fin.rev m1 ≠ Fin.rev m2 := fun e => h (Fin.rev_injective e)
  ext r k
  simp only [Rev, Matrix.submatrix_apply]
  rw [E2_apply h, E2_apply h']
  simp only [Fin.rev_eq_iff, Fin.rev_rev]

theorem toMatN_flip {n : Nat} (U : M K) (hU : U.n = n) :
    (Reck.flip U).toMatN n = Rev (U.toMatN n) := by
  subst hU
  ext r k
  simp only [M.toMatN, Rev, Matrix.submatrix_apply, Reck.flip, M.get_ofFn _ r.2 k.2, Fin.val_rev]
  congr 1 <;> omega

/-- `revProd f [x₁, …, x_k] = f x_k ⋯ f x₁`: the first element is applied first (stands rightmost) -/
def revProd {ι : Type} {n : Nat} (f : ι → Matrix (Fin n) (Fin n) K) (l : List ι) :
    Matrix (Fin n) (Fin n) K :=
  (l.reverse.map f).prod

theorem revProd_nil {ι : Type} {n : Nat} (f : ι → Matrix (Fin n) (Fin n) K) : revProd f [] = 1 :=
  rfl

theorem revProd_append {ι : Type} {n : Nat} (f : ι → Matrix (Fin n) (Fin n) K) (l1 l2 : List ι) :
    revProd f (l1 ++ l2) = revProd f l2 * revProd f l1 := by
  simp only [revProd, List.reverse_append, List.map_append, List.prod_append]

theorem revProd_cons {ι : Type} {n : Nat} (f : ι → Matrix (Fin n) (Fin n) K) (x : ι) (l : List ι) :
    revProd f (x :: l) = revProd f l * f x := by
  rw [← List.singleton_append, revProd_append]
  simp only [revProd, List.reverse_singleton, List.map_singleton, List.prod_singleton]

theorem toMatN_foldl_mul {ι : Type} {n : Nat} (f : ι → M K) (hf : ∀ x, (f x).n = n) (l : List ι)
    (U : M K) :
    (l.foldl (fun A x => (f x).mul A) U).toMatN n = revProd (fun x => (f x).toMatN n) l * U.toMatN n := by
  induction l generalizing U with
  | nil => rw [revProd_nil, Matrix.one_mul]; rfl
  | cons x rest ih => rw [List.foldl_cons, ih, M.toMatN_mul _ _ (hf x), revProd_cons, Matrix.mul_assoc]

end LW.Proofs.C14

-- `Reck.CellOk` stands in `LW.Reck`, beside the model's `Reck.Cell`
namespace LW

/-- the algebraic constraints on the results of the trigonometric calls of one nulling step:
`c = cos(θ/2)`, `s = sin(θ/2)` real with `c² + s² = 1`, `w = e^{iθ/2} = c + i·s`, `|e^{iφ}| = 1` -/
structure Reck.CellOk {K : Type} [CommRing K] [StarRing K] (i : K) (x : Reck.Cell K) : Prop where
  c_real : star x.c = x.c
  s_real : star x.s = x.s
  norm : x.c * x.c + x.s * x.s = 1
  w_def : x.w = x.c + i * x.s
  p_unit : x.p * star x.p = 1

end LW

namespace LW.Proofs.C14

open LW.Reck

variable {K : Type} [CommRing K] [StarRing K]

/-- the 2×2 block of `bs_matrix` -/
def Tblk (i : K) (x : Cell K) : Matrix (Fin 2) (Fin 2) K :=
  !![-(x.p * x.s * (i * x.w)), x.c * (i * x.w); x.p * x.c * (i * x.w), x.s * (i * x.w)]

omit [StarRing K] in
theorem toMatN_bsMatrix {n j : Nat} (hj : j + 1 < n) (i : K) (x : Cell K) :
    (bsMatrix i n j (j + 1) x).toMatN n = E2 ⟨j, by omega⟩ ⟨j + 1, hj⟩ (Tblk i x) := by
  unfold bsMatrix Tblk
  exact toMatN_embed2 (by omega) hj (by omega) _ _ _ _

theorem w_unit {i : K} (hi : IsImagUnit i) {x : Cell K} (hx : CellOk i x) : x.w * star x.w = 1 := by
  rw [hx.w_def, star_add, star_mul', hi.star, hx.c_real, hx.s_real]
  linear_combination (-(x.s * x.s)) * hi.sq + hx.norm

theorem Tblk_unitary {i : K} (hi : IsImagUnit i) {x : Cell K} (hx : CellOk i x) :
    (Tblk i x)ᴴ * Tblk i x = 1 := by
  have hg : star (i * x.w) * (i * x.w) = 1 := by
    rw [star_mul', hi.star]
    linear_combination (-(x.w * star x.w)) * hi.sq + w_unit hi hx
  have hp : star x.p * x.p = 1 := by rw [mul_comm]; exact hx.p_unit
  unfold Tblk
  generalize i * x.w = g at hg
  have hc := hx.c_real
  have hs := hx.s_real
  have hn := hx.norm
  ext a b
  fin_cases a <;> fin_cases b <;>
    simp only [Fin.zero_eta, Fin.mk_one, Fin.isValue, Matrix.mul_apply, Fin.sum_univ_two,
      Matrix.conjTranspose_apply, Matrix.of_apply, Matrix.cons_val', Matrix.cons_val_zero,
      Matrix.cons_val_one, Matrix.empty_val', Matrix.cons_val_fin_one, star_neg, star_mul', hc, hs,
      Matrix.one_apply_eq, ne_eq, zero_ne_one, one_ne_zero, not_false_eq_true, Matrix.one_apply_ne]
  · linear_combination (x.s * x.s + x.c * x.c) * (star x.p * x.p) * hg +
      (x.s * x.s + x.c * x.c) * hp + hn
  · ring
  · ring
  · linear_combination (x.c * x.c + x.s * x.s) * hg + hn

/-- the 50:50 `Rx` beam splitter block, `h = √½` -/
def Bblk (i h : K) : Matrix (Fin 2) (Fin 2) K := !![h, i * h; i * h, h]

/-- **unit cell identity** on the two modes, in the circuit's own mode order `(mode, mode+1)`:
phase `e^{iφ}` on `mode+1`, 50:50 splitter, phase `e^{iθ}` on `mode`, 50:50 splitter
equals `bs_matrix(θ, φ)` with its two modes exchanged -/
theorem unit_cell_2x2 {i h : K} (hi : IsImagUnit i) (hh : 2 * (h * h) = 1) {x : Cell K}
    (hx : CellOk i x) :
    Bblk i h * !![x.w * x.w, 0; 0, 1] * Bblk i h * !![1, 0; 0, x.p] =
      !![(Tblk i x) 1 1, (Tblk i x) 1 0; (Tblk i x) 0 1, (Tblk i x) 0 0] := by
  rcases x with ⟨c, s, w, p⟩
  have hn : c * c + s * s = 1 := hx.norm
  have hsq := hi.sq
  -- `B · diag(w², 1) · B = h² · [[w² − 1, i(w² + 1)], [i(w² + 1), 1 − w²]]`, and
  -- `w² − 1 = 2isw`, `w² + 1 = 2cw`
  have hm : w * w - 1 = 2 * (i * s * w) := by
    rw [show w = c + i * s from hx.w_def]
    linear_combination hn - (s * s) * hsq
  have hp : w * w + 1 = 2 * (c * w) := by
    rw [show w = c + i * s from hx.w_def]
    linear_combination (s * s) * hsq - hn
  unfold Bblk Tblk
  rw [Matrix.mul_fin_two, Matrix.mul_fin_two, Matrix.mul_fin_two]
  ext a b
  fin_cases a <;> fin_cases b <;>
    simp only [Fin.zero_eta, Fin.mk_one, Fin.isValue, Matrix.of_apply, Matrix.cons_val',
      Matrix.cons_val_zero, Matrix.cons_val_one, Matrix.empty_val', Matrix.cons_val_fin_one]
  · linear_combination (h * h) * hm + (h * h) * hsq + (i * s * w) * hh
  · linear_combination p * ((i * h * h) * hp + (i * c * w) * hh)
  · linear_combination (i * h * h) * hp + (i * c * w) * hh
  · linear_combination p * (-(h * h) * hm + (h * h * w * w) * hsq - (i * s * w) * hh)

theorem fin_ne_succ {n j : Nat} (h1 : j < n) (h2 : j + 1 < n) : (⟨j, h1⟩ : Fin n) ≠ ⟨j + 1, h2⟩ :=
  Fin.ne_of_val_ne (Nat.succ_ne_self j).symm

/-- the matrix `T` of a `(step, settings)`; `revProd (cellMat i n) cs` is `T_K ⋯ T_1` -/
def cellMat (i : K) (n : Nat) (e : (Nat × Nat) × Cell K) : Matrix (Fin n) (Fin n) K :=
  (bsMatrix i n e.1.2 (e.1.2 + 1) e.2).toMatN n

theorem bsMatrix_unitary {n j : Nat} {i : K} (hi : IsImagUnit i) (hj : j + 1 < n) {x : Cell K}
    (hx : CellOk i x) : (bsMatrix i n j (j + 1) x).toMatN n ∈ Matrix.unitaryGroup (Fin n) K := by
  rw [toMatN_bsMatrix hj]
  exact E2_unitary (fin_ne_succ _ _) (Tblk_unitary hi hx)

theorem revProd_cellMat_unitary {n : Nat} {i : K} (hi : IsImagUnit i) (cs : List ((Nat × Nat) × Cell K))
    (hcs : ∀ e ∈ cs, e.1.2 + 1 < n ∧ CellOk i e.2) :
    revProd (cellMat i n) cs ∈ Matrix.unitaryGroup (Fin n) K :=
  list_prod_mem fun X hX => by
    obtain ⟨e, he, rfl⟩ := List.mem_map.mp hX
    have := hcs e (List.mem_reverse.mp he)
    exact bsMatrix_unitary hi this.1 this.2

omit [StarRing K] in
theorem toMatN_synth (i : K) (n : Nat) (cs : List ((Nat × Nat) × Cell K)) (ends : List K) :
    (synth i n cs ends).toMatN n =
      (Matrix.diagonal fun r : Fin n => ends.getD r.val 1) * revProd (cellMat i n) cs := by
  unfold synth
  rw [M.toMatN_mul _ _ (show (M.ofFn n _).n = n from rfl),
    toMatN_foldl_mul (fun e : (Nat × Nat) × Cell K => bsMatrix i n e.1.2 (e.1.2 + 1) e.2)
      (fun _ => rfl),
    M.toMatN_one, Matrix.mul_one]
  refine congrArg (· * revProd (cellMat i n) cs) ?_
  ext r k
  simp only [M.toMatN, M.get_ofFn _ r.2 k.2, Matrix.diagonal_apply, Fin.ext_iff]

theorem Rev_unitary {n : Nat} {X : Matrix (Fin n) (Fin n) K}
    (hX : X ∈ Matrix.unitaryGroup (Fin n) K) : Rev X ∈ Matrix.unitaryGroup (Fin n) K := by
  rw [Matrix.mem_unitaryGroup_iff'] at hX ⊢
  have : star (Rev X) = Rev (star X) := by
    ext r k; simp [Rev, Matrix.star_apply]
  rw [this, ← Rev_mul, hX, Rev_one]

theorem flip_unitary {n : Nat} (U : M K) (hn : U.n = n)
    (hU : U.toMatN n ∈ Matrix.unitaryGroup (Fin n) K) :
    (flip U).toMatN n ∈ Matrix.unitaryGroup (Fin n) K := by
  rw [toMatN_flip U hn]
  exact Rev_unitary hU

/-- an entry of `phase_map`: the settings of step `(a, j)` under the coordinate `(j + 2a, j)` that
`Reck.decompStep` writes and `Reck.mapCell` looks up -/
def keyed (e : (Nat × Nat) × Cell K) : Key × Cell K := ((e.1.2 + 2 * e.1.1, e.1.2), e.2)

/-- `cs`, `ends` are valid settings of a mesh on `n` modes whose matrix `synth`, in the
decomposition's coordinates, is `W` -/
structure Realises (i : K) (n : Nat) (cs : List ((Nat × Nat) × Cell K)) (ends : List K)
    (W : Matrix (Fin n) (Fin n) K) : Prop where
  cells : ∀ e ∈ cs, e.1.2 + 1 < n ∧ CellOk i e.2
  /-- the residual phases handed to the final phase shifters lie on the unit circle -/
  ends_unit : ∀ k, k < n → ends.getD k 1 * star (ends.getD k 1) = 1
  /-- `D · T_K ⋯ T_1 = W` (`toMatN_synth`) -/
  synth : (synth i n cs ends).toMatN n = W

end LW.Proofs.C14
