/-
  LW.Proofs.C10Lit — unitary blocks of every circuit in a reachable world hold literal numbers only
  (the hypothesis `LitU` of `readU_congr` is an invariant of the histories).
-/
import LW.Proofs.C10Add
import LW.Proofs.C10World
import LW.Proofs.RewriteShape
import LW.Proofs.ApiInv

namespace LW

variable {α K : Type}

/-- `convertNonAdj` emits `p` itself or leaves without a block -/
theorem Prim.mem_convertNonAdj (p q : Prim K) (h : q ∈ p.convertNonAdj) : q = p ∨ q.blockEntries = [] := by
  rcases Prim.convertNonAdj_cases p with e | ⟨m1, m2, c, s, cv, rfl, hna⟩
  · exact Or.inl (List.mem_singleton.mp (e ▸ h))
  · rw [Prim.convertNonAdj_bs_nonadj m1 m2 c s cv hna] at h
    simp only [List.mem_cons, List.not_mem_nil, or_false] at h
    rcases h with rfl | rfl | rfl <;> exact Or.inr rfl

theorem convertNonAdj_prims (spec : List (Comp K)) (q : Prim K) (h : q ∈ primsOf (convertNonAdj spec)) :
    q ∈ primsOf spec ∨ q.blockEntries = [] := by
  rw [primsOf_convertNonAdj] at h
  obtain ⟨p, hp, hq⟩ := List.mem_flatMap.mp h
  exact (Prim.mem_convertNonAdj p q hq).imp_left fun (e : q = p) => e ▸ hp

theorem compressSwaps_prims (spec : List (Comp K)) (q : Prim K) (h : q ∈ primsOf (compressSwaps spec)) :
    q ∈ primsOf spec ∨ q.blockEntries = [] := by
  obtain ⟨c', hc', hq⟩ := List.mem_flatMap.mp h
  rcases compressSwaps_closed (fun c => c ∈ spec ∨ ∃ σ, c = .prim (.swaps σ))
    (fun _ _ _ _ => Or.inr ⟨_, rfl⟩) spec (fun _ => Or.inl) c' hc' with hm | ⟨σ, rfl⟩
  · exact Or.inl (List.mem_flatMap.mpr ⟨c', hm, hq⟩)
  · exact Or.inr (List.mem_singleton.mp hq ▸ rfl)

namespace PCirc

theorem litU_of_prims_sub (c c' : PCirc α K)
    (h : ∀ q ∈ primsOf c'.spec, q ∈ primsOf c.spec ∨ q.blockEntries = []) (hc : c.LitU) : c'.LitU := by
  intro q hq
  rcases h q hq with h1 | h1
  · exact hc q h1
  · rw [litU_iff_block, h1]
    intro x hx; cases hx

theorem addPrims_litU (c : PCirc α K) (ps : List (Prim (Sym α K))) (hc : c.LitU)
    (hps : ∀ p ∈ ps, p.blockEntries = []) : LitU (Circ.addPrims c ps) := by
  intro p hp
  have hprim : primsOf (ps.map Comp.prim) = ps := by
    simp only [primsOf, List.flatMap_map, Comp.toPrims, List.flatMap_singleton']
  rcases List.mem_append.mp (primsOf_append c.spec _ ▸ hp) with hp | hp
  · exact hc p hp
  · rw [litU_iff_block, hps p (hprim ▸ hp)]
    exact fun _ h => nomatch h

theorem litU_of_leaf (c : PCirc α K) (q : Prim (Sym α K)) (h : Circ.Leaf c q) : q.LitU := by
  cases h <;> trivial

theorem freeze_litU (σ : Store α) (c : PCirc α K) (hc : c.LitU) : (freeze σ c).LitU := by
  intro p hp
  unfold freeze at hp
  rw [Circ.map_spec, primsOf_map] at hp
  obtain ⟨q, hq, rfl⟩ := List.mem_map.mp hp
  rw [litU_iff_block, Prim.blockEntries_map]
  intro x hx
  obtain ⟨y, hy, rfl⟩ := List.mem_map.mp hx
  obtain ⟨k, rfl⟩ := (litU_iff_block q).mp (hc q hq) y hy
  exact ⟨k, rfl⟩

theorem apiInv_litU [Zero K] [One K] : ApiInv Prim.LitU (fun _ => True) (LitU (α := α) (K := K)) where
  new _ _ := fun _ hp => nomatch hp
  unitary u hu := fun p hp => by
    have : p = Prim.unitary 0 u := by simpa [primsOf, Comp.toPrims] using hp
    exact this ▸ hu
  prims {c ps} hc hps := addPrims_litU c ps hc fun p hp => by cases (hps p hp).1 <;> rfl
  herald hc h := by obtain ⟨a, -, b, -, -, -, rfl⟩ := Circ.herald_ok.mp h; exact hc
  add {c s c' m g} hc hs h := add_litU c s c' m g h hc hs
  plus {a b c'} ha hb h := fun p hp => by
    rw [(Circ.plus_ok.mp h).2.2] at hp
    exact (List.mem_append.mp (primsOf_append a.spec b.spec ▸ hp)).elim (ha p) (hb p)
  unpack {c} hc := fun p hp => hc p (primsOf_unpackSpec c.spec ▸ hp)
  compress {c} hc := litU_of_prims_sub c _ (compressSwaps_prims c.spec) hc
  nonadj {c} hc := litU_of_prims_sub c _ (convertNonAdj_prims c.spec) hc

end PCirc

/-- every stored circuit has literal blocks; this is `Heap.All PCirc.LitU w.circs` (CircCalls) spelt out, and the
proofs below use it as such (`Heap.All.set`, `ApiInv.eval`) -/
def World.LitU (w : World α K) : Prop := ∀ cid c, Heap.get? w.circs cid = some c → PCirc.LitU c

namespace World

variable [Zero K] [One K]

variable [LT α] [DecidableLT α]

theorem litU_of_circs_eq {w w' : World α K} (hw : w.LitU) (h : w'.circs = w.circs) : w'.LitU := by
  intro cid c hc
  rw [h] at hc
  exact hw cid c hc

/-- literal blocks are kept by every call of the C10 histories: what a call stores is the result of
a pool call (`apiInv_litU`) or a frozen copy (`freeze_litU`) -/
theorem step_litU (ν : Views α K) {w w' : World α K} {op : POp α K} {o : Option Fail}
    (hw : w.LitU) (hop : op.WF) (h : World.step ν w op = some (w', o)) : w'.LitU := by
  rcases step_effect ν h with ⟨e, hx⟩ | ⟨id, p, -, hx⟩ | ⟨d, pd, hx⟩ | ⟨cid, c, -, hc, hx⟩ <;> cases hx
  · exact hw
  · exact hw
  · exact hw
  · refine Heap.All.set hw cid ?_
    rcases hc with ⟨cop, he, hu⟩ | ⟨src, c0, hg, rfl⟩
    · refine PCirc.apiInv_litU.eval PCirc.litU_of_leaf hw (fun _ _ _ => trivial) (fun id u e => ?_) he
      -- a `Unitary` call is the call `op` itself, which carries literals
      subst e
      rw [hu id u rfl] at hop
      obtain ⟨op₀, e⟩ := hop
      cases op₀ with
      | unitary id' u₀ =>
        cases e
        intro x hx
        rw [M.entries_map] at hx
        obtain ⟨y, -, rfl⟩ := List.mem_map.mp hx
        exact ⟨y, rfl⟩
      | _ => cases e
    · exact PCirc.freeze_litU w.store c0 (hw src c0 hg)

theorem run_litU (ν : Views α K) (ops : List (POp α K)) {w w' : World α K} {rs : List (Option Fail)}
    (hw : w.LitU) (hops : ∀ op ∈ ops, op.WF) (h : World.run ν w ops = some (w', rs)) : w'.LitU :=
  (run_isRun ν).induction (fun op hop _ _ _ hq hs => step_litU ν hq (hops op hop) hs) hw h

omit [Zero K] [One K] [LT α] [DecidableLT α] in
theorem empty_litU : ({} : World α K).LitU := Heap.All.nil PCirc.LitU

end World

end LW
