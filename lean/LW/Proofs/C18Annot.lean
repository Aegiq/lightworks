/-
  LW.Proofs.C18Annot — AnnotatedState: sorted label lists, multiset equality, +, merge, slices.
-/
import Mathlib.Data.List.Sort
import Mathlib.Data.List.Forall2
import LW.Proofs.C18State

namespace LW.SV

theorem insInt_eq (x : Int) (l : List Int) : insInt x l = l.orderedInsert (· ≤ ·) x := by
  induction l with
  | nil => rfl
  | cons y ys ih => simp only [insInt, List.orderedInsert_cons, ih]

theorem sortInt_eq (l : List Int) : sortInt l = l.insertionSort (· ≤ ·) := by
  induction l with
  | nil => rfl
  | cons x xs ih =>
    show insInt x (sortInt xs) = _
    rw [insInt_eq, ih]; rfl

theorem sortInt_perm (l : List Int) : (sortInt l).Perm l := by
  rw [sortInt_eq]; exact List.perm_insertionSort _ l

theorem sortInt_sorted (l : List Int) : (sortInt l).Pairwise (· ≤ ·) := by
  rw [sortInt_eq]; exact List.pairwise_insertionSort _ l

theorem sortInt_eq_iff_perm (a b : List Int) : sortInt a = sortInt b ↔ a.Perm b := by
  constructor
  · intro h
    exact (sortInt_perm a).symm.trans (h ▸ sortInt_perm b)
  · intro h
    exact List.Perm.eq_of_pairwise' (sortInt_sorted a) (sortInt_sorted b)
      ((sortInt_perm a).trans (h.trans (sortInt_perm b).symm))

theorem sortInt_of_sorted {l : List Int} (h : l.Pairwise (· ≤ ·)) : sortInt l = l := by
  rw [sortInt_eq]; exact List.Pairwise.insertionSort_eq h

theorem sortInt_idem (l : List Int) : sortInt (sortInt l) = sortInt l :=
  sortInt_of_sorted (sortInt_sorted l)

theorem sortInt_length (l : List Int) : (sortInt l).length = l.length := (sortInt_perm l).length_eq

theorem sortInt_nil : sortInt [] = [] := rfl

namespace AState

/-- the representation invariant: every row is sorted -/
def WF (a : AState) : Prop := ∀ row ∈ a.s, row.Pairwise (· ≤ ·)

theorem new_wf (r : List (List Int)) : (new r).WF := by
  intro row h
  obtain ⟨x, _, rfl⟩ := List.mem_map.mp h
  exact sortInt_sorted x

theorem new_rows_perm (r : List (List Int)) : List.Forall₂ List.Perm (new r).s r := by
  induction r with
  | nil => exact .nil
  | cons x xs ih => exact .cons (sortInt_perm x) ih

theorem new_nModes (r : List (List Int)) : (new r).nModes = r.length := List.length_map _

/-- a well-formed value is a fixed point of the constructor (`AnnotatedState(a.s) == a`) -/
theorem new_of_wf (a : AState) (h : a.WF) : new a.s = a :=
  congrArg AState.mk
    ((List.map_congr_left fun row hr => sortInt_of_sorted (h row hr)).trans (List.map_id a.s))

theorem new_eq_iff (r₁ r₂ : List (List Int)) : new r₁ = new r₂ ↔ List.Forall₂ List.Perm r₁ r₂ := by
  rw [new, new, AState.mk.injEq, ← List.forall₂_eq_eq_eq, List.forall₂_map_left_iff, List.forall₂_map_right_iff]
  exact ⟨List.Forall₂.imp fun _ _ => (sortInt_eq_iff_perm _ _).mp,
    List.Forall₂.imp fun _ _ => (sortInt_eq_iff_perm _ _).mpr⟩

theorem eq_iff (a b : AState) : a.eq b = true ↔ a = b := by
  cases a; cases b; simp [eq]

theorem new_map_sortInt (r : List (List Int)) : new (r.map sortInt) = new r :=
  congrArg AState.mk ((List.map_map ..).trans (List.map_congr_left fun x _ => sortInt_idem x))

theorem add_new (a b : List (List Int)) : (new a).add (new b) = new (a ++ b) := by
  rw [← new_map_sortInt (a ++ b), List.map_append]
  rfl

theorem add_wf (a b : AState) : (a.add b).WF := new_wf _

theorem add_of_wf (a b : AState) (ha : a.WF) (hb : b.WF) : (a.add b).s = a.s ++ b.s :=
  (List.map_append ..).trans
    (congrArg₂ (· ++ ·) (congrArg AState.s (new_of_wf a ha)) (congrArg AState.s (new_of_wf b hb)))

theorem eq_of_s_eq {a b : AState} (h : a.s = b.s) : a = b := by
  cases a; cases b; simp_all

theorem new_nil_add (a : AState) (ha : a.WF) : (new []).add a = a :=
  new_of_wf a ha

theorem add_inj {a a' b b' : AState} (ha : a.WF) (ha' : a'.WF) (hb : b.WF) (hb' : b'.WF)
    (hn : a.nModes = a'.nModes) (h : a.add b = a'.add b') : a = a' ∧ b = b' := by
  have h1 := congrArg AState.s h
  rw [add_of_wf a b ha hb, add_of_wf a' b' ha' hb'] at h1
  have := List.append_inj h1 hn
  exact ⟨eq_of_s_eq this.1, eq_of_s_eq this.2⟩

theorem add_assoc (a b c : AState) : (a.add b).add c = a.add (b.add c) := by
  simp only [add, new, List.map_append, List.map_map]
  rw [show sortInt ∘ sortInt = sortInt from funext sortInt_idem, List.append_assoc]

theorem nModes_add (a b : AState) : (a.add b).nModes = a.nModes + b.nModes :=
  (List.length_map _).trans List.length_append

theorem nPhotons_new (r : List (List Int)) : (new r).nPhotons = (r.map List.length).sum := by
  simp only [nPhotons, new, List.map_map]
  congr 1
  exact List.map_congr_left fun x _ => sortInt_length x

theorem nPhotons_add (a b : AState) : (a.add b).nPhotons = a.nPhotons + b.nPhotons := by
  rw [add, nPhotons_new]
  simp [nPhotons]

theorem merge_eq_ok_iff (a b c : AState) :
    a.merge b = .ok c ↔ a.nModes = b.nModes ∧ c = new (List.zipWith (· ++ ·) a.s b.s) :=
  Except.ite_error_eq_ok.trans (and_congr not_not ⟨fun h => (Except.ok.inj h).symm, fun h => h ▸ rfl⟩)

theorem zipWith_append_perm : ∀ {a a' b b' : List (List Int)}, List.Forall₂ List.Perm a a' →
    List.Forall₂ List.Perm b b' →
    List.Forall₂ List.Perm (List.zipWith (· ++ ·) a b) (List.zipWith (· ++ ·) a' b')
  | _, _, _, _, .nil, _ => .nil
  | _, _, _, _, .cons _ _, .nil => .nil
  | _, _, _, _, .cons h t, .cons h' t' => .cons (h.append h') (zipWith_append_perm t t')

theorem merge_new (a b : List (List Int)) (h : a.length = b.length) :
    (new a).merge (new b) = .ok (new (List.zipWith (· ++ ·) a b)) :=
  (merge_eq_ok_iff _ _ _).mpr ⟨by rw [new_nModes, new_nModes, h],
    ((new_eq_iff _ _).mpr (zipWith_append_perm (new_rows_perm a) (new_rows_perm b))).symm⟩

theorem merge_wf (a b c : AState) (h : a.merge b = .ok c) : c.WF := by
  obtain ⟨-, rfl⟩ := (merge_eq_ok_iff a b c).mp h
  exact new_wf _

theorem merge_nModes (a b c : AState) (h : a.merge b = .ok c) : c.nModes = a.nModes := by
  obtain ⟨hn, rfl⟩ := (merge_eq_ok_iff a b c).mp h
  rw [new_nModes, List.length_zipWith, ← nModes, ← nModes, ← hn, Nat.min_self]

theorem merge_assoc (a b c ab bc : AState) (h1 : a.merge b = .ok ab) (h2 : b.merge c = .ok bc) :
    ab.merge c = a.merge bc := by
  have n1 := merge_nModes a b ab h1
  have n2 := merge_nModes b c bc h2
  obtain ⟨hab, rfl⟩ := (merge_eq_ok_iff a b ab).mp h1
  obtain ⟨hbc, rfl⟩ := (merge_eq_ok_iff b c bc).mp h2
  have hrefl : ∀ l : List (List Int), List.Forall₂ List.Perm l l := fun l =>
    List.forall₂_same.mpr fun _ _ => .refl _
  rw [(merge_eq_ok_iff _ c _).mpr ⟨n1.trans (hab.trans hbc), rfl⟩,
    (merge_eq_ok_iff a _ _).mpr ⟨hab.trans n2.symm, rfl⟩,
    (new_eq_iff _ _).mpr (zipWith_append_perm (new_rows_perm (List.zipWith (· ++ ·) a.s b.s)) (hrefl c.s)),
    (new_eq_iff _ _).mpr (zipWith_append_perm (hrefl a.s) (new_rows_perm (List.zipWith (· ++ ·) b.s c.s))),
    zipWith_assoc _ List.append_assoc]

theorem zipWith_append_perm_comm : ∀ (a b : List (List Int)),
    List.Forall₂ List.Perm (List.zipWith (· ++ ·) a b) (List.zipWith (· ++ ·) b a)
  | [], [] => .nil
  | [], _ :: _ => .nil
  | _ :: _, [] => .nil
  | _ :: xs, _ :: ys => .cons List.perm_append_comm (zipWith_append_perm_comm xs ys)

theorem nPhotons_merge (a b c : AState) (h : a.merge b = .ok c) : c.nPhotons = a.nPhotons + b.nPhotons := by
  obtain ⟨hn, rfl⟩ := (merge_eq_ok_iff a b c).mp h
  rw [nPhotons_new, nPhotons, nPhotons,
    List.sum_add_sum_eq_sum_zipWith_of_length_eq _ _ (by rw [List.length_map, List.length_map]; exact hn),
    List.map_zipWith, List.zipWith_map]
  simp only [List.length_append]

theorem slice_eq (a : AState) (sl : Slice) : a.slice sl = (sliceList a.s sl).map new := by
  rw [slice]
  cases sliceList a.s sl <;> rfl

theorem slice_wf (a b : AState) (sl : Slice) (h : a.slice sl = .ok b) : b.WF := by
  obtain ⟨r, -, rfl⟩ := Except.map_eq_ok.mp ((slice_eq a sl).symm.trans h)
  exact new_wf r

theorem newChecked_some (r : List (List Int)) : newChecked (r.map some) = .ok (new r) := by
  unfold newChecked
  have : (r.map some).any Option.isNone = false := by simp
  simp [this]

end AState

end LW.SV
