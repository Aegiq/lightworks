/-
  C04 — the sampler distribution (LW.Model.Dist).  Structure: non-negativity, photon bound, one
  entry per pattern, and "each pattern gets its total probability summed over every way the
  remaining photons can have been lost" (proofs: LW.Proofs.C04Dist).  Then: the SLOS amplitudes are
  the permanents, the backends agree, exact normalisation (proofs: LW.Proofs.C04Backends).

  A proof that begins `have _ := h` marks a hypothesis `h` that the proof does not use: the
  statements of LW/Properties are the record of what was claimed and are not reworded when a proof
  turns out to need less; the `LW.Proofs` lemma cited is the statement without `h`.
-/
import LW.Proofs.C04Backends

namespace LW.C04

variable {K Q : Type} [CommRing K] [Field Q] [LinearOrder Q] [IsStrictOrderedRing Q]

/-- every probability in the distribution is non-negative (both backends, any truncation ≥ 0) -/
theorem fullDist_nonneg (b : BackendKind) (nsq : K → Q) (hn : ∀ z, 0 ≤ nsq z) (eps : Q) (heps : 0 ≤ eps)
    (U : M K) (nReal : Nat) (input : FState) :
    ∀ x ∈ fullDist b nsq eps U nReal input, 0 ≤ x.2 :=
  have _ := hn
  Proofs.C04a.fullDist_nonneg b nsq eps heps U nReal input

/-- every pattern lives on the circuit's own modes and holds at most the injected photons -/
theorem fullDist_keys (b : BackendKind) (nsq : K → Q) (eps : Q) (U : M K) (nReal : Nat)
    (input : FState) (hlen : input.length = nReal) (hU : nReal ≤ U.n) (hpos : 0 < nReal) :
    ∀ x ∈ fullDist b nsq eps U nReal input, x.1.length = nReal ∧ photons x.1 ≤ photons input :=
  have _ := hpos
  Proofs.C04a.fullDist_keys b nsq eps U nReal input hlen hU

/-- each pattern occurs once -/
theorem fullDist_keys_nodup (b : BackendKind) (nsq : K → Q) (eps : Q) (U : M K) (nReal : Nat)
    (input : FState) : ((fullDist b nsq eps U nReal input).map (·.1)).Nodup :=
  Proofs.C04a.fullDist_nodup b nsq eps U nReal input

/-- marginalisation (permanent backend): a pattern with at least one photon on the circuit's modes
gets the sum, over all configurations of the loss modes, of the transition probabilities that
survive the truncation -/
theorem fullDistPermanent_marginal (nsq : K → Q) (eps : Q) (U : M K) (nReal : Nat) (input : FState)
    (hin : photons input ≠ 0) (r : FState) (hr : photons r ≠ 0) :
    let inS := input ++ List.replicate (U.n - nReal) 0
    ((fullDistPermanent nsq eps U nReal input).get? r).getD 0 =
      (((fockBasis inS.length (photons inS)).filter fun o =>
          o.take nReal = r ∧ eps < transProb nsq U inS o).map (transProb nsq U inS)).sum :=
  Proofs.C04a.fullDistPermanent_marginal nsq eps U nReal input hin r hr

/-- … and the all-lost pattern gets exactly the remaining probability when the circuit has loss
modes, so the distribution of a lossy circuit sums to one for every truncation threshold -/
theorem fullDistPermanent_total_lossy (nsq : K → Q) (hn : ∀ z, 0 ≤ nsq z) (eps : Q) (U : M K)
    (nReal : Nat) (input : FState) (hloss : nReal < U.n)
    (hlt : (((fockBasis (input.length + (U.n - nReal)) (photons input)).filter fun o =>
            photons (o.take nReal) ≠ 0 ∧
            eps < transProb nsq U (input ++ List.replicate (U.n - nReal) 0) o).map
          (transProb nsq U (input ++ List.replicate (U.n - nReal) 0))).sum < 1) :
    (fullDistPermanent nsq eps U nReal input).total = 1 :=
  have _ := hn
  Proofs.C04a.fullDistPermanent_total_lossy nsq eps U nReal input hloss hlt

/-- mixing over source inputs keeps non-negativity -/
theorem pdistCalc_nonneg (b : BackendKind) (nsq : K → Q) (hn : ∀ z, 0 ≤ nsq z) (eps : Q) (heps : 0 ≤ eps)
    (U : M K) (nReal : Nat) (inputs : List (FState × Q)) (hw : ∀ x ∈ inputs, 0 ≤ x.2) :
    ∀ x ∈ pdistCalc b nsq eps U nReal inputs, 0 ≤ x.2 :=
  have _ := hn
  Proofs.C04a.pdistCalc_nonneg b nsq eps heps U nReal inputs hw

section PartB

variable {K Q : Type}

/-- SLOS = permanent at amplitude level: the layer recursion computes, for every output `t` of the
right photon number, the permanent divided by `t!` (`φ(t)·t! = perm U[t|s]`) -/
theorem slos_eq_permanent [CommRing K] (U : M K) (hN : 0 < U.n) (s t : FState)
    (hs : s.length = U.n) (ht : t.length = U.n) (hp : photons t = photons s) :
    ampNum U s t = ((factProd t : Nat) : K) * slosGet (slosPhi U s) t :=
  Proofs.C04b.slos_eq_permanent U hN s t hs ht hp

/-- … hence both backends assign the same probability to every pattern that keeps at least one
photon on the circuit's modes, for every truncation threshold.  `nsq` is a multiplicative
squared modulus (`|ab|² = |a|²|b|²`, `|n|² = n²`). -/
theorem backends_agree [CommRing K] [Field Q] [LinearOrder Q] [IsStrictOrderedRing Q]
    (nsq : K → Q) (hmul : ∀ a b, nsq (a * b) = nsq a * nsq b) (hnat : ∀ n : Nat, nsq (n : K) = (n : Q) * (n : Q))
    (eps : Q) (U : M K) (nReal : Nat) (input : FState) (hlen : input.length = nReal) (hU : nReal ≤ U.n)
    (hpos : 0 < nReal) (r : FState) (hr : photons r ≠ 0) :
    ((fullDistSlos nsq eps U nReal input).get? r).getD 0 =
      ((fullDistPermanent nsq eps U nReal input).get? r).getD 0 :=
  Proofs.C04b.backends_agree nsq hmul hnat eps U nReal input hlen hU (by omega) r hr

/-- normalisation: without truncation the distribution of a unitary circuit sums to exactly one
(both backends).  `ι` embeds probabilities into amplitudes with `ι |z|² = z·z̄`. -/
theorem fullDist_total_one [Field K] [StarRing K] [CharZero K] [Field Q] [LinearOrder Q]
    [IsStrictOrderedRing Q] (nsq : K → Q) (ι : Q →+* K) (hι : Function.Injective ι)
    (hnsq : ∀ z, ι (nsq z) = z * star z) (hn : ∀ z, 0 ≤ nsq z)
    (b : BackendKind) (U : M K) (hU : IsUnitary U) (nReal : Nat) (input : FState)
    (hlen : input.length = nReal) (hle : nReal ≤ U.n) (hpos : 0 < nReal) :
    (fullDist b nsq 0 U nReal input).total = 1 :=
  Proofs.C04b.fullDist_total_one nsq ι hι hnsq hn b U hU nReal input hlen hle (by omega)

/-- a mixture over source inputs whose weights sum to one is normalised as well -/
theorem pdistCalc_total_one [Field K] [StarRing K] [CharZero K] [Field Q] [LinearOrder Q]
    [IsStrictOrderedRing Q] (nsq : K → Q) (ι : Q →+* K) (hι : Function.Injective ι)
    (hnsq : ∀ z, ι (nsq z) = z * star z) (hn : ∀ z, 0 ≤ nsq z)
    (b : BackendKind) (U : M K) (hU : IsUnitary U) (nReal : Nat) (hle : nReal ≤ U.n) (hpos : 0 < nReal)
    (inputs : List (FState × Q)) (hin : ∀ x ∈ inputs, x.1.length = nReal ∧ 0 ≤ x.2)
    (hw : (inputs.map (·.2)).sum = 1) :
    (pdistCalc b nsq 0 U nReal inputs).total = 1 :=
  Proofs.C04b.pdistCalc_total_one nsq ι hι hnsq hn b U hU nReal hle (by omega) inputs
    (fun x hx => (hin x hx).1) hw

end PartB

end LW.C04
