/-
  C10 — Parameters are live, bounded and freezable.

  The property theorems and their non-vacuity examples; the lemmas they rest on are in
  LW/Proofs/C10*.lean.  Model: LW.Model.Param (`Parameter`, `ParameterDict`) and LW.Model.PCircuit.
  A parametrised circuit is a `Circ (Sym α K)` — the circuit model over symbolic scalars
  `lit k | view role (const v | param id)` — so all bookkeeping (`add`, groups, heralds, copies) is
  the construction API of LW.Model.Circuit, and `U` resolves the fields against the parameter store
  at the moment of the read.  `World` is the set of live Parameter / ParameterDict / Circuit
  objects; `World.step` is one API call, `World.run` a history.

  `α` is the numeric domain of parameter values (any linear order: ints and floats without NaN —
  NaN lies outside every linear order and is the known finding F15, probed on the code directly);
  `K` any scalar type; `ν : Views α K` stands for the float functions √x, √(1-x), e^{ix}, 0≤x≤1.
  All statements are for every history / circuit / store, with no bound on sizes or lengths.
-/
import LW.Proofs.C10

namespace LW.C10

variable {α K : Type}

section Bounds
variable [LinearOrder α] [Zero K] [One K]

/-- BOUNDS INVARIANT.  After any history of calls from the empty world — constructor calls, value
updates, bound updates, updates through a ParameterDict, interleaved with any circuit calls,
each accepted or rejected — every live parameter lies within its bounds: a lower bound that is
set implies a numeric value ≥ it, an upper bound a numeric value ≤ it. -/
theorem bounds_invariant (ν : Views α K) (ops : List (POp α K)) (w : World α K)
    (rs : List (Option Fail)) (h : World.run ν {} ops = some (w, rs)) :
    ∀ id p, w.store.get? id = some p →
      (∀ m, p.min = some m → ∃ x, p.value = .num x ∧ m ≤ x) ∧
      (∀ mx, p.max = some mx → ∃ x, p.value = .num x ∧ x ≤ mx) :=
  Proofs.C10.bounds_invariant ν ops w rs h

/-- … and the invariant is inductive: one call, from any world that satisfies it. -/
theorem bounds_invariant_step (ν : Views α K) (w w' : World α K) (op : POp α K) (o : Option Fail)
    (hw : w.AllInBounds) (h : World.step ν w op = some (w', o)) : w'.AllInBounds :=
  World.step_inBounds ν hw h

/-- REJECTED UPDATE CHANGES NOTHING.  A call that raises — a refused value, bound, dictionary
assignment or construction call — leaves every parameter, dictionary and circuit as it was. -/
theorem rejected_update_noop (ν : Views α K) (w w' : World α K) (op : POp α K) (e : Fail)
    (h : World.step ν w op = some (w', some e)) : w' = w :=
  Proofs.C10.rejected_update_noop ν w w' op e h

end Bounds

section Live
variable [Add K] [Mul K] [Neg K] [Zero K] [One K]

/-- U READS THE CURRENT VALUES.  Take any history of calls on parametrised circuits (components
with Parameter fields in any role, `add` with or without grouping and heralds, `+`, copies,
`unpack_groups`, `compress_mode_swaps`, `remove_non_adjacent_bs`) and any parameter store `σ` — in particular the store at any later time,
after any updates.  Replacing every field by the value it holds under `σ` turns the history into
a history of the plain construction API which is accepted and rejected call by call identically
and yields exactly the resolved circuits; and `U` of each parametrised circuit is the `U` of that
plain circuit (when all its fields are valid; otherwise see `invalid_value_is_compilation_error`).
So a parameter is live wherever it sits: the circuit never stores a value, only the reference. -/
theorem U_reads_current_values (ν : Views α K) (i : K) (σ : Store α) (ops : List (CircOp (Sym α K)))
    (h h' : Heap (Sym α K)) (rs : List Outcome)
    (hr : heapRun h ops = some (h', rs)) :
    heapRun (Heap.mapK (Sym.eval ν σ) h) (ops.map (CircOp.map (Sym.eval ν σ))) =
        some (Heap.mapK (Sym.eval ν σ) h', rs) ∧
    ∀ cid c, Heap.get? h' cid = some c →
      Heap.get? (Heap.mapK (Sym.eval ν σ) h') cid = some (PCirc.resolve ν σ c) ∧
      (PCirc.fieldsValid ν σ c = true → PCirc.readU ν i σ c = .ok ((PCirc.resolve ν σ c).U i)) :=
  Proofs.C10.U_reads_current_values ν i σ ops h h' rs hr

/-- the instance that matters most: a parameter inside an added (grouped, heralded) sub-circuit
— resolving after `add` is `add` of the resolved circuits, for every store -/
theorem add_resolves (ν : Views α K) (σ : Store α) (parent sub : PCirc α K) (mode : Int) (grouped : Bool) :
    Circ.add (PCirc.resolve ν σ parent) (PCirc.resolve ν σ sub) mode grouped =
      (Circ.add parent sub mode grouped).map (PCirc.resolve ν σ) :=
  Circ.map_add (Sym.fix01_eval ν σ) parent sub mode grouped

end Live

section Bridge
variable [LT α] [DecidableLT α] [Zero K] [One K]

/-- the calls `bs / ps / loss` with Parameter arguments ARE calls of the plain construction API on
symbolic fields (so the theorem above covers them); the loss-validity flag is `check_loss` on the
parameter's value at the time of the call, whose exception class replaces the `ValueError` -/
theorem param_calls_are_plain_calls (ν : Views α K) (w : World α K) (cid : String) :
    (∀ m1 m2 r cv l, World.step ν w (.bs cid m1 m2 r cv l) =
      (heapStep w.circs (.bs cid m1 m2 r.fields.1 cv (l.fields ν w.store).1 r.fields.2
        (l.fields ν w.store).2.isNone)).map (World.ofHeap w (l.fields ν w.store).2)) ∧
    (∀ m phi l, World.step ν w (.ps cid m phi l) =
      (heapStep w.circs (.ps cid m phi.field (l.fields ν w.store).1
        (l.fields ν w.store).2.isNone)).map (World.ofHeap w (l.fields ν w.store).2)) ∧
    (∀ m l, World.step ν w (.loss cid m l) =
      (heapStep w.circs (.loss cid m ((l.fields ν w.store).1.getD (.lit 1, .lit 0))
        (l.fields ν w.store).2.isNone)).map (World.ofHeap w (l.fields ν w.store).2)) :=
  ⟨fun m1 m2 r cv l => World.lossChecked_eq_heapStep w cid _
      (fun c lv => Circ.bs c m1 m2 r.fields.1 cv (l.fields ν w.store).1 r.fields.2 lv) _ rfl rfl,
   fun m phi l => World.lossChecked_eq_heapStep w cid _
      (fun c lv => Circ.ps c m phi.field (l.fields ν w.store).1 lv) _ rfl rfl,
   fun m l => World.lossChecked_eq_heapStep w cid _
      (fun c lv => Circ.loss c m ((l.fields ν w.store).1.getD (.lit 1, .lit 0)) lv) _ rfl rfl⟩

/-- a call changes no circuit other than its target; a parameter / dictionary call has no target,
so updates reach circuits only through the store that `U` reads -/
theorem param_updates_touch_no_circuit (ν : Views α K) (w w' : World α K) (op : POp α K)
    (o : Option Fail) (h : World.step ν w op = some (w', o)) (k : String)
    (hk : op.circTarget ≠ some k) : Heap.get? w'.circs k = Heap.get? w.circs k :=
  World.step_circ_frame ν h k hk

end Bridge

section Listing
variable [Add K] [Mul K] [Neg K] [Zero K] [One K]

/-- LISTING.  `get_all_params` has no duplicates, and it lists a parameter iff some leaf
component — at top level or inside a group — holds it in one of its fields. -/
theorem all_params_nodup_complete (c : PCirc α K) :
    c.getAllParams.Nodup ∧
    ∀ id, id ∈ c.getAllParams ↔
      ∃ p ∈ primsOf c.spec, ∃ r, Sym.view r (.param id) ∈ p.syms :=
  Proofs.C10.all_params_nodup_complete c

/-- … through added sub-circuits: whatever `add` does (copy, unpack, swap synthesis, pass-through
and ancilla modes, grouping), the result lists exactly the parent's and the sub-circuit's parameters -/
theorem add_params (parent sub c' : PCirc α K) (mode : Int) (grouped : Bool)
    (h : Circ.add parent sub mode grouped = .ok c') (id : Nat) :
    id ∈ c'.getAllParams ↔ id ∈ parent.getAllParams ∨ id ∈ sub.getAllParams :=
  by simp only [PCirc.mem_getAllParams, PCirc.add_syms parent sub c' mode grouped h, List.mem_append,
    or_and_right, exists_or]

/-- … and the list is semantically complete: `U` (value or failure) depends on the store only
through the listed parameters (`LitU`: unitary blocks hold numbers, an invariant — next theorem) -/
theorem unlisted_param_no_influence (ν : Views α K) (i : K) (σ σ' : Store α) (c : PCirc α K)
    (hL : c.LitU) (h : ∀ id ∈ c.getAllParams, σ.val id = σ'.val id) :
    c.readU ν i σ = c.readU ν i σ' :=
  PCirc.readU_congr ν i σ σ' c hL h

end Listing

/-- LITERAL BLOCKS.  In every world reached from the empty one by calls whose plain construction
calls carry numbers only (`POp.WF`; a `Unitary` is created from a numeric array), no unitary block
of any live circuit holds a `Parameter`: the hypothesis `LitU` of the theorem above always holds. -/
theorem reachable_blocks_literal [LT α] [DecidableLT α] [Zero K] [One K] (ν : Views α K)
    (ops : List (POp α K)) (w : World α K) (rs : List (Option Fail)) (hops : ∀ op ∈ ops, op.WF)
    (h : World.run ν {} ops = some (w, rs)) :
    ∀ cid c, Heap.get? w.circs cid = some c → PCirc.LitU c :=
  World.run_litU ν ops World.empty_litU hops h

section Frozen
variable [Add K] [Mul K] [Neg K] [Zero K] [One K]

/-- FROZEN COPY keeps the values of the moment it was taken: under every later store it reports
what the original reported then (the unitary, or the compilation error). -/
theorem frozen_copy_constant (ν : Views α K) (i : K) (σ σ' : Store α) (c : PCirc α K) :
    (PCirc.freeze σ c).readU ν i σ' = c.readU ν i σ :=
  Proofs.C10.frozen_copy_constant ν i σ σ' c

theorem frozen_copy_has_no_params (σ : Store α) (c : PCirc α K) :
    (PCirc.freeze σ c).getAllParams = [] :=
  Proofs.C10.frozen_copy_has_no_params σ c

/-- … over histories: after `dst = src.copy(freeze_parameters=True)`, any further calls (updates
of any parameter, accepted or rejected, construction on other circuits, more copies) leave `dst.U`
equal to `src.U` at the moment of the copy, as long as `dst` is not itself the target of a call. -/
theorem frozen_copy_constant_history [LT α] [DecidableLT α] (ν : Views α K) (i : K)
    (w w1 w2 : World α K) (dst src : String) (ops : List (POp α K)) (rs : List (Option Fail))
    (hf : World.step ν w (.freeze dst src) = some (w1, none))
    (hr : World.run ν w1 ops = some (w2, rs))
    (hk : ∀ op ∈ ops, op.circTarget ≠ some dst) :
    World.readU ν i w2 dst = World.readU ν i w src ∧ World.allParams w2 dst = some [] :=
  by
  obtain ⟨c, hg, hf⟩ := Option.map_eq_some_iff.mp hf
  cases hf
  have h2 : Heap.get? w2.circs dst = some (PCirc.freeze w.store c) :=
    (World.run_circ_frame ν ops hr dst hk).trans (Heap.get?_set_eq w.circs dst _)
  unfold World.readU World.allParams
  rw [h2, hg, Option.map_some, Option.map_some, Option.map_some, PCirc.freeze_readU, PCirc.freeze_params]
  exact ⟨rfl, rfl⟩

/-- INVALID VALUE ⇒ COMPILATION ERROR.  Reading `U` fails iff some field holds a value its
component cannot use, and then with `CircuitCompilationError` and no other class; in particular a
live parameter that is non-numeric, or outside [0,1] where it is a reflectivity or a loss, makes
every circuit holding it fail to compile; and if all fields are valid `U` is the unitary of the
resolved circuit. -/
theorem invalid_value_is_compilation_error (ν : Views α K) (i : K) (σ : Store α) (c : PCirc α K) :
    (∀ e, c.readU ν i σ = .error e ↔ e = .compilation ∧ ∃ s ∈ Circ.syms c, s.valid ν σ = false) ∧
    (∀ r id, Sym.view r (.param id) ∈ Circ.syms c →
      ((∃ t, σ.val id = .other t) ∨ (∃ x, σ.val id = .num x ∧ r ≠ .expi ∧ ν.unit x = false)) →
      c.readU ν i σ = .error .compilation) ∧
    ((∀ s ∈ Circ.syms c, s.valid ν σ = true) ↔ c.readU ν i σ = .ok ((c.resolve ν σ).U i)) :=
  Proofs.C10.invalid_value_is_compilation_error ν i σ c

end Frozen

/-! ### non-vacuity: one concrete history meets the hypotheses of the theorems above -/

section Examples

/-- toy float functions on ℕ → ℤ (the theorems hold for every `Views`) -/
def νex : Views Nat Int :=
  { unit := fun x => decide (x ≤ 1), rt := fun x => x, rt1 := fun x => 1 - x, expi := fun _ => 1 }

/-- p0 = Parameter(1, bounds=[0,1]); c = Circuit(2); c.bs(0, reflectivity=p0); p0.set(5) is
rejected; p0.set(0) accepted; f = c.copy(freeze_parameters=True); p0.set(1); s = Circuit(1);
s.loss(0, p0); c.add(s, 1) -/
def histEx : List (POp Nat Int) :=
  [.pNew 0 (.num 1) (some [some (.num 0), some (.num 1)]),
   .circ (.new "c" 2),
   .bs "c" 0 1 (.param 0) .rx .zero,
   .pSet 0 (.num 5),
   .pSet 0 (.num 0),
   .freeze "f" "c",
   .pSet 0 (.num 1),
   .circ (.new "s" 1),
   .loss "s" 0 (.param 0),
   .circ (.add "c" "s" 1 false)]

/-- the history runs; exactly the out-of-bounds update is rejected (hypothesis of
`bounds_invariant`, of `rejected_update_noop` at call 4, of `reachable_blocks_literal`) -/
example : ∃ w, World.run νex {} histEx =
    some (w, [none, none, none, some (.par .paramValue), none, none, none, none, none, none]) ∧
    World.allParams w "c" = some [0] ∧ World.allParams w "f" = some [] :=
  ⟨_, rfl, rfl, rfl⟩

/-- the frozen copy was taken (hypothesis `hf` of `frozen_copy_constant_history`) and the later
calls do not target it (hypothesis `hk`) -/
example : ∀ op ∈ histEx.drop 6, op.circTarget ≠ some "f" := by decide

/-- every call of the history is well-formed (hypothesis of `reachable_blocks_literal`) -/
example : ∀ op ∈ histEx, op.WF := by
  intro op hop
  simp only [histEx, List.mem_cons, List.not_mem_nil, or_false] at hop
  rcases hop with rfl | rfl | rfl | rfl | rfl | rfl | rfl | rfl | rfl | rfl
  · trivial
  · exact ⟨.new "c" 2, rfl⟩
  · trivial
  · trivial
  · trivial
  · trivial
  · trivial
  · exact ⟨.new "s" 1, rfl⟩
  · trivial
  · exact ⟨.add "c" "s" 1 false, rfl⟩

/-- an invalid value: with p0 = 5 the circuit fails to compile (second clause of
`invalid_value_is_compilation_error`), with p0 = 1 it compiles -/
example :
    let c : PCirc Nat Int := { n := 2, spec := [.prim (.bs 0 1 (.view .rt (.param 0)) (.view .rt1 (.param 0)) .rx)] }
    PCirc.readU νex 0 [(0, { value := .num 5 })] c = .error .compilation ∧
    (PCirc.readU νex 0 [(0, { value := .num 1 })] c).isOk = true :=
  ⟨rfl, rfl⟩

end Examples

end LW.C10
