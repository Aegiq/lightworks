/-
  LW.Proofs.C06Example — the concrete instances used by the non-vacuity examples of C06: parameter sets
  in range, and the balanced beam splitter over `ℤ` (`hadamard`) with its transition facts.
-/
import LW.Proofs.C06Hom
import Mathlib.Algebra.Order.Ring.Rat
import Mathlib.Algebra.Field.Rat
import Mathlib.Data.Real.Basic
import Mathlib.Tactic.NormNum

namespace LW.Proofs.C06

open LW.Src

/-- brightness 1/2, two-photon weight 1/3 (purity 5/8), √indistinguishability 3/5 -/
theorem inRange_ex : InRange (⟨1/2, 1/3, 3/5, 0⟩ : Params ℚ) :=
  ⟨by norm_num, by norm_num, by norm_num, by norm_num, by norm_num, by norm_num⟩

theorem inRange_exR : InRange (⟨1/2, 1/3, 3/5, 0⟩ : Params ℝ) :=
  ⟨by norm_num, by norm_num, by norm_num, by norm_num, by norm_num, by norm_num⟩

/-! ### a balanced beam splitter with decidable arithmetic
`K = ℤ`, `Q = ℚ`, unnormalised Hadamard matrix, `|z|² := z²`, negative truncation threshold (every
pattern is kept): an indistinguishable pair never leaves in different modes (permanent 0). -/

def hadamard : M Int := ⟨2, #[#[1, 1], #[1, -1]]⟩
def nsqInt : Int → Rat := fun z => ((z * z : Int) : Rat)
def coincidence : FState → Rat := fun t => if t = [1, 1] then 1 else 0

theorem nsqInt_nonneg : ∀ z, 0 ≤ nsqInt z := by
  intro z
  simp only [nsqInt]
  exact_mod_cast mul_self_nonneg z

theorem hadamard_ne_nil : ∀ g : FState, g.length = 2 → fullDist .permanent nsqInt (-1) hadamard 2 g ≠ [] :=
  fun g hg => C04a.fullDistPermanent_ne_nil nsqInt nsqInt_nonneg (-1) (by norm_num) hadamard (by decide) g hg

theorem hadamard_00 : mix (fullDist .permanent nsqInt (-1) hadamard 2 [0, 0]) coincidence = 0 := by
  decide +kernel
theorem hadamard_10 : mix (fullDist .permanent nsqInt (-1) hadamard 2 [1, 0]) coincidence = 0 := by
  decide +kernel
theorem hadamard_01 : mix (fullDist .permanent nsqInt (-1) hadamard 2 [0, 1]) coincidence = 0 := by
  decide +kernel
theorem hadamard_11 : mix (fullDist .permanent nsqInt (-1) hadamard 2 [1, 1]) coincidence = 0 := by
  decide +kernel
theorem hadamard_dis : mixGroups [fullDist .permanent nsqInt (-1) hadamard 2 [1, 0],
    fullDist .permanent nsqInt (-1) hadamard 2 [0, 1]] coincidence ≠ 0 := by
  decide +kernel

theorem inRange_pure : InRange (⟨1/2, 0, 3/5, 0⟩ : Params ℚ) :=
  ⟨by norm_num, by norm_num, by norm_num, by norm_num, by norm_num, by norm_num⟩

theorem inRange_q0 : InRange (⟨1/2, 0, 0, 0⟩ : Params ℚ) :=
  ⟨by norm_num, by norm_num, by norm_num, by norm_num, by norm_num, by norm_num⟩

theorem inRange_q1 : InRange (⟨1/2, 0, 1, 0⟩ : Params ℚ) :=
  ⟨by norm_num, by norm_num, by norm_num, by norm_num, by norm_num, by norm_num⟩

end LW.Proofs.C06
