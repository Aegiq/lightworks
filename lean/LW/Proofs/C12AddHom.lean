/-
  LW.Proofs.C12AddHom — the substitution homomorphism of `self.add sub m`, without unitarity
  (`circHom_add`): for `self` satisfying `HerInv` and a loss-free sub-circuit with equal, sorted
  heralds, `circHom` of the result is `circHom self` followed by `circHom sub` placed on the ports
  `m …` (heralds on the fresh modes from `self.n` on).  The route is through tidy optics (no loss,
  heralds = private ancillas in index order), whose canonical closed form is the optic's own matrix.
-/
import LW.Proofs.FockLayout
import LW.Proofs.C12FullSem
import LW.Proofs.C12FullSpecOk
import LW.Proofs.C12FullPlanDefs
import LW.Proofs.C12FullMainDefs
import LW.Proofs.C12PlanHom
import LW.Proofs.C02SemAdd

namespace LW.C12F

open LW LW.Proofs.C01Aux LW.Proofs.C02 LW.Proofs.C02Sem

section

variable {K : Type} [CommRing K] [StarRing K]

section
omit [StarRing K]

theorem Tidy.extIn_nil {x : Optic K} (h : Tidy x) : x.extIn = [] := by
  unfold Optic.extIn
  rw [List.map_eq_nil_iff, List.filter_eq_nil_iff]
  intro hh hm
  obtain ⟨j, hj, rfl⟩ := List.mem_iff_getElem.mp hm
  have := (h.idx j hj).1
  simp only [decide_eq_true_eq]
  omega

theorem Tidy.extOut_nil {x : Optic K} (h : Tidy x) : x.extOut = [] := by
  unfold Optic.extOut
  rw [List.map_eq_nil_iff, List.filter_eq_nil_iff]
  intro hh hm
  obtain ⟨j, hj, rfl⟩ := List.mem_iff_getElem.mp hm
  have := (h.idx j hj).2
  simp only [decide_eq_true_eq]
  omega

theorem Tidy.freeIn_eq {x : Optic K} (h : Tidy x) : x.freeIn = List.range x.p := by
  unfold Optic.freeIn
  rw [h.extIn_nil]
  simp

theorem Tidy.freeOut_eq {x : Optic K} (h : Tidy x) : x.freeOut = List.range x.p := by
  unfold Optic.freeOut
  rw [h.extOut_nil]
  simp

theorem Tidy.colIdx_eq {x : Optic K} (h : Tidy x) {y : Nat} (hy : y < x.p + x.her.length) :
    colIdx x y = y := by
  unfold colIdx
  rw [h.freeIn_eq, List.length_range]
  by_cases h1 : y < x.p
  · rw [if_pos h1, List.getD_eq_getElem _ _ (by rw [List.length_range]; exact h1),
      List.getElem_range]
  · rw [if_neg h1, if_pos hy, List.getD_eq_getElem _ _ (by omega)]
    have := (h.idx (y - x.p) (by omega)).1
    omega

theorem Tidy.rowIdx_eq {x : Optic K} (h : Tidy x) {y : Nat} (hy : y < x.p + x.her.length) :
    rowIdx x y = y := by
  unfold rowIdx
  rw [h.freeIn_eq, h.freeOut_eq, List.length_range]
  by_cases h1 : y < x.p
  · rw [if_pos h1, List.getD_eq_getElem _ _ (by rw [List.length_range]; exact h1),
      List.getElem_range]
  · rw [if_neg h1, if_pos hy, List.getD_eq_getElem _ _ (by omega)]
    have := (h.idx (y - x.p) (by omega)).2
    omega

theorem Tidy.closed_eq {x : Optic K} (h : Tidy x) :
    x.closed = ⟨x.p, x.her.map (·.n), 0, x.W⟩ := by
  rw [LW.Proofs.C02Sem.closed_eq, h.freeIn_eq, List.length_range, h.l0]
  congr 1
  refine Eq.trans ?_ h.wofn.symm
  rw [h.wn, ← h.len, Nat.add_zero]
  apply M.ofFn_congr
  intro r c hr hc
  rw [h.rowIdx_eq hr, h.colIdx_eq hc]

end

theorem Tidy.compose {x : Optic K} (h : Tidy x) (s : Closed K) (hs : s.l = 0) (m : Nat) :
    Tidy (x.compose s m) where
  l0 := by rw [compose_l, h.l0, hs]
  len := by rw [compose_her_length, compose_a, h.len]
  idx := by
    intro j hj
    have hlen := h.len
    simp only [compose_her, compose_p]
    rw [compose_her_length] at hj
    by_cases h1 : j < x.her.length
    · rw [List.getElem_append_left h1]
      exact h.idx j h1
    · rw [List.getElem_append_right (by omega), List.getElem_map, List.getElem_range]
      constructor <;> (show x.p + x.a + (j - x.her.length) = x.p + j) <;> omega
  wn := by
    rw [compose_W, M.mul_n, embedVia_n, compose_p, compose_a, h.l0, hs]
    omega
  wofn := by
    rw [compose_W]
    exact M.isOfFn_mul _ _

theorem Tidy.closed_compose {x : Optic K} (h : Tidy x) (s : Closed K) (hs : s.l = 0) (m : Nat) :
    (x.compose s m).closed = ⟨x.p, x.her.map (·.n) ++ s.hn, 0,
      (Optic.embedVia (x.p + x.a + s.hn.length) s.W (invS x s m)).mul
        (Optic.embedVia (x.p + x.a + s.hn.length) x.W (invP x s.hn.length))⟩ := by
  rw [(h.compose s hs m).closed_eq, compose_p, compose_her_n, compose_W, h.l0, hs, Nat.add_zero]

omit [StarRing K] in
theorem tidy_toOptic (i : K) (c : Circ K) (hwf : c.WF) (hk : c.inHer.keys = c.internal)
    (ho : c.outHer = c.inHer) (hl : lossCount c.spec = 0) : Tidy (c.toOptic i) where
  l0 := by rw [toOptic_l, hl]
  len := by rw [her_length i c hwf, toOptic_a, ← hk, keys_length]
  idx := by
    intro j hj
    have hj' : j < c.internal.length := by
      rw [her_length i c hwf, ← keys_length, hk] at hj; exact hj
    have hopt : c.optIndex c.internal[j] = c.portModes.length + j :=
      optIndex_internal c (idxOf?_getElem_of_nodup hwf.intNodup hj')
    have e1 : ((c.toOptic i).her.map (·.i))[j]'(by rw [List.length_map]; exact hj)
        = (c.internal.map c.optIndex)[j]'(by rw [List.length_map]; exact hj') := by
      congr 1
      rw [her_map_i i c hwf, hk]
    have e2 : ((c.toOptic i).her.map (·.o))[j]'(by rw [List.length_map]; exact hj)
        = (c.internal.map c.optIndex)[j]'(by rw [List.length_map]; exact hj') := by
      congr 1
      rw [her_map_o i c hwf, ho, hk]
    rw [List.getElem_map, List.getElem_map, hopt] at e1 e2
    rw [toOptic_p]
    exact ⟨e1, e2⟩
  wn := by
    rw [toOptic_W_n i c hwf, hl, toOptic_p, toOptic_a, portModes_length c hwf]
    rfl
  wofn := by
    rw [toOptic_W i c hwf]
    exact isOfFn_embedVia _ _ _

/-! non-vacuity of `Tidy` and of `Tidy.compose` -/

example : Tidy (Optic.new 2 : Optic ℤ) :=
  ⟨rfl, rfl, fun j hj => absurd hj (Nat.not_lt_zero j), rfl, M.isOfFn_one 2⟩

example : Tidy ((Optic.new 2 : Optic ℤ).compose ⟨1, [1, 0], 0, M.one 3⟩ 1) := by
  have h : Tidy (Optic.new 2 : Optic ℤ) :=
    ⟨rfl, rfl, fun j hj => absurd hj (Nat.not_lt_zero j), rfl, M.isOfFn_one 2⟩
  exact h.compose _ rfl 1

/-- invariant of the circuits built by the converter: heralds = ancillas, in the same order,
input heralds = output heralds, no loss component -/
structure HerInv (c : Circ K) : Prop where
  wf : c.WF
  io : c.outHer = c.inHer
  keys : c.inHer.keys = c.internal
  loss : lossCount c.spec = 0

omit [StarRing K] in
theorem add_succeeds (self sub : Circ K) (hwf : self.WF) (hwfs : sub.WF) (m : Nat) (g : Bool)
    (hfit : m + (sub.n - sub.inHer.length) ≤ self.n - self.internal.length)
    (hpos : 0 < sub.n - sub.inHer.length) :
    ∃ self', self.add sub (m : Int) g = .ok self' := by
  have hports : self.ports = self.n - self.internal.length := rfl
  exact (add_accepts_iff self sub hwf hwfs m g).mpr
    ⟨Int.natCast_nonneg m, by omega, by rw [Int.toNat_natCast, hports]; exact hfit⟩

theorem sortNat_of_strictSorted {l : List Nat} (h : l.Pairwise (· < ·)) : sortNat l = l :=
  (strictSorted_sortNat (h.imp Nat.ne_of_lt)).eq_of_mem_iff h fun _ => mem_sortNat

theorem add_herInv (self sub self' : Circ K) (hs : HerInv self) {q : Nat} {H : List Nat}
    (hsub : SubOk sub q H) (m : Int) (g : Bool) (h : self.add sub m g = .ok self') :
    HerInv self' ∧
    self'.n - self'.inHer.length = self.n - self.inHer.length ∧
    self'.inHer.map (·.2) = self.inHer.map (·.2) ++ H := by
  have hwfs := hsub.wf
  have hsorted := hsub.sorted
  obtain ⟨mode, ts, -, d⟩ := add_data self sub self' hs.wf hwfs m g h
  have hwf' := (add_preserves_WF self sub self' hs.wf hwfs m g h).1
  have hmono : (sub.inHer.keys.map (bumps ts)).Pairwise (· < ·) := by
    rw [List.pairwise_map]
    exact hsorted.imp (fun hab => bumps_strictMono ts hab)
  have hsn := sortNat_of_strictSorted hmono
  have hlenIn : self'.inHer.length = self.inHer.length + sub.inHer.length := by
    rw [d.inHer, List.length_append, List.length_map, length_mapKeys, length_mapKeys]
  refine ⟨⟨hwf', ?_, ?_, ?_⟩, ?_, ?_⟩
  · rw [d.outHer, d.inHer, hs.io]
  · rw [d.inHer, d.internal, hsn, ← hs.keys]
    simp only [Dict.keys, Dict.mapKeys, List.map_append, List.map_map]
    congr 1
    apply List.map_congr_left
    intro p _
    simp [Nat.add_comm]
  · rw [lossCount_res d, hs.loss, hsub.loss]
  · rw [d.n_eq, hlenIn]; omega
  · rw [d.inHer, List.map_append, ← hsub.her]
    simp [Dict.mapKeys, Function.comp_def]

/-! non-vacuity of `HerInv`, `add_succeeds` and `add_herInv` -/

def exC : Circ Int := { n := 2, inHer := [(1, 0)], outHer := [(1, 0)], internal := [1] }

theorem exC_herInv : HerInv exC := by
  refine ⟨⟨?_, ?_, ?_, ?_, rfl, ?_, ?_, ?_⟩, rfl, rfl, rfl⟩
  · decide
  · decide
  · decide
  · decide
  · decide
  · decide
  · intro c hc; cases hc

theorem exC_subOk : SubOk exC 1 [0] :=
  ⟨exC_herInv.wf, (fun _ hp => nomatch hp), rfl, (by decide), rfl, rfl, rfl⟩

example : ∃ c' : Circ Int, exC.add exC (0 : Nat) false = .ok c' ∧ HerInv c' ∧ c'.n - c'.inHer.length = 1 ∧
    c'.inHer.map (·.2) = [0, 0] := by
  obtain ⟨c', h⟩ := add_succeeds exC exC exC_herInv.wf exC_herInv.wf 0 false (by decide) (by decide)
  obtain ⟨h1, h2, h3⟩ := add_herInv exC exC c' exC_herInv exC_subOk _ false h
  exact ⟨c', h, h1, h2, h3⟩

end

section

open MvPolynomial

variable {R : Type} [CommRing R]

section
variable {K : Type}

theorem invS_eq_invS' (x : Optic K) (s : Closed K) (m : ℕ) (hl : x.l = 0) {j : ℕ}
    (hj : j < x.p + x.a + s.hn.length) : invS x s m j = invS' m s.q (x.p + x.a) j := by
  unfold invS invS'
  by_cases h1 : m ≤ j ∧ j < m + s.q
  · rw [if_pos h1, if_pos h1]
  · rw [if_neg h1, if_neg h1]
    by_cases h2 : x.p + x.a ≤ j
    · rw [if_pos ⟨h2, hj⟩, if_pos h2]
    · rw [if_neg (fun hh => h2 hh.1), if_neg (by omega), if_neg h2]

theorem rowM_eq_colM (c : Circ K) (hio : c.outHer = c.inHer) (y : ℕ) : rowM c y = colM c y := by
  unfold rowM colM
  rw [hio]

end

/-- the matrix of `x.compose s m` (no loss) as a composition of homomorphisms -/
theorem homOf_compose_tidy (x : Optic R) (s : Closed R) (m : ℕ) (hl : x.l = 0)
    (hm : m + s.q ≤ x.p + x.a) :
    homOf ((Optic.embedVia (x.p + x.a + s.hn.length) s.W (invS x s m)).mul
        (Optic.embedVia (x.p + x.a + s.hn.length) x.W (invP x s.hn.length))).get
        (x.p + x.a + s.hn.length) =
      (placeHomG (homOf s.W.get (s.q + s.hn.length)) (fwdS m s.q (x.p + x.a))
        (invS' m s.q (x.p + x.a)) (x.p + x.a + s.hn.length)).comp
        (homOf x.W.get (x.p + x.a)) := by
  have hS : PInj (s.q + s.hn.length) (x.p + x.a + s.hn.length) (fwdS m s.q (x.p + x.a))
      (invS x s m) :=
    (pinj_invS' m s.q (x.p + x.a) s.hn.length hm).congr_inv
      (fun r hr => invS_eq_invS' x s m hl hr)
  have hP : PInj (x.p + x.a) (x.p + x.a + s.hn.length) (fun r => r) (invP x s.hn.length) := by
    have h := pinj_invP x s.hn.length 0
    rw [hl] at h
    exact h.congr_fwd fun y hy => (if_pos hy).symm
  rw [homOf_mul_embedVia hS hP,
    placeHomG_congr _ _ (fun j hj => invS_eq_invS' x s m hl hj),
    placeHomG_id _ _ (by omega) (fun j hj => hP.inv_fwd j hj)]
  intro j h1 h2
  unfold invP
  rw [if_neg (by omega), if_pos h2]

variable [StarRing R]

omit [StarRing R] in
theorem circHom_eq_closed (i : R) (c : Circ R) (hwf : c.WF) (hio : c.outHer = c.inHer)
    (hl : lossCount c.spec = 0) : circHom i c = homOf (c.toOptic i).closed.W.get c.n := by
  have hle := her_length_le hwf.inNodup hwf.inLt
  unfold circHom
  apply homOf_congr
  intro r k hr hk
  have hW : (c.toOptic i).closed.W = M.ofFn (c.n - c.inHer.length + c.inHer.length + lossCount c.spec)
      fun r k => (c.Ufull i).get (rowM c r) (colM c k) := by rw [closed_toOptic i c hwf]
  rw [hW, M.get_ofFn _ (by omega) (by omega), rowM_eq_colM c hio, ← layout_eq_colM c,
    ← layout_eq_colM c]
  rfl

theorem circHom_add (i : R) (self sub self' : Circ R)
    (hs : HerInv self) (hok : SpecOk self.n self.spec) {q : Nat} {H : List Nat}
    (hsub : SubOk sub q H) (m : Nat) (g : Bool) (h : self.add sub (m : Int) g = .ok self') :
    circHom i self' =
      (placeHomG (circHom i sub) (fwdS m q self.n) (invS' m q self.n) (self.n + H.length)).comp
        (circHom i self) := by
  have hwf := hs.wf
  obtain ⟨hwfs, hsok, hio, hsorted, hloss, hq, hH⟩ := hsub
  obtain ⟨hs', -, -⟩ := add_herInv self sub self' hs ⟨hwfs, hsok, hio, hsorted, hloss, hq, hH⟩
    (m : Int) g h
  rw [← hq, ← hH, List.length_map]
  obtain ⟨mode, ts, -, d⟩ := add_data self sub self' hwf hwfs (m : Int) g h
  have hfit : m + (sub.n - sub.inHer.length) ≤ self.n := by
    have := ((add_accepts_iff self sub hwf hwfs (m : Int) g).mp ⟨_, h⟩).2.2
    have hports : self.ports = self.n - self.internal.length := rfl
    omega
  have hx : Tidy (self.toOptic i) := tidy_toOptic i self hwf hs.keys hs.io hs.loss
  have hsq : (sub.toOptic i).closed.q = sub.n - sub.inHer.length := by
    rw [closed_toOptic i sub hwfs]
  have hshn : (sub.toOptic i).closed.hn.length = sub.inHer.length := closed_hn_length i sub hwfs
  have hsl : (sub.toOptic i).closed.l = 0 := by
    rw [closed_toOptic i sub hwfs]
    exact hloss
  have hpa : (self.toOptic i).p + (self.toOptic i).a = self.n := portModes_length self hwf
  have hsubn : sub.n - sub.inHer.length + sub.inHer.length = sub.n := by
    have := her_length_le hwfs.inNodup hwfs.inLt
    omega
  have hsem := sem_add_weak i self sub self' hwf hwfs hok hsok (m : Int) g h
  rw [Int.toNat_natCast, hx.closed_compose _ hsl m] at hsem
  have hW : (self'.toOptic i).closed.W =
      (Optic.embedVia ((self.toOptic i).p + (self.toOptic i).a + (sub.toOptic i).closed.hn.length)
          (sub.toOptic i).closed.W (invS (self.toOptic i) (sub.toOptic i).closed m)).mul
        (Optic.embedVia ((self.toOptic i).p + (self.toOptic i).a + (sub.toOptic i).closed.hn.length)
          (self.toOptic i).W (invP (self.toOptic i) (sub.toOptic i).closed.hn.length)) := by
    rw [hsem]
  have hD : self'.n = (self.toOptic i).p + (self.toOptic i).a + (sub.toOptic i).closed.hn.length := by
    rw [d.n_eq, hpa, hshn]
  have hself : homOf (self.toOptic i).W.get self.n = circHom i self := by
    rw [circHom_eq_closed i self hwf hs.io hs.loss, hx.closed_eq]
  rw [circHom_eq_closed i self' hs'.wf hs'.io hs'.loss, hW, hD,
    homOf_compose_tidy (self.toOptic i) (sub.toOptic i).closed m hx.l0
      (by rw [hsq, hpa]; exact hfit),
    hsq, hshn, hpa, hsubn, ← circHom_eq_closed i sub hwfs hio hloss, hself]

/-! non-vacuity of the hypotheses of `circHom_add` -/

example (i : Int) : ∃ c' : Circ Int, exC.add exC ((0 : Nat) : Int) false = .ok c' ∧
    circHom i c' =
      (placeHomG (circHom i exC) (fwdS 0 1 2) (invS' 0 1 2) 3).comp (circHom i exC) := by
  obtain ⟨c', h⟩ := add_succeeds exC exC exC_herInv.wf exC_herInv.wf 0 false (by decide) (by decide)
  exact ⟨c', h, circHom_add i exC exC c' exC_herInv exC_subOk.ok exC_subOk 0 false h⟩

end

end LW.C12F
