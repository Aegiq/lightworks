/-
  LW.Proofs.C02AddDefs — `Circ.add` split into named steps (C02): the equation `add_eq`, and what a
  single step or loop does.
-/
import LW.Proofs.C02Calls
namespace LW.Proofs.C02
variable {K : Type} [Zero K] [One K]

/-- position in the added circuit at which the parent's ancilla at offset `t0` from the insertion
point passes through: the offset moves up by one for every herald mode of the added circuit below it -/
def targetOf (keys : List Nat) (t0 : Int) : Int :=
  (sortNat keys).foldl (fun (t : Int) (m : Nat) => if t > (m : Int) then t + 1 else t) t0

theorem targetOf_eq_stepFold (keys : List Nat) (t0 : Int) :
    targetOf keys t0 = stepFold (sortNat keys) t0 := rfl

theorem targetOf_bounds (ks : List Nat) (t0 : Int) :
    t0 ≤ targetOf ks t0 ∧ targetOf ks t0 ≤ t0 + ks.length ∧ (t0 < 0 → targetOf ks t0 = t0) := by
  rw [targetOf_eq_stepFold, ← length_sortNat ks]
  exact stepFold_bounds (sortNat ks) t0

/-- one round of the loop over the parent's ancillas: an empty pass-through mode is inserted into the
added circuit if the target lies inside it -/
def ptStep (mode : Nat) (st : Circ.AddSt K) (i : Nat) : Circ.AddSt K :=
  let target : Int := targetOf st.sub.inHer.keys ((i : Int) - (mode : Int))
  if 0 ≤ target ∧ target < (st.sub.n : Int) then
    { sub := st.sub.addEmptyModeBook target.toNat,
      spec := Circ.addEmptyModeSpec st.spec target.toNat }
  else st

/-- one round of the loop over the herald modes of the added circuit: the parent gets a new ancilla
mode at `mode + m` -/
def ancStep (mode : Nat) (s : Circ K) (m : Nat) : Circ K :=
  let s' := s.addEmptyModeBook (mode + m)
  { s' with spec := Circ.addEmptyModeSpec s'.spec (mode + m), internal := s'.internal ++ [mode + m] }

/-- one round of the loop that enters the heralds of the added circuit into the parent -/
def herStep (mode : Nat) (s : Circ K) (p : Nat × Nat) : Circ K :=
  { s with inHer := s.inHer.set (p.1 + mode) p.2, outHer := s.outHer.set (p.1 + mode) p.2 }

/-- the components of the added circuit, followed by the swap that returns each output herald to the
mode of its input herald unless that swap is the identity -/
def swapSpec (circuit : Circ K) : List (Comp K) :=
  let prov : Dict := Dict.ofPairs (circuit.outHer.keys.zip circuit.inHer.keys)
  let swaps := Circ.synthSwaps circuit.n prov
  if swaps.keys != swaps.vals then circuit.spec ++ [.prim (.swaps swaps)] else circuit.spec

/-- the components appended by `add` -/
def addedComps (st : Circ.AddSt K) (mode : Nat) (grouped : Bool) : List (Comp K) :=
  if !grouped then st.spec.map (Comp.shift mode)
  else [.group ((st.spec.map (Comp.shift mode)).flatMap Comp.toPrims) mode (mode + st.sub.n - 1)
          st.sub.inHer st.sub.inHer]

/-- `add` after the pass-through loop has left the added circuit in state `st`: the new-ancilla loop,
the herald loop, and the shifted components appended -/
def addFinal (self : Circ K) (st : Circ.AddSt K) (mode : Nat) (grouped : Bool) : Circ K :=
  let self1 := (sortNat st.sub.inHer.keys).foldl (ancStep mode) self
  let self2 := st.sub.inHer.foldl (herStep mode) self1
  { self2 with spec := self2.spec ++ addedComps st mode grouped }

/-- the last lines of `Circuit.add` as the model writes them; only `add_eq` uses this and `addTailDo` -/
private def addFinalDo (self : Circ K) (st : Circ.AddSt K) (mode : Nat) (grouped : Bool) : Except Err (Circ K) :=
  let self1 := (sortNat st.sub.inHer.keys).foldl (ancStep mode) self
  let self2 := st.sub.inHer.foldl (herStep mode) self1
  let addCs := st.spec.map (Comp.shift mode)
  if !grouped then pure { self2 with spec := self2.spec ++ addCs }
  else pure { self2 with spec := self2.spec ++
      [.group (addCs.flatMap Comp.toPrims) mode (mode + st.sub.n - 1) st.sub.inHer st.sub.inHer] }

private def addTailDo (self circuit : Circ K) (mode : Nat) (grouped : Bool) : Except Err (Circ K) := do
  if mode + circuit.n - circuit.inHer.length > self.n then throw .modeRange
  let st := (sortNat self.internal).foldl (ptStep mode) ⟨circuit, swapSpec circuit⟩
  if mode + st.sub.n - circuit.inHer.length > self.n then throw .modeRange
  addFinalDo self st mode grouped

/-- `add` from the first range check on, for the insertion point `mode` -/
def addTail (self circuit : Circ K) (mode : Nat) (grouped : Bool) : Except Err (Circ K) :=
  if mode + circuit.n - circuit.inHer.length > self.n then .error .modeRange
  else
    let st := (sortNat self.internal).foldl (ptStep mode) ⟨circuit, swapSpec circuit⟩
    if mode + st.sub.n - circuit.inHer.length > self.n then .error .modeRange
    else .ok (addFinal self st mode grouped)

/-- the circuit that is inserted (unpacked if it is grouped or has heralds) and the group flag -/
def pick (circuit : Circ K) (g : Bool) : Circ K × Bool :=
  let cc := circuit.unpackGroups
  let grouped := g || !cc.inHer.isEmpty
  (if grouped then cc else circuit, grouped)

private theorem add_eq0 (self circuit : Circ K) (m : Int) (g : Bool) :
    self.add circuit m g =
      (self.modeInRange (self.mapMode m)).bind fun mode =>
        addTailDo self (pick circuit g).1 mode (pick circuit g).2 := rfl

private theorem addTailDo_eq (self circuit : Circ K) (mode : Nat) (grouped : Bool) :
    addTailDo self circuit mode grouped = addTail self circuit mode grouped := by
  unfold addTailDo addTail
  by_cases h1 : mode + circuit.n - circuit.inHer.length > self.n
  · simp only [h1, if_true]; rfl
  · simp only [h1, if_false]
    by_cases h2 : mode + ((sortNat self.internal).foldl (ptStep mode) ⟨circuit, swapSpec circuit⟩).sub.n
        - circuit.inHer.length > self.n
    · simp only [h2, if_true]; rfl
    · simp only [h2, if_false]
      cases grouped <;> rfl

theorem add_eq (self circuit : Circ K) (m : Int) (g : Bool) :
    self.add circuit m g =
      (self.modeInRange (self.mapMode m)).bind fun mode =>
        addTail self (pick circuit g).1 mode (pick circuit g).2 := by
  rw [add_eq0]
  congr
  funext mode
  exact addTailDo_eq _ _ _ _

/-! ### the steps -/

theorem ptStep_cases (mode : Nat) (st : Circ.AddSt K) (i : Nat) :
    (ptStep mode st i = st ∧
      ¬ (0 ≤ targetOf st.sub.inHer.keys ((i : Int) - (mode : Int)) ∧
          targetOf st.sub.inHer.keys ((i : Int) - (mode : Int)) < (st.sub.n : Int))) ∨
    (ptStep mode st i =
        { sub := st.sub.addEmptyModeBook (targetOf st.sub.inHer.keys ((i : Int) - (mode : Int))).toNat,
          spec := Circ.addEmptyModeSpec st.spec (targetOf st.sub.inHer.keys ((i : Int) - (mode : Int))).toNat } ∧
      (0 ≤ targetOf st.sub.inHer.keys ((i : Int) - (mode : Int)) ∧
          targetOf st.sub.inHer.keys ((i : Int) - (mode : Int)) < (st.sub.n : Int))) := by
  unfold ptStep
  simp only
  split
  · rename_i h; exact Or.inr ⟨rfl, h⟩
  · rename_i h; exact Or.inl ⟨rfl, h⟩

omit [Zero K] [One K] in
theorem herFold_eq (mode : Nat) (H : Dict) (s : Circ K) :
    H.foldl (herStep mode) s =
      { s with inHer := (H.map fun p => (p.1 + mode, p.2)).foldl (fun d p => d.set p.1 p.2) s.inHer,
               outHer := (H.map fun p => (p.1 + mode, p.2)).foldl (fun d p => d.set p.1 p.2) s.outHer } := by
  induction H generalizing s with
  | nil => rfl
  | cons p t ih =>
    rw [List.foldl_cons, ih]
    rfl

end LW.Proofs.C02
