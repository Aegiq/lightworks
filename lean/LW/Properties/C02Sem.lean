/-
  C02 (semantic core) — the bookkeeping of `Circuit.add` refines composition of transformations.

  `Circ.toOptic` (LW.Model.Abs) abstracts the bookkeeping state to ports / private ancillas / one
  matrix; `Optic.compose` (LW.Model.Optic) is the specification of adding a sub-circuit: the closed
  sub-circuit S̃ is wired, in order, onto ports m, m+1, … of the parent and its heralds become new
  private ancillas: W' = Embed(S̃) · Embed(P).  The theorems say that each accepted call of `add`,
  `bs`, `ps`, `loss`, `mode_swaps`, `herald` commutes with the abstraction on canonical closed forms — i.e. the heralded transformation of the
  result is exactly the composition of the two transformations under this wiring, for any nesting
  depth, grouping flag, herald declaration order, in ≠ out herald modes and any existing ancillas.
  `Reach` (LW.Proofs.ReachDef) = constructible through the API.
-/
import LW.Proofs.C02Sem

namespace LW.C02

variable {K : Type} [CommRing K] [StarRing K]

/-- REFINEMENT of `add`: on canonical closed forms, abstraction commutes with composition -/
theorem sem_add (i : K) (self sub self' : Circ K) (hs : Reach self) (hsub : Reach sub)
    (m : Int) (g : Bool) (h : self.add sub m g = .ok self') :
    (self'.toOptic i).closed = ((self.toOptic i).compose (sub.toOptic i).closed m.toNat).closed :=
  Proofs.C02Sem.sem_add i self sub self' hs hsub m g h

/-- the specification accepts exactly the additions the bookkeeping accepts -/
theorem sem_add_accepts (i : K) (self sub : Circ K) (hs : Reach self) (hsub : Reach sub) (m : Int) (g : Bool) :
    (∃ self', self.add sub m g = .ok self') ↔ (∃ x, (self.toOptic i).add (sub.toOptic i) m = .ok x) :=
  Proofs.C02Sem.sem_add_accepts i self sub hs hsub m g

/-- REFINEMENT of primitive calls: a primitive on user modes acts on the ports only (ancillas are
never touched), and is accepted on the ports whenever the API accepts it -/
theorem sem_bs (i : K) (c c' : Circ K) (hc : Reach c) (m1 m2 : Int) (cs : K × K) (cv : Conv)
    (l : Option (K × K)) (h : c.bs m1 m2 cs cv l = .ok c') :
    ∃ x, (c.toOptic i).applyCall i (fun d => d.bs m1 m2 cs cv l) = .ok x ∧ x.closed = (c'.toOptic i).closed :=
  Proofs.C02Sem.sem_bs i c c' hc m1 m2 cs cv l h

theorem sem_ps (i : K) (c c' : Circ K) (hc : Reach c) (m : Int) (p : K) (l : Option (K × K))
    (h : c.ps m p l = .ok c') :
    ∃ x, (c.toOptic i).applyCall i (fun d => d.ps m p l) = .ok x ∧ x.closed = (c'.toOptic i).closed :=
  Proofs.C02Sem.sem_ps i c c' hc m p l h

theorem sem_loss (i : K) (c c' : Circ K) (hc : Reach c) (m : Int) (ab : K × K)
    (h : c.loss m ab = .ok c') :
    ∃ x, (c.toOptic i).applyCall i (fun d => d.loss m ab) = .ok x ∧ x.closed = (c'.toOptic i).closed :=
  Proofs.C02Sem.sem_loss i c c' hc m ab h

theorem sem_swaps (i : K) (c c' : Circ K) (hc : Reach c) (sw : List (Int × Int))
    (h : c.modeSwaps sw = .ok c') :
    ∃ x, (c.toOptic i).applyCall i (fun d => d.modeSwaps sw) = .ok x ∧ x.closed = (c'.toOptic i).closed :=
  Proofs.C02Sem.sem_swaps i c c' hc sw h

/-- REFINEMENT of `herald` -/
theorem sem_herald (i : K) (c c' : Circ K) (hc : Reach c) (k : Nat) (a b : Int)
    (h : c.herald k a b = .ok c') :
    ∃ x, (c.toOptic i).herald k a b = .ok x ∧ x.closed = (c'.toOptic i).closed :=
  Proofs.C02Sem.sem_herald i c c' hc k a b h

end LW.C02
