/-
  LW.Proofs.DictLemmas — `sortNat`; the integer-keyed `Dict` of the circuit model as an instance of
  the association lists of LW.Proofs.AssocList; `Dict.fn`, the map on modes that a dictionary
  describes.  Namespaces: the lemmas on `sortNat` and on `Dict` as an association list are in `LW.Proofs.C02`
  (their users `open LW.Proofs.C02`), the rest (`getD`, `keys_zip`, `fn`, …) in `LW.Dict`, `keys_length` in `LW.Proofs.C02Sem`.
-/
import LW.Proofs.AssocList
import LW.Model.Circuit

namespace LW.Proofs.C02

theorem perm_insertSorted (x : Nat) (l : List Nat) : (insertSorted x l).Perm (x :: l) := by
  induction l with
  | nil => simp [insertSorted]
  | cons y ys ih =>
    simp only [insertSorted]
    split
    · exact List.Perm.refl _
    · exact (List.Perm.cons y ih).trans (List.Perm.swap x y ys)

theorem mem_insertSorted {a x : Nat} {l : List Nat} : a ∈ insertSorted x l ↔ a = x ∨ a ∈ l := by
  rw [(perm_insertSorted x l).mem_iff]; simp

theorem sorted_insertSorted (x : Nat) (l : List Nat) (h : l.Pairwise (· ≤ ·)) :
    (insertSorted x l).Pairwise (· ≤ ·) := by
  induction l with
  | nil => simp [insertSorted]
  | cons y ys ih =>
    simp only [insertSorted]
    split
    · rename_i hxy
      refine List.Pairwise.cons ?_ h
      intro a ha
      rcases List.mem_cons.mp ha with rfl | ha
      · exact hxy
      · exact Nat.le_trans hxy (List.rel_of_pairwise_cons h ha)
    · rename_i hxy
      refine List.Pairwise.cons ?_ (ih h.of_cons)
      intro a ha
      rcases mem_insertSorted.mp ha with rfl | ha
      · omega
      · exact List.rel_of_pairwise_cons h ha

theorem perm_sortNat (l : List Nat) : (sortNat l).Perm l := by
  induction l with
  | nil => exact List.Perm.refl _
  | cons x xs ih =>
    show (insertSorted x (sortNat xs)).Perm (x :: xs)
    exact (perm_insertSorted x _).trans (List.Perm.cons x ih)

theorem mem_sortNat {a : Nat} {l : List Nat} : a ∈ sortNat l ↔ a ∈ l := (perm_sortNat l).mem_iff

theorem length_sortNat (l : List Nat) : (sortNat l).length = l.length := (perm_sortNat l).length_eq

theorem sorted_sortNat (l : List Nat) : (sortNat l).Pairwise (· ≤ ·) := by
  induction l with
  | nil => exact List.Pairwise.nil
  | cons x xs ih => exact sorted_insertSorted x _ ih

theorem sortNat_eq_iff_perm (l1 l2 : List Nat) : sortNat l1 = sortNat l2 ↔ l1.Perm l2 := by
  constructor
  · intro h
    exact (perm_sortNat l1).symm.trans (h ▸ perm_sortNat l2)
  · intro h
    have hp : (sortNat l1).Perm (sortNat l2) := (perm_sortNat l1).trans (h.trans (perm_sortNat l2).symm)
    exact List.Perm.eq_of_pairwise (fun a b _ _ hab hba => Nat.le_antisymm hab hba)
      (sorted_sortNat l1) (sorted_sortNat l2) hp

theorem nodup_sortNat {l : List Nat} (h : l.Nodup) : (sortNat l).Nodup := (perm_sortNat l).nodup_iff.mpr h

theorem strictSorted_sortNat {l : List Nat} (h : l.Nodup) : (sortNat l).Pairwise (· < ·) := by
  have h1 := sorted_sortNat l
  have h2 : (sortNat l).Pairwise (· ≠ ·) := nodup_sortNat h
  exact (h1.and h2).imp (fun ⟨a, b⟩ => Nat.lt_of_le_of_ne a b)

theorem contains_iff {d : Dict} {k : Nat} : d.contains k = true ↔ k ∈ d.keys := Assoc.any_key_iff d k

theorem get?_cons (p : Nat × Nat) (d : Dict) (k : Nat) :
    Dict.get? (p :: d) k = if p.1 = k then some p.2 else Dict.get? d k := Assoc.find_cons d k p

theorem get?_eq_none_iff {d : Dict} {k : Nat} : d.get? k = none ↔ k ∉ d.keys :=
  Assoc.find_eq_none_iff d k

theorem get?_isSome_iff {d : Dict} {k : Nat} : (d.get? k).isSome ↔ k ∈ d.keys := by
  rw [Option.isSome_iff_ne_none, Ne, get?_eq_none_iff, Classical.not_not]

theorem mem_of_get? {d : Dict} {k v : Nat} (h : d.get? k = some v) : (k, v) ∈ d :=
  Assoc.mem_of_find h

theorem get?_mem_vals {d : Dict} {k v : Nat} (h : d.get? k = some v) : v ∈ d.vals :=
  List.mem_map.mpr ⟨(k, v), mem_of_get? h, rfl⟩

theorem set_of_not_mem {d : Dict} {k v : Nat} (h : k ∉ d.keys) : d.set k v = d ++ [(k, v)] :=
  Assoc.upd_of_not_mem d k _ v h

theorem keys_append (d e : Dict) : (d ++ e).keys = d.keys ++ e.keys := List.map_append

theorem keys_set (d : Dict) (k v : Nat) :
    (d.set k v).keys = if k ∈ d.keys then d.keys else d.keys ++ [k] := Assoc.keys_upd d k _ v

theorem mem_keys_set {d : Dict} {k v x : Nat} : x ∈ (d.set k v).keys ↔ x = k ∨ x ∈ d.keys :=
  (Assoc.mem_keys_upd d k _ v x).trans Or.comm

theorem nodup_keys_set {d : Dict} {k v : Nat} (h : d.keys.Nodup) : (d.set k v).keys.Nodup :=
  Assoc.nodup_keys_upd d k _ v h

theorem mem_vals_set {d : Dict} {k v x : Nat} (h : x ∈ (d.set k v).vals) : x = v ∨ x ∈ d.vals := by
  obtain ⟨q, hq, rfl⟩ := List.mem_map.1 h
  exact (Assoc.mem_put hq).imp (congrArg Prod.snd) fun hq => List.mem_map.2 ⟨q, hq, rfl⟩

theorem get?_append (d e : Dict) (k : Nat) :
    Dict.get? (d ++ e) k = (Dict.get? d k).or (Dict.get? e k) := by
  unfold Dict.get?
  rw [List.find?_append, Option.map_or]

theorem get?_set (d : Dict) (k v k' : Nat) :
    (d.set k v).get? k' = if k' = k then some v else d.get? k' := by
  split
  · rename_i h
    rw [h]
    exact Assoc.find_put_eq d k v
  · rename_i h
    exact Assoc.find_put_ne d k k' v h

theorem foldl_set_fresh (ps : List (Nat × Nat)) (d : Dict)
    (hnd : (ps.map (·.1)).Nodup) (hdis : ∀ k ∈ ps.map (·.1), k ∉ d.keys) :
    ps.foldl (fun d p => d.set p.1 p.2) d = d ++ ps :=
  Assoc.foldl_put_fresh ps d hnd fun p hp => hdis p.1 (List.mem_map_of_mem hp)

theorem ofPairs_of_nodup {ps : List (Nat × Nat)} (h : (ps.map (·.1)).Nodup) : Dict.ofPairs ps = ps := by
  unfold Dict.ofPairs
  rw [foldl_set_fresh ps [] h (by simp [Dict.keys])]
  simp

theorem mem_keys_foldl_set (ps : List (Nat × Nat)) (d : Dict) (x : Nat) :
    x ∈ (ps.foldl (fun d p => d.set p.1 p.2) d).keys ↔ x ∈ d.keys ∨ x ∈ ps.map (·.1) :=
  Assoc.mem_keys_foldl_upd (ι := Nat × Nat) (·.1) (fun p _ => p.2) (·.2) ps d x

theorem nodup_keys_foldl_set (ps : List (Nat × Nat)) (d : Dict) (h : d.keys.Nodup) :
    (ps.foldl (fun d p => d.set p.1 p.2) d).keys.Nodup :=
  Assoc.nodup_keys_foldl_upd (ι := Nat × Nat) (·.1) (fun p _ => p.2) (·.2) ps d h

theorem mem_vals_foldl_set (ps : List (Nat × Nat)) (d : Dict) :
    ∀ x ∈ (ps.foldl (fun d p => d.set p.1 p.2) d).vals, x ∈ d.vals ∨ x ∈ ps.map (·.2) := by
  intro x hx
  obtain ⟨q, hq, rfl⟩ := List.mem_map.1 hx
  exact (Assoc.mem_foldl_put hq).imp (fun h => List.mem_map.2 ⟨q, h, rfl⟩)
    fun h => List.mem_map.2 ⟨q, h, rfl⟩

theorem mem_keys_ofPairs {ps : List (Nat × Nat)} {x : Nat} :
    x ∈ (Dict.ofPairs ps).keys ↔ x ∈ ps.map (·.1) :=
  (mem_keys_foldl_set ps [] x).trans (or_iff_right List.not_mem_nil)

theorem mem_vals_ofPairs {ps : List (Nat × Nat)} {x : Nat} (h : x ∈ (Dict.ofPairs ps).vals) :
    x ∈ ps.map (·.2) :=
  (mem_vals_foldl_set ps [] x h).resolve_left List.not_mem_nil

theorem nodup_keys_ofPairs (ps : List (Nat × Nat)) : (Dict.ofPairs ps).keys.Nodup :=
  nodup_keys_foldl_set ps [] List.nodup_nil

end LW.Proofs.C02

namespace LW

open Proofs.C02

namespace Dict

theorem getD_of_not_mem_keys {d : Dict} {k dflt : Nat} (h : k ∉ d.keys) : d.getD k dflt = dflt := by
  unfold Dict.getD
  rw [get?_eq_none_iff.mpr h]; rfl

theorem mem_keys_of_mem {d : Dict} {k v : Nat} (h : (k, v) ∈ d) : k ∈ d.keys :=
  List.mem_map.mpr ⟨(k, v), h, rfl⟩

theorem mem_vals_of_mem {d : Dict} {k v : Nat} (h : (k, v) ∈ d) : v ∈ d.vals :=
  List.mem_map.mpr ⟨(k, v), h, rfl⟩

theorem getD_eq_of_mem {d : Dict} (hnd : d.keys.Nodup) {k v : Nat} (h : (k, v) ∈ d) (dflt : Nat) :
    d.getD k dflt = v :=
  congrArg (Option.getD · dflt) (Assoc.find_of_mem hnd h)

theorem keys_zip {ks vs : List Nat} (h : ks.length = vs.length) : Dict.keys (ks.zip vs) = ks :=
  List.map_fst_zip (Nat.le_of_eq h)

theorem vals_zip {ks vs : List Nat} (h : ks.length = vs.length) : Dict.vals (ks.zip vs) = vs :=
  List.map_snd_zip (Nat.le_of_eq h.symm)

/-- the map on modes described by a dictionary (missing modes are fixed) -/
def fn (σ : Dict) (c : Nat) : Nat := Dict.getD σ c c

@[simp] theorem fn_nil (c : Nat) : fn [] c = c := rfl

theorem fn_of_not_mem {σ : Dict} {c : Nat} (h : c ∉ Dict.keys σ) : fn σ c = c :=
  getD_of_not_mem_keys h

theorem fn_set (d : Dict) (k v c : Nat) :
    fn (Dict.set d k v) c = if k = c then v else fn d c := by
  unfold fn Dict.getD Dict.get?
  by_cases h : k = c
  · subst h
    rw [if_pos rfl]
    exact congrArg (Option.getD · k) (Assoc.find_put_eq d k v)
  · rw [if_neg h]
    exact congrArg (Option.getD · c) (Assoc.find_put_ne d k c v (Ne.symm h))

theorem getD_cases (d : Dict) (k : Nat) :
    (k ∉ d.keys ∧ d.getD k k = k) ∨ (∃ v, (k, v) ∈ d ∧ d.getD k k = v) := by
  by_cases hk : k ∈ d.keys
  · obtain ⟨v, hv⟩ := Option.isSome_iff_exists.mp (get?_isSome_iff.mpr hk)
    refine Or.inr ⟨v, mem_of_get? hv, ?_⟩
    unfold Dict.getD
    rw [hv]; rfl
  · exact Or.inl ⟨hk, getD_of_not_mem_keys hk⟩

end Dict

end LW

namespace LW.Proofs.C02Sem

theorem keys_length (d : Dict) : d.keys.length = d.length := List.length_map _

end LW.Proofs.C02Sem
