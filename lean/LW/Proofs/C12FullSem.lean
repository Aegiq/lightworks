/-
  LW.Proofs.C12FullSem — the positional well-formedness `SpecOk` of converted circuits (no
  unitarity) is a case of `SpecPos` and is preserved by `Circuit.add` (`add_specOk`, through the leaf
  lemmas `PrimOk.mono/.addEmptyMode/.shift`); `sem_add_weak`: the refinement of `Circuit.add` for
  circuits whose unitary blocks are arbitrary, possibly non-invertible, matrices
  (`C02Sem.sem_add_pos` at the positional hypothesis `SpecOk`).
-/
import LW.Proofs.C12FullSpecOk
import LW.Proofs.C02SemAdd

open scoped BigOperators

namespace LW.C12F

open LW LW.Proofs.C01Aux LW.Proofs.C02 LW.Proofs.C02Sem

variable {K : Type} [CommRing K] [StarRing K]

-- `PrimOk.pos` and `PrimOk.mono` speak of positions only and do not use `[CommRing K] [StarRing K]`
set_option linter.unusedSectionVars false

theorem PrimOk.pos {n : Nat} {p : Prim K} (h : PrimOk n p) : PrimPos n p := by
  cases p with
  | bs m1 m2 c s cv => exact h.elim
  | ps m q => exact h.elim
  | loss m a b => exact h.elim
  | barrier ms => exact h.elim
  | swaps σ => exact h
  | unitary m u => exact h

theorem SpecOk.pos {n : Nat} {spec : List (Comp K)} (h : SpecOk n spec) : SpecPos n spec :=
  fun p hp => (h p hp).pos

theorem PrimOk.addEmptyMode {n : Nat} {p : Prim K} (h : PrimOk n p) (t : Nat) :
    PrimOk (n + 1) (p.addEmptyMode t) := by
  have hp := h.pos.addEmptyMode t
  cases p with
  | bs m1 m2 c s cv => exact h.elim
  | ps m q => exact h.elim
  | loss m a b => exact h.elim
  | barrier ms => exact h.elim
  | swaps σ => exact hp
  | unitary m u =>
    revert hp
    simp only [Prim.addEmptyMode]
    split <;> exact id

theorem PrimOk.shift {n : Nat} {p : Prim K} (h : PrimOk n p) (k : Nat) :
    PrimOk (n + k) (p.shift k) := by
  cases p with
  | bs m1 m2 c s cv => exact h.elim
  | ps m q => exact h.elim
  | loss m a b => exact h.elim
  | barrier ms => exact h.elim
  | swaps σ =>
    exact LW.Proofs.Reach.Prim.Wf.shift (K := K) (p := Prim.swaps σ) (n := n) h k
  | unitary m u =>
    have h1 : m + u.n ≤ n := h
    show m + k + u.n ≤ n + k
    omega

theorem PrimOk.mono {n N : Nat} {p : Prim K} (h : PrimOk n p) (hN : n ≤ N) : PrimOk N p := by
  cases p with
  | bs m1 m2 c s cv => exact h.elim
  | ps m q => exact h.elim
  | loss m a b => exact h.elim
  | barrier ms => exact h.elim
  | swaps σ =>
    have h' : SwapsOk n σ := h
    exact h'.mono hN
  | unitary m u =>
    have h1 : m + u.n ≤ n := h
    show m + u.n ≤ N
    omega

theorem SpecOk.addEmptyMode {n : Nat} {spec : List (Comp K)} (h : SpecOk n spec) (t : Nat) :
    SpecOk (n + 1) (Circ.addEmptyModeSpec spec t) := by
  intro p hp
  rw [flattenSpec_addEmptyModeSpec] at hp
  obtain ⟨p0, hp0, rfl⟩ := List.mem_map.mp hp
  exact PrimOk.addEmptyMode (h p0 hp0) t

theorem add_specOk (self sub self' : Circ K) (hwfs : sub.WF)
    (hs : SpecOk self.n self.spec) (hsub : SpecOk sub.n sub.spec) (m : Int) (g : Bool)
    (h : self.add sub m g = .ok self') : SpecOk self'.n self'.spec := by
  have hP : LW.Proofs.C02.AddStable (fun n (c : Comp K) => ∀ p ∈ c.toPrims, PrimOk n p) :=
    .of_leaf PrimOk.mono PrimOk.addEmptyMode PrimOk.shift (LW.Proofs.Reach.synthSwaps_zipHer_swapsOk _)
  intro p hp
  obtain ⟨c, hc, hp⟩ := List.mem_flatMap.mp hp
  exact LW.Proofs.C02.add_forall hP self sub self' hwfs
    (fun c hc p hp => hs p (List.mem_flatMap.mpr ⟨c, hc, hp⟩))
    (fun c hc p hp => hsub p (List.mem_flatMap.mpr ⟨c, hc, hp⟩)) m g h c hc p hp

theorem sem_add_weak (i : K) (self sub self' : Circ K) (hwf : self.WF) (hwfs : sub.WF)
    (hs : SpecOk self.n self.spec) (hsub : SpecOk sub.n sub.spec) (m : Int) (g : Bool)
    (h : self.add sub m g = .ok self') :
    (self'.toOptic i).closed = ((self.toOptic i).compose (sub.toOptic i).closed m.toNat).closed :=
  sem_add_pos i self sub self' hwf hwfs hs.pos hsub.pos m g h

end LW.C12F
