/-
  LW.Proofs.Run — histories run by a step function.  `IsRun`: a partial step, one outcome collected
  per call, the final state kept (`heapRun`, `World.run`).  `IsCollect`: a total step that may
  return a value, the values collected and the final state dropped (the cached objects of C11, the
  rejection loop of C07).  A run function satisfies the two equations of its interface by `rfl` or
  by cases on one step; invariants and simulations are lifted from calls to histories once.  (A
  total step without outcome is `List.foldl`, with `List.foldlRecOn`.)
-/

namespace LW

structure IsRun {S O R : Type} (step : S → O → Option (S × R))
    (run : S → List O → Option (S × List R)) : Prop where
  nil : ∀ s, run s [] = some (s, [])
  cons : ∀ s o os, run s (o :: os) =
    (step s o).bind fun p => (run p.1 os).bind fun q => some (q.1, p.2 :: q.2)

namespace IsRun

variable {S O R : Type} {step : S → O → Option (S × R)} {run : S → List O → Option (S × List R)}

theorem cons_eq_some (hR : IsRun step run) {s s'' : S} {o : O} {os : List O} {rs : List R} :
    run s (o :: os) = some (s'', rs) ↔
      ∃ s' r rs', step s o = some (s', r) ∧ run s' os = some (s'', rs') ∧ rs = r :: rs' := by
  rw [hR.cons]
  constructor
  · intro hr
    obtain ⟨⟨s', r⟩, hs, hr⟩ := Option.bind_eq_some_iff.mp hr
    obtain ⟨⟨s2, rs'⟩, hr', e⟩ := Option.bind_eq_some_iff.mp hr
    cases e
    exact ⟨s', r, rs', hs, hr', rfl⟩
  · rintro ⟨s', r, rs', hs, hr, rfl⟩
    exact Option.bind_eq_some_iff.mpr ⟨(s', r), hs, Option.bind_eq_some_iff.mpr ⟨(s'', rs'), hr, rfl⟩⟩

theorem induction (hR : IsRun step run) {Q : S → Prop} {ops : List O} {s s' : S} {rs : List R}
    (hstep : ∀ op ∈ ops, ∀ s s' r, Q s → step s op = some (s', r) → Q s')
    (h0 : Q s) (hr : run s ops = some (s', rs)) : Q s' := by
  induction ops generalizing s rs with
  | nil => rw [hR.nil] at hr; cases hr; exact h0
  | cons op ops ih =>
    obtain ⟨s1, r, rs', hs, hr', -⟩ := hR.cons_eq_some.mp hr
    exact ih (fun o ho => hstep o (List.mem_cons_of_mem _ ho))
      (hstep op List.mem_cons_self s s1 r h0 hs) hr'

theorem length_eq (hR : IsRun step run) {ops : List O} {s s' : S} {rs : List R}
    (hr : run s ops = some (s', rs)) : rs.length = ops.length := by
  induction ops generalizing s rs with
  | nil => rw [hR.nil] at hr; cases hr; rfl
  | cons op ops ih =>
    obtain ⟨s1, r, rs', -, hr', rfl⟩ := hR.cons_eq_some.mp hr
    rw [List.length_cons, List.length_cons, ih hr']

theorem map {S' O' : Type} {step' : S' → O' → Option (S' × R)}
    {run' : S' → List O' → Option (S' × List R)} (hR : IsRun step run) (hR' : IsRun step' run')
    (φ : S → S') (ψ : O → O')
    (hstep : ∀ s o, step' (φ s) (ψ o) = (step s o).map fun p => (φ p.1, p.2)) (s : S) (os : List O) :
    run' (φ s) (os.map ψ) = (run s os).map fun p => (φ p.1, p.2) := by
  induction os generalizing s with
  | nil => rw [List.map_nil, hR.nil, hR'.nil]; rfl
  | cons o os ih =>
    rw [List.map_cons, hR.cons, hR'.cons, hstep]
    cases step s o with
    | none => rfl
    | some p =>
      rw [Option.map_some, Option.bind_some, Option.bind_some, ih]
      cases run p.1 os <;> rfl

end IsRun

structure IsCollect {S O R : Type} (step : S → O → Option R × S) (run : S → List O → List R) :
    Prop where
  nil : ∀ s, run s [] = []
  cons : ∀ s o os, run s (o :: os) = (step s o).1.toList ++ run (step s o).2 os

namespace IsCollect

variable {S O R : Type} {step : S → O → Option R × S} {run : S → List O → List R}

theorem forall_mem (hR : IsCollect step run) {Q : S → Prop} {P : R → Prop}
    (hstep : ∀ s o, Q s → Q (step s o).2 ∧ ∀ r, (step s o).1 = some r → P r)
    {s : S} (h0 : Q s) (ops : List O) : ∀ r ∈ run s ops, P r := by
  induction ops generalizing s with
  | nil => rw [hR.nil]; exact fun _ h => nomatch h
  | cons o os ih =>
    rw [hR.cons]
    intro r hr
    rcases List.mem_append.mp hr with hr | hr
    · exact (hstep s o h0).2 r (Option.mem_toList.mp hr)
    · exact ih (hstep s o h0).1 r hr

theorem length_le (hR : IsCollect step run) (s : S) (ops : List O) :
    (run s ops).length ≤ ops.length := by
  induction ops generalizing s with
  | nil => rw [hR.nil]; exact Nat.le_refl 0
  | cons o os ih =>
    rw [hR.cons, List.length_append, List.length_cons]
    have := ih (step s o).2
    cases (step s o).1 <;> simp <;> omega

theorem eq_of_sim {S' : Type} {step' : S' → O → Option R × S'} {run' : S' → List O → List R}
    (hR : IsCollect step run) (hR' : IsCollect step' run') {Rel : S → S' → Prop}
    (hstep : ∀ s t o, Rel s t → (step s o).1 = (step' t o).1 ∧ Rel (step s o).2 (step' t o).2)
    {s : S} {t : S'} (h0 : Rel s t) (ops : List O) : run s ops = run' t ops := by
  induction ops generalizing s t with
  | nil => rw [hR.nil, hR'.nil]
  | cons o os ih => rw [hR.cons, hR'.cons, (hstep s t o h0).1, ih (hstep s t o h0).2]

end IsCollect

end LW
