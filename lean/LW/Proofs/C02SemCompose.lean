/-
  LW.Proofs.C02SemCompose — `Optic.compose` taken apart: its fields, and its two index maps `invP`
  (result index → parent index) and `invS` (result index → index of the closed sub-optic) as partial
  injections with explicit forward maps.
-/
import LW.Proofs.C02SemClosed

namespace LW.Proofs.C02Sem

open LW LW.Proofs.C01Aux LW.Proofs.C02

variable {K : Type}

theorem map_eq_range_getD {β : Type} (g : Nat → β) (l : List Nat) :
    l.map g = (List.range l.length).map fun k => g (l.getD k 0) := by
  conv_lhs => rw [← map_getD_range l 0, List.map_map]
  rfl

section Compose
variable [CommRing K] (x : Optic K) (s : Closed K) (m : Nat)

theorem compose_p : (x.compose s m).p = x.p := rfl
theorem compose_a : (x.compose s m).a = x.a + s.hn.length := rfl
theorem compose_l : (x.compose s m).l = x.l + s.l := rfl
theorem compose_her : (x.compose s m).her = x.her ++ (List.range s.hn.length).map fun k =>
    (⟨x.p + x.a + k, x.p + x.a + k, s.hn.getD k 0⟩ : Her) := rfl

theorem compose_her_length : (x.compose s m).her.length = x.her.length + s.hn.length := by
  rw [compose_her, List.length_append, List.length_map, List.length_range]

theorem compose_her_n : (x.compose s m).her.map (·.n) = x.her.map (·.n) ++ s.hn := by
  rw [compose_her, List.map_append, List.map_map]
  congr 1
  exact map_getD_range s.hn 0

theorem compose_her_i : (x.compose s m).her.map (·.i)
    = x.her.map (·.i) ++ (List.range s.hn.length).map (x.p + x.a + ·) := by
  rw [compose_her, List.map_append, List.map_map]; rfl

theorem compose_her_o : (x.compose s m).her.map (·.o)
    = x.her.map (·.o) ++ (List.range s.hn.length).map (x.p + x.a + ·) := by
  rw [compose_her, List.map_append, List.map_map]; rfl

end Compose

/-- `invP`, `invS`: the two local index maps of `Optic.compose`, named (`compose_W` is `rfl`) -/
def invP (x : Optic K) (aS : Nat) (r : Nat) : Option Nat :=
  if r < x.p + x.a then some r
  else if r < x.p + x.a + aS then none
  else if r < x.p + x.a + aS + x.l then some (r - aS)
  else none

def invS (x : Optic K) (s : Closed K) (m : Nat) (r : Nat) : Option Nat :=
  if m ≤ r ∧ r < m + s.q then some (r - m)
  else if x.p + x.a ≤ r ∧ r < x.p + x.a + s.hn.length then some (s.q + (r - (x.p + x.a)))
  else if x.p + x.a + s.hn.length + x.l ≤ r then
    some (s.q + s.hn.length + (r - (x.p + x.a + s.hn.length + x.l)))
  else none

theorem compose_W [CommRing K] (x : Optic K) (s : Closed K) (m : Nat) :
    (x.compose s m).W =
      (Optic.embedVia (x.p + x.a + s.hn.length + x.l + s.l) s.W (invS x s m)).mul
        (Optic.embedVia (x.p + x.a + s.hn.length + x.l + s.l) x.W (invP x s.hn.length)) := rfl

/-- parent index → index of the composed optic: the new ancillas are inserted at `P` -/
def fwdP (P aS y : Nat) : Nat := if y < P then y else y + aS

theorem pinj_invP (x : Optic K) (aS L : Nat) :
    PInj (x.p + x.a + x.l) (x.p + x.a + aS + x.l + L) (fwdP (x.p + x.a) aS) (invP x aS) := by
  refine ⟨fun y hy => ?_, fun y hy => ?_, fun R y hR e => ?_⟩
  · unfold fwdP
    by_cases h : y < x.p + x.a
    · rw [if_pos h]; omega
    · rw [if_neg h]; omega
  · unfold fwdP invP
    by_cases h : y < x.p + x.a
    · rw [if_pos h, if_pos h]
    · rw [if_neg h, if_neg (by omega), if_neg (by omega), if_pos (by omega), Nat.add_sub_cancel]
  · unfold invP at e
    unfold fwdP
    by_cases h1 : R < x.p + x.a
    · rw [if_pos h1] at e
      injection e with e
      subst e
      exact ⟨Nat.lt_add_right _ h1, if_pos h1⟩
    · rw [if_neg h1] at e
      by_cases h2 : R < x.p + x.a + aS
      · rw [if_pos h2] at e; cases e
      · rw [if_neg h2] at e
        by_cases h3 : R < x.p + x.a + aS + x.l
        · rw [if_pos h3] at e
          injection e with e
          subst e
          exact ⟨by omega, by rw [if_neg (by omega)]; omega⟩
        · rw [if_neg h3] at e; cases e

/-- index of the composed optic wired to the `y`-th index of the closed sub-optic: `q` ports from
`m`, `h` new ancillas from `P`, then the new loss modes. It is a selector like `colM`, which is how
`Ctx.arr_wire` compares the two; `wire_eq` is the form by cases. -/
def wire (m q h P lx y : Nat) : Nat :=
  sel ((List.range q).map (m + ·) ++ (List.range h).map (P + ·)) (P + h + lx) y

theorem wire_eq (m q h P lx y : Nat) :
    wire m q h P lx y =
      if y < q + h then (if y < q then m + y else P + (y - q)) else P + h + lx + (y - (q + h)) := by
  unfold wire sel
  simp only [List.length_append, List.length_map, List.length_range]
  split
  · split
    · rw [List.getD_append _ _ _ _ (by simpa), getD_map_range _ ‹_›]
    · rw [List.getD_append_right _ _ _ _ (by simpa using Nat.le_of_not_lt ‹_›)]
      simp only [List.length_map, List.length_range]
      exact getD_map_range _ (by omega)
  · rfl

theorem pinj_invS (x : Optic K) (s : Closed K) (m : Nat) (hm : m + s.q ≤ x.p + x.a) :
    PInj (s.q + s.hn.length + s.l) (x.p + x.a + s.hn.length + x.l + s.l)
      (wire m s.q s.hn.length (x.p + x.a) x.l) (invS x s m) :=
  ((((pinj_blockInv m s.q _ fun j hj => by omega).append
    (pinj_blockInv (x.p + x.a) s.hn.length _ fun j hj => by omega) fun y hy z _ => by omega).append
    (pinj_blockInv (x.p + x.a + s.hn.length + x.l) s.l _ fun j hj => by omega) fun y hy z _ => by
      split <;> omega).congr_fwd fun y _ => wire_eq ..).congr_inv fun r hr => by
        simp only [invS, blockInv, Option.map_if, ite_some_or, Option.none_or, hr, and_true]

end LW.Proofs.C02Sem
