/-
  The strings `_combine_all` enumerates, and Kronecker products of 2×2 matrices entry by entry:
  all tomography proofs go through `entryRev`, the closed form of an entry of `kronList`.  `Dual`
  (two families of matrices that are dual bases up to a factor) is the notion behind Pauli
  reconstruction, the inverse of linear inversion and the Pauli twirl; it is closed under Kronecker
  products, hence lifts from one qubit to the strings of `_combine_all`.  Sums over `range (m·d)` are
  written on the grid `a·d + c`, on which Choi matrices, the rows of the transform matrices and
  partial traces are indexed.
-/
import Mathlib.Algebra.BigOperators.Ring.Finset
import Mathlib.Algebra.BigOperators.Intervals
import Mathlib.Algebra.Field.Basic
import Mathlib.Tactic.Ring
import LW.Proofs.MatAlg
import LW.Model.Tomo

open scoped BigOperators

namespace LW.Tomo

variable {K : Type}

theorem lsum_eq_sum [AddCommMonoid K] (l : List K) : lsum l = l.sum := by
  induction l with
  | nil => rfl
  | cons a t ih => simp only [lsum, List.foldr_cons, List.sum_cons] at *; rw [ih]

theorem sum_range_two [AddCommMonoid K] (f : Nat → K) :
    ∑ y ∈ Finset.range 2, f y = f 0 + f 1 := by
  simp [Finset.sum_range_succ]

theorem idx_div {a c d : Nat} (hc : c < d) : (a * d + c) / d = a := by
  have hd : 0 < d := by omega
  rw [Nat.add_comm, Nat.add_mul_div_right _ _ hd, Nat.div_eq_of_lt hc, Nat.zero_add]

theorem idx_lt {a c m d : Nat} (ha : a < m) (hc : c < d) : a * d + c < m * d := by
  have : (a + 1) * d ≤ m * d := Nat.mul_le_mul_right d ha
  rw [Nat.add_mul, Nat.one_mul] at this
  omega

theorem sum_range_mul [AddCommMonoid K] (m d : Nat) (f : Nat → K) :
    ∑ j ∈ Finset.range (m * d), f j
      = ∑ a ∈ Finset.range m, ∑ c ∈ Finset.range d, f (a * d + c) := by
  induction m with
  | zero => simp
  | succ m ih => rw [Nat.succ_mul, Finset.sum_range_add, ih, Finset.sum_range_succ]

theorem sum_range_mul_two [AddCommMonoid K] (m : Nat) (f : Nat → K) :
    ∑ k ∈ Finset.range (m * 2), f k = ∑ q ∈ Finset.range m, (f (q * 2) + f (q * 2 + 1)) := by
  rw [sum_range_mul]
  exact Finset.sum_congr rfl fun q _ => by rw [sum_range_two, Nat.add_zero]

theorem list_sum_finset_sum [AddCommMonoid K] {α β : Type} (l : List α) (s : Finset β)
    (f : α → β → K) :
    (l.map fun c => ∑ a ∈ s, f c a).sum = ∑ a ∈ s, (l.map fun c => f c a).sum :=
  Multiset.sum_map_sum (m := (l : Multiset α))

theorem list_sum_apply [AddCommMonoid K] {α m n : Type} (l : List α) (f : α → Matrix m n K) (x : m)
    (y : n) : (l.map f).sum x y = (l.map fun t => f t x y).sum :=
  (map_list_sum (Matrix.entryAddMonoidHom K x y) (l.map f)).trans (by rw [List.map_map]; rfl)

theorem sum_flatMap_mul [CommSemiring K] {σ τ ι : Type} (L1 : List σ) (L2 : List τ) (c : σ → τ → ι)
    (H : ι → K) (f : σ → K) (g : τ → K) (hH : ∀ s ∈ L1, ∀ t ∈ L2, H (c s t) = f s * g t) :
    ((L1.flatMap fun s => L2.map (c s)).map H).sum = (L1.map f).sum * (L2.map g).sum := by
  rw [List.map_flatMap, List.flatMap_def, List.sum_flatten, List.map_map,
    List.map_congr_left (g := fun s => f s * (L2.map g).sum) (fun s hs => by
      rw [Function.comp_apply, List.map_map, ← List.sum_map_mul_left]
      exact congrArg List.sum (List.map_congr_left fun t ht => hH s hs t ht)),
    List.sum_map_mul_right]

theorem sum_sum_delta [AddCommMonoid K] {N : Nat} (f : Nat → Nat → K) {x y : Nat} (hx : x < N)
    (hy : y < N) :
    ∑ u ∈ Finset.range N, ∑ v ∈ Finset.range N, (if x = u ∧ y = v then f u v else 0) = f x y := by
  have : ∀ u ∈ Finset.range N, (∑ v ∈ Finset.range N, if x = u ∧ y = v then f u v else 0)
      = if x = u then f u y else 0 := by
    intro u _
    by_cases h : x = u
    · simp [h, Finset.sum_ite_eq, hy]
    · simp [h]
  rw [Finset.sum_congr rfl this, Finset.sum_ite_eq _ x, if_pos (Finset.mem_range.mpr hx)]


theorem mem_combos {α : Type} (vals : List α) (k : Nat) (ps : List α) :
    ps ∈ combos vals k ↔ ps.length = k + 1 ∧ ∀ p ∈ ps, p ∈ vals := by
  induction k generalizing ps with
  | zero =>
    simp only [combos, List.mem_map]
    constructor
    · rintro ⟨v, hv, rfl⟩
      exact ⟨rfl, by simpa using hv⟩
    · rintro ⟨hl, hm⟩
      match ps, hl with
      | [v], _ => exact ⟨v, hm v List.mem_cons_self, rfl⟩
  | succ k ih =>
    simp only [combos, List.mem_flatMap, List.mem_map]
    constructor
    · rintro ⟨v1, hv1, v2, hv2, rfl⟩
      obtain ⟨h1, h2⟩ := (ih v1).mp hv1
      refine ⟨by simp [h1], ?_⟩
      intro p hp
      rcases List.mem_append.mp hp with hp | hp
      · exact h2 p hp
      · have : p = v2 := by simpa using hp
        exact this ▸ hv2
    · rintro ⟨hl, hm⟩
      have hne : ps ≠ [] := by
        intro h
        rw [h] at hl
        simp at hl
      refine ⟨ps.dropLast, (ih _).mpr ⟨by simp [hl], fun p hp => hm p (List.mem_of_mem_dropLast hp)⟩,
        ps.getLast hne, hm _ (List.getLast_mem hne), List.dropLast_append_getLast hne⟩

theorem combos_length {α : Type} (vals : List α) (k : Nat) : ∀ ps ∈ combos vals k, ps.length = k + 1 :=
  fun ps h => ((mem_combos vals k ps).mp h).1

theorem mem_combineAll {α : Type} {vals : List α} {n : Nat} (hn : 0 < n) {ps : List α} :
    ps ∈ combineAll vals n ↔ ps.length = n ∧ ∀ p ∈ ps, p ∈ vals := by
  rw [combineAll, mem_combos, Nat.sub_add_cancel hn]

theorem replicate_mem_combineAll {α : Type} {vals : List α} {x : α} (hx : x ∈ vals) {n : Nat}
    (hn : 0 < n) : List.replicate n x ∈ combineAll vals n :=
  (mem_combineAll hn).mpr ⟨List.length_replicate, fun _ hp => List.eq_of_mem_replicate hp ▸ hx⟩

theorem combineAll_length {α : Type} {vals : List α} {n : Nat} (hn : 0 < n) {ps : List α}
    (h : ps ∈ combineAll vals n) : ps.length = n :=
  ((mem_combineAll hn).mp h).1

theorem tomoMeasurements_length {n : Nat} (hn : 0 < n) : ∀ c ∈ tomoMeasurements n, c.length = n :=
  fun _ hc => combineAll_length hn (by simpa [tomoMeasurements] using hc)

theorem combos_card {α : Type} (vals : List α) (k : Nat) :
    (combos vals k).length = vals.length ^ (k + 1) := by
  induction k with
  | zero => simp [combos]
  | succ k ih =>
    simp only [combos]
    rw [List.length_flatMap, List.map_congr_left (g := fun _ => vals.length) (fun _ _ => List.length_map _),
      List.map_const', List.sum_replicate, ih, smul_eq_mul]
    exact (pow_succ _ _).symm

theorem combineAll_card {α : Type} (vals : List α) {n : Nat} (hn : 0 < n) :
    (combineAll vals n).length = vals.length ^ n := by
  rw [combineAll, combos_card, Nat.sub_add_cancel hn]

theorem combos_nodup {α : Type} (vals : List α) (hv : vals.Nodup) (k : Nat) :
    (combos vals k).Nodup := by
  induction k with
  | zero =>
    simp only [combos]
    exact hv.map (fun a b h => by simpa using h)
  | succ k ih =>
    simp only [combos]
    rw [List.nodup_flatMap]
    refine ⟨fun v1 _ => hv.map (fun a b h => by simpa using h), ?_⟩
    refine ih.imp ?_
    intro v1 v1' hne
    simp only [Function.onFun]
    rw [List.disjoint_left]
    intro x hx hx'
    obtain ⟨a, _, rfl⟩ := List.mem_map.mp hx
    obtain ⟨b, _, hb⟩ := List.mem_map.mp hx'
    exact hne (List.append_inj_left' hb rfl).symm

theorem tomoMeasurements_nodup (n : Nat) : (tomoMeasurements n).Nodup := by
  simp only [tomoMeasurements, combineAll, Bool.false_eq_true, if_false]
  exact combos_nodup _ (by decide) _

theorem tomoMeasurements_true (n : Nat) :
    tomoMeasurements n true = (tomoMeasurements n).filter (· != List.replicate n Pauli.I) := by
  have := (tomoMeasurements_nodup n).erase_eq_filter (List.replicate n Pauli.I)
  simp only [tomoMeasurements, combineAll, Bool.false_eq_true, if_false, if_true] at this ⊢
  exact this

theorem mem_tomoMeasurements_true {n : Nat} {m : Meas} (h : m ∈ tomoMeasurements n true) :
    m ∈ tomoMeasurements n := by
  rw [tomoMeasurements_true] at h
  exact (List.mem_filter.mp h).1

theorem tomoMeasurements_true_length (n : Nat) (hn : 0 < n) :
    (tomoMeasurements n true).length = 4 ^ n - 1 := by
  have h1 : tomoMeasurements n true = (tomoMeasurements n).erase (List.replicate n Pauli.I) := by
    simp [tomoMeasurements]
  rw [h1, List.length_erase_of_mem (show List.replicate n Pauli.I ∈ tomoMeasurements n from
    replicate_mem_combineAll (vals := Pauli.all) (by decide) hn)]
  show (combineAll Pauli.all n).length - 1 = _
  rw [combineAll_card _ hn]
  rfl

section Mat2
variable [Zero K]

@[simp] theorem mat2_n (a b c d : K) : (mat2 a b c d).n = 2 := rfl
@[simp] theorem mat2_00 (a b c d : K) : (mat2 a b c d).get 0 0 = a := by
  unfold mat2; rw [M.get_ofFn _ (by omega) (by omega)]; simp
@[simp] theorem mat2_01 (a b c d : K) : (mat2 a b c d).get 0 1 = b := by
  unfold mat2; rw [M.get_ofFn _ (by omega) (by omega)]; simp
@[simp] theorem mat2_10 (a b c d : K) : (mat2 a b c d).get 1 0 = c := by
  unfold mat2; rw [M.get_ofFn _ (by omega) (by omega)]; simp
@[simp] theorem mat2_11 (a b c d : K) : (mat2 a b c d).get 1 1 = d := by
  unfold mat2; rw [M.get_ofFn _ (by omega) (by omega)]; simp

end Mat2

/-- closed form of an entry of a Kronecker product of 2×2 blocks, the list holding the blocks
from the last (least significant) to the first -/
def entryRev [Mul K] [One K] : List (Nat → Nat → K) → Nat → Nat → K
  | [] => fun _ _ => 1
  | f :: r => fun a b => entryRev r (a / 2) (b / 2) * f (a % 2) (b % 2)

theorem entryRev_congr [Mul K] [One K] {τ : Type} (F G : τ → Nat → Nat → K) (l : List τ)
    (h : ∀ t ∈ l, ∀ x y, x < 2 → y < 2 → F t x y = G t x y) (a b : Nat) :
    entryRev (l.map F) a b = entryRev (l.map G) a b := by
  induction l generalizing a b with
  | nil => rfl
  | cons t r ih =>
    simp only [List.map_cons, entryRev]
    rw [ih (fun t' ht' => h t' (List.mem_cons_of_mem _ ht')),
      h t List.mem_cons_self _ _ (Nat.mod_lt _ (by omega)) (Nat.mod_lt _ (by omega))]

theorem entryRev_swap [Mul K] [One K] {τ : Type} (F : τ → Nat → Nat → K) (l : List τ) (a b : Nat) :
    entryRev (l.map fun t x y => F t y x) a b = entryRev (l.map F) b a := by
  induction l generalizing a b with
  | nil => rfl
  | cons t r ih => simp only [List.map_cons, entryRev, ih]

theorem entryRev_snoc [Mul K] [One K] {τ : Type} (F : τ → Nat → Nat → K) (v : List τ) (t : τ)
    (a b : Nat) :
    entryRev ((v ++ [t]).reverse.map F) a b
      = entryRev (v.reverse.map F) (a / 2) (b / 2) * F t (a % 2) (b % 2) := by
  rw [List.reverse_append]; rfl

section
variable [Field K] [StarRing K]

theorem star_entryRev {τ : Type} (F : τ → Nat → Nat → K) (l : List τ) (a b : Nat) :
    star (entryRev (l.map F) a b) = entryRev (l.map fun t x y => star (F t x y)) a b := by
  induction l generalizing a b with
  | nil => simp [entryRev]
  | cons t r ih => simp only [List.map_cons, entryRev, star_mul', ih]

end

section Kron
variable [CommSemiring K]

@[simp] theorem kron_n (A B : M K) : (kron A B).n = A.n * B.n := rfl

theorem get_kron_gen (A B : M K) {r k : Nat} (hr : r < A.n * B.n) (hk : k < A.n * B.n) :
    (kron A B).get r k = A.get (r / B.n) (k / B.n) * B.get (r % B.n) (k % B.n) := by
  unfold kron
  rw [M.get_ofFn _ hr hk]

theorem kronList_snoc (l : List (M K)) (hl : l ≠ []) (m : M K) :
    kronList (l ++ [m]) = kron (kronList l) m := by
  cases l with
  | nil => exact absurd rfl hl
  | cons x t => simp [kronList, List.foldl_append]

theorem kronList_rev (r : List (M K)) (hr : ∀ m ∈ r, m.n = 2) :
    (kronList r.reverse).n = 2 ^ r.length ∧
    ∀ a b, a < 2 ^ r.length → b < 2 ^ r.length →
      (kronList r.reverse).get a b = entryRev (r.map fun m => m.get) a b := by
  induction r with
  | nil =>
    refine ⟨rfl, ?_⟩
    intro a b ha hb
    simp only [List.length_nil, pow_zero, Nat.lt_one_iff] at ha hb
    subst ha; subst hb
    simp [kronList, entryRev, M.get_one]
  | cons m r ih =>
    have hm : m.n = 2 := hr m List.mem_cons_self
    obtain ⟨ihn, ihg⟩ := ih (fun m' hm' => hr m' (List.mem_cons_of_mem _ hm'))
    by_cases hnil : r = []
    · subst hnil
      refine ⟨by simp [kronList, hm], ?_⟩
      intro a b ha hb
      simp only [List.length_cons, List.length_nil, zero_add, pow_one] at ha hb
      simp only [List.reverse_cons, List.reverse_nil, List.nil_append, kronList, List.foldl_nil,
        List.map_cons, List.map_nil, entryRev, one_mul]
      rw [Nat.mod_eq_of_lt ha, Nat.mod_eq_of_lt hb]
    · have hne : r.reverse ≠ [] := by simpa using hnil
      rw [List.reverse_cons, kronList_snoc _ hne]
      refine ⟨by rw [kron_n, ihn, hm, List.length_cons, pow_succ], ?_⟩
      intro a b ha hb
      rw [List.length_cons, pow_succ] at ha hb
      rw [get_kron_gen _ _ (by rw [ihn, hm]; exact ha) (by rw [ihn, hm]; exact hb), hm]
      simp only [List.map_cons, entryRev]
      rw [ihg _ _ (by omega) (by omega)]

/-- first label of `l` = first qubit = most significant digit -/
theorem kronList_map {τ : Type} (F : τ → M K) (hF : ∀ t, (F t).n = 2) (l : List τ) :
    (kronList (l.map F)).n = 2 ^ l.length ∧
    ∀ a b, a < 2 ^ l.length → b < 2 ^ l.length →
      (kronList (l.map F)).get a b = entryRev (l.reverse.map fun t => (F t).get) a b := by
  have h := kronList_rev ((l.map F).reverse) (by
    intro m hm
    simp only [List.mem_reverse, List.mem_map] at hm
    obtain ⟨t, _, rfl⟩ := hm
    exact hF t)
  rw [List.reverse_reverse, List.length_reverse, List.length_map, ← List.map_reverse,
    List.map_map] at h
  exact h

theorem kronList_map_get {τ : Type} (F : τ → M K) (hF : ∀ t, (F t).n = 2) (l : List τ) {a b : Nat}
    (ha : a < 2 ^ l.length) (hb : b < 2 ^ l.length) :
    (kronList (l.map F)).get a b = entryRev (l.reverse.map fun t => (F t).get) a b :=
  (kronList_map F hF l).2 a b ha hb

theorem kronList_map_n {τ : Type} (F : τ → M K) (hF : ∀ t, (F t).n = 2) (l : List τ) :
    (kronList (l.map F)).n = 2 ^ l.length :=
  (kronList_map F hF l).1

theorem kronList_get_of_mem_combos {τ : Type} (F : τ → M K) (hF : ∀ t, (F t).n = 2) {vals : List τ}
    {k : Nat} {ts : List τ} (h : ts ∈ combos vals k) {a b : Nat} (ha : a < 2 ^ (k + 1))
    (hb : b < 2 ^ (k + 1)) :
    (kronList (ts.map F)).get a b = entryRev (ts.reverse.map fun t => (F t).get) a b := by
  have hl := combos_length _ _ ts h
  exact kronList_map_get F hF ts (by rw [hl]; exact ha) (by rw [hl]; exact hb)

end Kron

section Dual
variable [CommRing K] {ι σ τ : Type}

/-- `(E t)` and `(F t)`, `t ∈ L`, are dual families of `N × N` matrices up to the factor `w`:
`Σ_t E_t[a,b]·F_t[a',b'] = w·δ_{aa'}·δ_{bb'}`; equivalently `Σ_t ⟨F_t, X⟩·E_t = w·X` for every `X`
(`Dual.reconstruct`), `⟨F, X⟩ = Σ F[a,b]·X[a,b]` being the model's `pairing`. -/
def Dual (N : Nat) (L : List ι) (E F : ι → Nat → Nat → K) (w : K) : Prop :=
  ∀ ⦃a b a' b'⦄, a < N → b < N → a' < N → b' < N →
    (L.map fun t => E t a b * F t a' b').sum = if a = a' ∧ b = b' then w else 0

namespace Dual

variable {N : Nat} {L : List ι} {E F : ι → Nat → Nat → K} {w : K}

theorem congr {E' F' : ι → Nat → Nat → K} (h : Dual N L E F w)
    (hE : ∀ t ∈ L, ∀ a b, a < N → b < N → E' t a b = E t a b)
    (hF : ∀ t ∈ L, ∀ a b, a < N → b < N → F' t a b = F t a b) : Dual N L E' F' w := by
  intro a b a' b' ha hb ha' hb'
  rw [← h ha hb ha' hb']
  exact congrArg List.sum
    (List.map_congr_left fun t ht => by rw [hE t ht a b ha hb, hF t ht a' b' ha' hb'])

theorem symm (h : Dual N L E F w) : Dual N L F E w := by
  intro a b a' b' ha hb ha' hb'
  rw [if_congr (by rw [eq_comm (a := a), eq_comm (a := b)]) rfl rfl, ← h ha' hb' ha hb]
  exact congrArg List.sum (List.map_congr_left fun t _ => mul_comm _ _)

theorem perm {L' : List ι} (hp : L.Perm L') (h : Dual N L E F w) : Dual N L' E F w :=
  fun _ _ _ _ ha hb ha' hb' => by rw [← (hp.map _).sum_eq]; exact h ha hb ha' hb'

theorem reconstruct (h : Dual N L E F w) (X : Nat → Nat → K) {a b : Nat} (ha : a < N) (hb : b < N) :
    (L.map fun t =>
        (∑ a' ∈ Finset.range N, ∑ b' ∈ Finset.range N, F t a' b' * X a' b') * E t a b).sum
      = w * X a b := by
  have e : ∀ t, (∑ a' ∈ Finset.range N, ∑ b' ∈ Finset.range N, F t a' b' * X a' b') * E t a b
      = ∑ a' ∈ Finset.range N, ∑ b' ∈ Finset.range N, X a' b' * (E t a b * F t a' b') := fun t => by
    rw [Finset.sum_mul]
    refine Finset.sum_congr rfl fun a' _ => ?_
    rw [Finset.sum_mul]
    exact Finset.sum_congr rfl fun b' _ => by ring
  rw [List.map_congr_left (fun t _ => e t), list_sum_finset_sum,
    Finset.sum_congr rfl fun a' ha' => by
      rw [list_sum_finset_sum, Finset.sum_congr rfl fun b' hb' => by
        rw [List.sum_map_mul_left, h ha hb (Finset.mem_range.mp ha') (Finset.mem_range.mp hb'),
          mul_ite, mul_zero]],
    sum_sum_delta (fun a' b' => X a' b' * w) ha hb, mul_comm]

theorem twirl (h : Dual N L E F w) (A : Matrix (Fin N) (Fin N) K) :
    (L.map fun t => (Matrix.of fun a b : Fin N => E t a b) * A * Matrix.of fun a b : Fin N => F t b a).sum
      = (w * A.trace) • (1 : Matrix (Fin N) (Fin N) K) := by
  ext x y
  have e : ∀ t, ((Matrix.of fun a b : Fin N => E t a b) * A * Matrix.of fun a b : Fin N => F t b a) x y
      = ∑ v : Fin N, ∑ u : Fin N, A u v * (E t x u * F t y v) := fun t => by
    rw [Matrix.mul_apply]
    refine Finset.sum_congr rfl fun v _ => ?_
    rw [Matrix.mul_apply, Finset.sum_mul]
    exact Finset.sum_congr rfl fun u _ => by
      rw [Matrix.of_apply, Matrix.of_apply, mul_comm (E t x u), mul_assoc]
  rw [list_sum_apply, List.map_congr_left (fun t _ => e t), list_sum_finset_sum,
    Matrix.smul_apply, smul_eq_mul]
  by_cases hxy : x = y
  · subst hxy
    rw [Matrix.one_apply_eq, mul_one, Matrix.trace, Finset.mul_sum]
    refine Finset.sum_congr rfl fun v _ => ?_
    rw [list_sum_finset_sum, Finset.sum_congr rfl fun u _ => by
      rw [List.sum_map_mul_left, h x.2 u.2 x.2 v.2,
        if_congr (Iff.trans (and_iff_right rfl) Fin.val_inj) rfl rfl, mul_ite, mul_zero],
      Finset.sum_ite_eq' _ v, if_pos (Finset.mem_univ v), mul_comm]
    rfl
  · rw [Matrix.one_apply_ne hxy, mul_zero]
    refine Finset.sum_eq_zero fun v _ => ?_
    rw [list_sum_finset_sum]
    refine Finset.sum_eq_zero fun u _ => ?_
    rw [List.sum_map_mul_left, h x.2 u.2 y.2 v.2, if_neg fun hh => hxy (Fin.ext hh.1), mul_zero]

/-- Kronecker products of dual families are dual: the index list is the product list (through any
pairing function `c`), the entries are those of `kron` -/
theorem kron {N1 N2 : Nat} {L1 : List σ} {L2 : List τ} {E1 F1 : σ → Nat → Nat → K}
    {E2 F2 : τ → Nat → Nat → K} {w1 w2 : K} (h1 : Dual N1 L1 E1 F1 w1) (h2 : Dual N2 L2 E2 F2 w2)
    (c : σ → τ → ι)
    (hE : ∀ s t a b, E (c s t) a b = E1 s (a / N2) (b / N2) * E2 t (a % N2) (b % N2))
    (hF : ∀ s t a b, F (c s t) a b = F1 s (a / N2) (b / N2) * F2 t (a % N2) (b % N2)) :
    Dual (N1 * N2) (L1.flatMap fun s => L2.map (c s)) E F (w1 * w2) := by
  intro a b a' b' ha hb ha' hb'
  have hN2 : 0 < N2 := Nat.pos_of_ne_zero (by rintro rfl; simp at ha)
  have hdiv : ∀ {x}, x < N1 * N2 → x / N2 < N1 := fun hx =>
    Nat.div_lt_of_lt_mul (by rwa [Nat.mul_comm] at hx)
  rw [sum_flatMap_mul L1 L2 c _ (fun s => E1 s (a / N2) (b / N2) * F1 s (a' / N2) (b' / N2))
      (fun t => E2 t (a % N2) (b % N2) * F2 t (a' % N2) (b' % N2))
      (fun s _ t _ => by rw [hE, hF]; ring),
    h1 (hdiv ha) (hdiv hb) (hdiv ha') (hdiv hb'),
    h2 (Nat.mod_lt _ hN2) (Nat.mod_lt _ hN2) (Nat.mod_lt _ hN2) (Nat.mod_lt _ hN2),
    ite_zero_mul_ite_zero]
  refine if_congr ?_ rfl rfl
  rw [Nat.ext_div_mod_iff N2 a a', Nat.ext_div_mod_iff N2 b b']
  exact and_and_and_comm

theorem combos {vals : List τ} {F G : τ → Nat → Nat → K} (h : Dual 2 vals F G w) (k : Nat) :
    Dual (2 ^ (k + 1)) (combos vals k) (fun ts => entryRev (ts.reverse.map F))
      (fun ts => entryRev (ts.reverse.map G)) (w ^ (k + 1)) := by
  induction k with
  | zero =>
    intro a b a' b' ha hb ha' hb'
    rw [zero_add, pow_one] at ha hb ha' hb' ⊢
    rw [← h ha hb ha' hb']
    simp only [LW.Tomo.combos, List.map_map, Function.comp_def, List.reverse_cons, List.reverse_nil,
      List.nil_append, List.map_cons, List.map_nil, entryRev, one_mul, Nat.mod_eq_of_lt ha,
      Nat.mod_eq_of_lt hb, Nat.mod_eq_of_lt ha', Nat.mod_eq_of_lt hb']
  | succ k ih =>
    rw [pow_succ 2 (k + 1), pow_succ w (k + 1)]
    exact ih.kron h (fun v t => v ++ [t]) (fun v t a b => entryRev_snoc F v t a b)
      (fun v t a b => entryRev_snoc G v t a b)

end Dual

end Dual

end LW.Tomo
