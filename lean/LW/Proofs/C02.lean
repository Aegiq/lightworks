/-
  LW.Proofs.C02 — `mapMode` avoids the internal modes and is strictly increasing; a fresh circuit is
  well-formed; a concrete instance on which the hypotheses of the C02 theorems hold.
-/
import LW.Proofs.C02Calls
import LW.Proofs.C02Final
import LW.Proofs.C02Reject

namespace LW.Proofs.C02

variable {K : Type}

theorem mapMode_not_internal (c : Circ K) (m : Int) (hm : 0 ≤ m) :
    ∀ a ∈ c.internal, c.mapMode m ≠ (a : Int) := by
  have _ := hm  -- not needed: true of every integer `m`; the stated property carries the hypothesis
  intro a ha
  exact skipFold_not_mem _ (sorted_sortNat _) m a (mem_sortNat.mpr ha)

theorem mapMode_strictMono (c : Circ K) (m m' : Int) (h : m < m') : c.mapMode m < c.mapMode m' :=
  skipFold_strictMono _ h

theorem new_WF (n : Nat) : (Circ.new n : Circ K).WF := WF.bare (spec := []) nofun

theorem add_rejects_oversize [Zero K] [One K] (self sub : Circ K) (hs : self.WF) (hsub : sub.WF)
    (m : Int) (g : Bool)
    (h : m < 0 ∨ (self.ports : Int) < m + ((sub.n - sub.inHer.length : Nat) : Int)) :
    self.add sub m g = .error .modeRange := by
  by_cases hp : 0 ≤ m ∧ m < (self.ports : Int)
  · rw [add_eq_of_port self sub hs hsub m g hp.1 hp.2, if_neg (by omega)]
  · exact add_error_of_not_port self sub hs m g hp

section NonVacuity

private def subC : Circ Int :=
  { n := 2, inHer := [(1, 0)], outHer := [(1, 0)], spec := [.prim (.bs 0 1 1 0 .rx)] }
private def selfC : Circ Int := { n := 3, inHer := [(1, 1)], outHer := [(1, 1)], internal := [1] }

private theorem subC_WF : subC.WF := by
  constructor <;> simp [subC, Dict.keys, Comp.modes, Prim.modes]
private theorem selfC_WF : selfC.WF := by
  constructor <;> simp [selfC, Dict.keys, Dict.get?]

example : ∃ c', selfC.add subC 1 false = .ok c' ∧ c'.WF ∧ c'.internal.length = 2 := by
  refine ⟨_, rfl, ?_⟩
  have := add_preserves_WF selfC subC _ selfC_WF subC_WF 1 false rfl
  exact ⟨this.1, this.2.1⟩
example : selfC.add subC 2 false = .error .modeRange :=
  add_rejects_oversize selfC subC selfC_WF subC_WF 2 false (Or.inr (by decide))
example : ∃ c', selfC.herald 1 0 1 = .ok c' ∧ c'.WF :=
  ⟨_, rfl, (herald_preserves_WF selfC _ selfC_WF 1 0 1 rfl).1⟩
example : ∃ c', selfC.bs 0 1 (1, 0) .rx none = .ok c' ∧ c'.WF :=
  have h : selfC.bs 0 1 (1, 0) .rx none = .ok (selfC.addPrims [.bs 0 2 1 0 .rx]) := rfl
  let ⟨_, _, hl, e⟩ := Circ.bs_leaf h
  ⟨_, h, e ▸ (Circ.avoid_of_leaf selfC_WF hl).1⟩
example : selfC.mapMode 1 = 2 := by decide

end NonVacuity

end LW.Proofs.C02
