/-
  LW.Proofs.FockFunctor — the Fock functor for the model's amplitudes: `ampNum U s t` is `∏ t!` times
  the coefficient `amp (homOf U) t s` (`ampNum_eq_amp`), and a composition of substitutions is a
  path sum over the Fock basis (`amp_comp_fockBasis`). Hence `Φ(U·V) = Φ(U)·Φ(V)` (`ampNum_mul`)
  and, from the same path sum for `Φ(U†)Φ(U) = Φ(U†U) = 1` read at a diagonal coefficient, the
  isometry (`amplitudes_unit_vector`). Read for permanents this is Cauchy–Binet; its matrix form in LW.Proofs.FockOcc (`sum_permanent_mul_permanent`) is not used here.
-/
import LW.Proofs.FockBridge
import LW.Proofs.FockPoly
import LW.Proofs.MatAlg

open MvPolynomial Finset

namespace LW.Proofs.FockIso

open LW.C12F LW.Proofs.C03

variable {K : Type}

/-- `hD`: `fockBasis 0 n` is empty also for `n = 0` (as `fock_basis` in lightworks), so on zero
modes the path sum would be `0`, not `1`. -/
theorem amp_comp_fockBasis [CommRing K] (A B : ℕ → ℕ → K) {D : ℕ} (hD : 0 < D) (s : FState)
    (hs : s.length = D) (t : ℕ →₀ ℕ) :
    amp ((homOf A D).comp (homOf B D)) t s.toFinsupp =
      ((fockBasis D (photons s)).map fun w =>
        amp (homOf B D) w.toFinsupp s.toFinsupp * amp (homOf A D) t w.toFinsupp).sum := by
  classical
  rw [amp_comp_subset _ _ _ _ ((fockBasis D (photons s)).toFinset.image fun l : FState => l.toFinsupp),
    Finset.sum_image, List.sum_toFinset _ (fockBasis_nodup _ _)]
  · intro a ha b hb
    rw [Finset.mem_coe, List.mem_toFinset, fockBasis_complete _ _ hD] at ha hb
    exact toFinsupp_inj (ha.1.trans hb.1.symm)
  · intro w hw
    by_contra hne
    obtain ⟨l, hl, hsum, rfl⟩ := exists_of_amp_homOf_ne B s hs w (left_ne_zero_of_mul hne)
    exact hw (Finset.mem_image_of_mem _ (List.mem_toFinset.mpr
      ((fockBasis_complete _ _ hD l).mpr ⟨hl, by rw [photons_eq_sum, photons_eq_sum, hsum]⟩)))

/-- `factProd` in this namespace is the model's `LW.factProd`, see `factProd_eq` -/
theorem ampNum_eq_amp [CommRing K] (U : M K) (s t : FState) (hs : s.length = U.n)
    (ht : t.length = U.n) (hp : photons t = photons s) :
    ampNum U s t = ((factProd t : ℕ) : K) * amp (homOf U.get U.n) t.toFinsupp s.toFinsupp := by
  rw [photons_eq_sum, photons_eq_sum] at hp
  rw [ampNum_eq_permAmpFull U s t (by rw [QF.length_idxs, QF.length_idxs, hp]),
    permAmpFull_eq_amp U.get U.n s t hs ht, factProd_eq]

/-- the adjoint: `star ⟨t|Φ(U)|s⟩ = ⟨s|Φ(U†)|t⟩` for the numerators; the coefficient picture is not
symmetric in rows and columns, so this goes through the permanent of the transpose -/
theorem star_ampNum [CommRing K] [StarRing K] (U : M K) (s t : FState) (hs : s.length = U.n)
    (ht : t.length = U.n) (hp : photons t = photons s) :
    star (ampNum U s t) = ((factProd s : ℕ) : K) *
      amp (homOf (fun i j => star (U.get j i)) U.n) s.toFinsupp t.toFinsupp := by
  rw [photons_eq_sum, photons_eq_sum] at hp
  rw [ampNum_eq_permAmpFull U s t (by rw [QF.length_idxs, QF.length_idxs, hp]),
    permAmpFull_eq_permanent U.get U.n s t hs ht rfl hp, ← permanent_star_submatrix, factProd_eq,
    ← permAmpFull_eq_amp _ U.n t s ht hs, permAmpFull_eq_permanent _ U.n t s ht hs hp rfl]
  rfl

theorem ampNum_mul [Field K] [CharZero K] (U V : M K) (hV : V.n = U.n) (hN : 0 < U.n)
    (s t : FState) (hs : s.length = U.n) (ht : t.length = U.n) (hp : photons t = photons s) :
    ampNum (U.mul V) s t =
      ((fockBasis U.n (photons s)).map fun w =>
        ampNum U w t * ampNum V s w / ((factProd w : Nat) : K)).sum := by
  rw [ampNum_eq_amp (U.mul V) s t hs ht hp, show (U.mul V).n = U.n from rfl, homOf_mul U V rfl,
    amp_comp_fockBasis _ _ hN s hs, ← List.sum_map_mul_left]
  refine congrArg List.sum (List.map_congr_left fun w hw => ?_)
  obtain ⟨hwl, hwp⟩ := (fockBasis_complete _ _ hN w).mp hw
  rw [ampNum_eq_amp U w t hwl ht (hp.trans hwp.symm),
    ampNum_eq_amp V s w (hs.trans hV.symm) (hwl.trans hV.symm) hwp, hV,
    eq_div_iff ((Nat.cast_ne_zero (R := K)).mpr (factProd_pos w).ne')]
  ring

theorem amplitudes_unit_vector [Field K] [StarRing K] [CharZero K] (U : M K) (hU : IsUnitary U)
    (hN : 0 < U.n) (s : FState) (hs : s.length = U.n) :
    ((fockBasis U.n (photons s)).map fun t =>
        ampNum U s t * star (ampNum U s t) / ((ampNormSq s t : Nat) : K)).sum = 1 := by
  -- `Φ(U†) Φ(U) = Φ(U† U) = 1` at the diagonal entry `s`
  have h1 : (homOf (fun i j => star (U.get j i)) U.n).comp (homOf U.get U.n) = AlgHom.id K _ := by
    rw [← homOf_mulE, ← homOf_one]
    refine homOf_congr fun r c hr hc => ?_
    rw [M.get_one hr hc]
    exact (M.UN_iff_cols U U.n).mp hU r c hr hc
  have h2 := amp_comp_fockBasis (fun i j => star (U.get j i)) U.get hN s hs s.toFinsupp
  rw [h1, amp_id, if_pos rfl] at h2
  rw [h2]
  refine congrArg List.sum (List.map_congr_left fun t ht => ?_)
  obtain ⟨htl, htp⟩ := (fockBasis_complete _ _ hN t).mp ht
  rw [star_ampNum U s t hs htl htp, ampNum_eq_amp U s t hs htl htp, ampNormSq, Nat.cast_mul,
    div_eq_iff (mul_ne_zero ((Nat.cast_ne_zero (R := K)).mpr (factProd_pos s).ne')
      ((Nat.cast_ne_zero (R := K)).mpr (factProd_pos t).ne'))]
  ring

end LW.Proofs.FockIso
