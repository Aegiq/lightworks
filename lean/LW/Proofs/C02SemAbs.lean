/-
  LW.Proofs.C02SemAbs — structure of the abstraction map `Circ.toOptic`: `optMode` is the arrangement
  `[ports | ancillas]` of the modes (`arr c c.internal` of `Arrangement`), inverse to `optIndex` on a
  well-formed circuit; `mapMode m` is the `m`-th port mode, and `(c.toOptic i).W` is the pull-back of
  `U_full` along `optMode`.
-/
import Mathlib.Data.List.Sort
import Mathlib.Data.List.GetD
import LW.Model.Abs
import LW.Proofs.C01Lead
import LW.Proofs.Arrangement

open scoped BigOperators

namespace LW.Proofs.C02Sem

open LW LW.Proofs.C01Aux LW.Proofs.C02

variable {K : Type}

-- `List.idxOf?` at members, for `optMode_optIdx` below and C12AddHom; the first rests on Mathlib's
-- `Nodup.getElem_inj_iff`, so they are not in the core-only `ListLemmas`
theorem idxOf?_getElem_of_nodup {l : List Nat} (h : l.Nodup) {j : Nat} (hj : j < l.length) :
    l.idxOf? l[j] = some j := by
  rw [List.idxOf?_eq_some_iff]
  refine ⟨hj, rfl, ?_⟩
  intro j' hj' e
  have := (List.Nodup.getElem_inj_iff h (hi := by omega) (hj := hj)).mp e
  omega

theorem idxOf?_of_mem {l : List Nat} {x : Nat} (h : x ∈ l) :
    ∃ j, ∃ hj : j < l.length, l.idxOf? x = some j ∧ l[j] = x := by
  have : (l.idxOf? x).isSome := List.isSome_idxOf?.mpr h
  cases hj : l.idxOf? x with
  | none => rw [hj] at this; cases this
  | some j =>
    obtain ⟨h1, h2, -⟩ := List.idxOf?_eq_some_iff.mp hj
    exact ⟨j, h1, rfl, h2⟩

theorem pinj_sel_arr {L : List Nat} {n : Nat} (hL : L.Perm (List.range n)) {N : Nat} (hN : n ≤ N) :
    ∃ fwd, PInj N N fwd fun R => some (sel L n R) :=
  PInj.exists_of_inj (fun _ hR => sel_arr_lt hL hN hR) fun _ _ _ _ e => sel_arr_inj hL e

theorem pinj_arr {c : Circ K} {anc : List Nat} (hwf : c.WF) (ha : anc.Perm c.internal) (L : Nat) :
    ∃ fwd, PInj (c.n + L) (c.n + L) fwd fun R => some (arr c anc R) :=
  pinj_sel_arr (perm_ports hwf ha) (Nat.le_add_right _ _)

section
variable (c : Circ K)

/-- the inverse of `optMode`: the model's `Circ.optIndex`, which is only meant for modes, extended by
the identity on loss indices -/
def optIdx (m : Nat) : Nat := if m < c.n then c.optIndex m else m

theorem optIndex_eq_optIdx {m : Nat} (h : m < c.n) : c.optIndex m = optIdx c m := by
  unfold optIdx; rw [if_pos h]

theorem optMode_port {r : Nat} (hr : r < c.portModes.length) : c.optMode r = c.portModes[r] :=
  optMode_eq_arr c ▸ arr_port hr

theorem optMode_anc {r : Nat} (h1 : c.portModes.length ≤ r)
    (h2 : r < c.portModes.length + c.internal.length) :
    c.optMode r = c.internal[r - c.portModes.length]'(by omega) := by
  unfold Circ.optMode
  simp only
  rw [if_neg (by omega), if_pos h2, List.getD_eq_getElem _ _ (by omega)]

theorem optMode_loss (hwf : c.WF) {r : Nat} (h : c.n ≤ r) : c.optMode r = r :=
  optMode_eq_arr c ▸ arr_ge hwf (.refl _) h

theorem optMode_lt (hwf : c.WF) {r N : Nat} (hN : c.n ≤ N) (h : r < N) : c.optMode r < N :=
  optMode_eq_arr c ▸ arr_lt hwf (.refl _) hN h

theorem optMode_inj (hwf : c.WF) (a b : Nat) (h : c.optMode a = c.optMode b) : a = b := by
  rw [optMode_eq_arr] at h
  exact arr_inj hwf (.refl _) h

theorem optIndex_internal {m j : Nat} (h : c.internal.idxOf? m = some j) :
    c.optIndex m = c.portModes.length + j := by
  unfold Circ.optIndex
  rw [h]

theorem optIndex_port {m : Nat} (h : m ∉ c.internal) :
    c.optIndex m = (c.portModes.idxOf? m).getD 0 := by
  unfold Circ.optIndex
  rw [List.idxOf?_eq_none_iff.mpr h]

theorem optMode_optIdx (hwf : c.WF) (m : Nat) : c.optMode (optIdx c m) = m := by
  have hl := portModes_length c hwf
  unfold optIdx
  by_cases hm : m < c.n
  · rw [if_pos hm]
    by_cases hi : m ∈ c.internal
    · obtain ⟨j, hj, e1, e2⟩ := idxOf?_of_mem hi
      rw [optIndex_internal c e1, optMode_anc c (by omega) (by omega)]
      simp only [Nat.add_sub_cancel_left]
      exact e2
    · have hp : m ∈ c.portModes := (mem_portModes c).mpr ⟨hm, hi⟩
      obtain ⟨j, hj, e1, e2⟩ := idxOf?_of_mem hp
      rw [optIndex_port c hi, e1]
      simp only [Option.getD_some]
      rw [optMode_port c hj]
      exact e2
  · rw [if_neg hm, optMode_loss c hwf (by omega)]

theorem optIdx_inj (hwf : c.WF) {a b : Nat} (h : optIdx c a = optIdx c b) : a = b := by
  rw [← optMode_optIdx c hwf a, h, optMode_optIdx c hwf]

theorem optIdx_optMode (hwf : c.WF) (r : Nat) : optIdx c (c.optMode r) = r :=
  optMode_inj c hwf _ _ (optMode_optIdx c hwf _)

theorem optIdx_lt (hwf : c.WF) {m N : Nat} (hN : c.n ≤ N) (h : m < N) : optIdx c m < N := by
  by_contra hc
  have h1 : c.optMode (optIdx c m) = optIdx c m := optMode_loss c hwf (by omega)
  rw [optMode_optIdx c hwf] at h1
  omega

theorem pinj_optMode (hwf : c.WF) (L : Nat) :
    PInj (c.n + L) (c.n + L) (optIdx c) (fun r => some (c.optMode r)) := by
  refine ⟨fun x hx => optIdx_lt c hwf (by omega) hx, ?_, ?_⟩
  · intro x _
    show some _ = some _
    rw [optMode_optIdx c hwf]
  · intro r x hr e
    injection e with e
    subst e
    exact ⟨optMode_lt c hwf (by omega) hr, optIdx_optMode c hwf r⟩

theorem mapMode_nonneg (m : Int) (hm : 0 ≤ m) : 0 ≤ c.mapMode m :=
  Int.le_trans hm (le_skipFold _ m)

theorem mapMode_eq_port (hwf : c.WF) {r : Nat} (hr : r < c.portModes.length) :
    c.mapMode (r : Int) = (c.portModes[r] : Int) := by
  have e := freeOf_eq_map_bumps_sortNat hwf.intNodup c.n
  rw [← portModes_eq_freeOf] at e
  rw [mapMode_eq_skipFold, ← natCast_bumps, List.getElem_of_eq e hr, List.getElem_map, List.getElem_range]

theorem mapMode_eq_optMode (hwf : c.WF) {m : Int} (h0 : 0 ≤ m) (h1 : m < (c.portModes.length : Int)) :
    c.mapMode m = (c.optMode m.toNat : Int) := by
  have hr : m.toNat < c.portModes.length := by omega
  rw [optMode_port c hr, ← mapMode_eq_port c hwf hr]
  congr 1
  omega

theorem mapped_port (hwf : c.WF) {m : Int} {a : Nat} (h : c.modeInRange (c.mapMode m) = .ok a) :
    0 ≤ m ∧ m < (c.portModes.length : Int) ∧ a = c.optMode m.toNat ∧ a < c.n ∧ a ∉ c.internal := by
  obtain ⟨h0, h1, h2⟩ := Circ.modeInRange_eq_ok.mp h
  obtain ⟨h3, h4, -⟩ := mapped_ok h
  have hm0 : 0 ≤ m := by
    by_contra hc
    have : c.mapMode m = m := skipFold_of_lt _ m (fun a _ => by omega)
    omega
  have hP := portModes_length_eq_ports c hwf
  have hm1 : m < (c.portModes.length : Int) := by
    rw [hP]; exact (mapMode_lt_iff' c hwf m).mp h1
  refine ⟨hm0, hm1, ?_, h3, h4⟩
  have := mapMode_eq_optMode c hwf hm0 hm1
  omega

end

section
variable [CommRing K]

theorem Ufull_n (i : K) (c : Circ K) : (c.Ufull i).n = c.n + lossCount c.spec := compile_n i c.n c.spec

theorem toOptic_p (i : K) (c : Circ K) : (c.toOptic i).p = c.portModes.length := rfl
theorem toOptic_a (i : K) (c : Circ K) : (c.toOptic i).a = c.internal.length := rfl
theorem toOptic_l (i : K) (c : Circ K) : (c.toOptic i).l = lossCount c.spec := by
  show (c.Ufull i).n - c.n = _
  rw [Ufull_n]; omega
theorem toOptic_her (i : K) (c : Circ K) :
    (c.toOptic i).her = (c.inHer.zip c.outHer).map fun (x, y) => ⟨c.optIndex x.1, c.optIndex y.1, x.2⟩ :=
  rfl

theorem toOptic_W (i : K) (c : Circ K) (hwf : c.WF) :
    (c.toOptic i).W = Optic.embedVia (c.n + lossCount c.spec) (c.Ufull i) (fun r => some (c.optMode r)) := by
  have hd : c.portModes.length + c.internal.length + ((c.Ufull i).n - c.n) = c.n + lossCount c.spec := by
    rw [Ufull_n, portModes_length c hwf]; omega
  have h0 : (c.toOptic i).W = M.ofFn (c.portModes.length + c.internal.length + ((c.Ufull i).n - c.n))
      (fun r k => (c.Ufull i).get (c.optMode r) (c.optMode k)) := rfl
  rw [h0, hd]
  rfl

theorem toOptic_W_n (i : K) (c : Circ K) (hwf : c.WF) :
    (c.toOptic i).W.n = c.n + lossCount c.spec := by
  rw [toOptic_W i c hwf]; rfl

end

end LW.Proofs.C02Sem
