/-
  LW.Proofs.C06Input — the input statistics returned by `_build_statistics` are normalised: full
  path (mixture theorem + label canonicalisation), brightness-only path (LW.Proofs.C06BasicStatistics),
  thresholding; perfect settings give back the ideal source.
-/
import LW.Proofs.C06FullDistribution
import LW.Proofs.C06BasicStatistics

-- the statements of the C06 chain keep the section's instance arguments whether they use them or not
set_option linter.unusedSectionVars false

namespace LW.Proofs.C06

open LW.Src LW.SV

section
variable {Q : Type} [Field Q] [LinearOrder Q] [IsStrictOrderedRing Q]

theorem mix_remapDistribution (d : KD AState Q) (F : AState → Q) :
    mix (remapDistribution d) F = mix d (fun a => F (remapState a)) := by
  unfold remapDistribution
  rw [mix_ofPairs, mix_map_key d remapState F]

theorem mix_buildStatisticsFull (P : Params Q) (h : InRange P) (s : FState) (hs : s ≠ [])
    (F : AState → Q) :
    mix (buildStatisticsFull P s) F = mix (specFull P s).1 (fun a => F (remapState a)) := by
  unfold buildStatisticsFull
  rw [mix_remapDistribution, mix_fullDistribution P h s hs]

theorem total_buildStatisticsFull (P : Params Q) (h : InRange P) (s : FState) (hs : s ≠ []) :
    KD.total (buildStatisticsFull P s) = 1 := by
  rw [total_eq_mix, mix_buildStatisticsFull P h s hs, specFull_one]

theorem total_applyThreshold {α : Type} (thr : Q) (d : KD α Q) (hd : KD.total d = 1)
    (hne : (applyThreshold thr d) ≠ []) : KD.total (applyThreshold thr d) = 1 := by
  unfold applyThreshold at hne ⊢
  by_cases ht : 0 < thr
  · rw [if_pos ht] at hne ⊢
    simp only at hne ⊢
    set t := d.filter (fun x => !decide (x.2 < thr)) with htdef
    have htot : t.foldl (fun acc x => acc + x.2) 0 = (t.map (·.2)).sum := total_eq_sum t
    rw [htot] at hne ⊢
    have htne : t.map (·.2) ≠ [] := by
      intro h0
      rw [List.map_eq_nil_iff.1 h0] at hne
      exact hne rfl
    have hpos : 0 < (t.map (·.2)).sum := by
      refine List.sum_pos _ (fun v hv => ?_) htne
      obtain ⟨x, hx, rfl⟩ := List.mem_map.1 hv
      have := (List.mem_filter.1 hx).2
      exact lt_of_lt_of_le ht (by simpa using this)
    rw [total_eq_sum, List.map_map]
    exact sum_map_div_sum t (·.2) hpos.ne'
  · rw [if_neg ht]; exact hd

theorem buildStatistics_ok_cases (P : Params Q) (s : FState) (st : Stats Q)
    (hok : buildStatistics P s = .ok st) :
    (st = .basic (applyThreshold P.thr (buildStatisticsBasic P s)) ∧
        applyThreshold P.thr (buildStatisticsBasic P s) ≠ []) ∨
      (st = .full (applyThreshold P.thr (buildStatisticsFull P s)) ∧
        applyThreshold P.thr (buildStatisticsFull P s) ≠ []) := by
  unfold buildStatistics at hok
  split at hok
  · simp only at hok
    split at hok
    · cases hok
    · rename_i he
      cases hok
      exact Or.inl ⟨rfl, fun h0 => he (List.isEmpty_iff.2 h0)⟩
  · simp only at hok
    split at hok
    · cases hok
    · rename_i he
      cases hok
      exact Or.inr ⟨rfl, fun h0 => he (List.isEmpty_iff.2 h0)⟩

theorem input_stats_normalised (P : Params Q) (h : InRange P) (s : FState) (hs : s ≠ [])
    (st : Stats Q) (hok : buildStatistics P s = .ok st) : st.total = 1 := by
  rcases buildStatistics_ok_cases P s st hok with ⟨rfl, hne⟩ | ⟨rfl, hne⟩
  · exact total_applyThreshold P.thr _ (total_buildStatisticsBasic P h s) hne
  · exact total_applyThreshold P.thr _ (total_buildStatisticsFull P h s hs) hne

theorem kd_total_ne_nil {α : Type} (d : KD α Q) (h : KD.total d = 1) : d ≠ [] := by
  intro h0
  rw [h0] at h
  simp [KD.total] at h

theorem buildStatistics_ok (P : Params Q) (h : InRange P) (hthr : ¬ 0 < P.thr) (s : FState)
    (hs : s ≠ []) : ∃ st, buildStatistics P s = .ok st := by
  unfold buildStatistics
  have hthr' : ∀ {α : Type} (d : KD α Q), applyThreshold P.thr d = d := by
    intro α d; unfold applyThreshold; rw [if_neg hthr]
  by_cases hperf : P.p2 = 0 ∧ P.pi = 1
  · rw [if_pos hperf]
    simp only [hthr']
    have := kd_total_ne_nil _ (total_buildStatisticsBasic P h s)
    rw [if_neg (fun he => this (List.isEmpty_iff.1 he))]
    exact ⟨_, rfl⟩
  · rw [if_neg hperf]
    simp only [hthr']
    have := kd_total_ne_nil _ (total_buildStatisticsFull P h s hs)
    rw [if_neg (fun he => this (List.isEmpty_iff.1 he))]
    exact ⟨_, rfl⟩

theorem buildStatistics_perfect (P : Params Q) (hν : P.nu = 1) (hx : P.p2 = 0) (hq : P.pi = 1)
    (hthr : ¬ 0 < P.thr) (s : FState) : buildStatistics P s = .ok (.basic [(s, 1)]) := by
  unfold buildStatistics
  rw [if_pos ⟨hx, hq⟩]
  simp only
  have : applyThreshold P.thr (buildStatisticsBasic P s) = [(s, 1)] := by
    unfold applyThreshold
    rw [if_neg hthr, buildStatisticsBasic_perfect P hν]
  rw [this]
  rfl

theorem perfect_reduces_to_ideal {K : Type} [Add K] [Mul K] [Zero K] [One K] (b : BackendKind)
    (nsq : K → Q) (eps : Q) (U : M K) (nReal : Nat) (P : Params Q) (hν : P.nu = 1) (hx : P.p2 = 0)
    (hq : P.pi = 1) (hthr : ¬ 0 < P.thr) (full : FState) :
    samplerDistSrc b nsq eps U nReal P full =
      .ok (let pd := pdistCalc b nsq eps U nReal [(full, 1)]
           if pd.isEmpty then [(List.replicate nReal 0, 1)] else pd) := by
  unfold samplerDistSrc
  rw [buildStatistics_perfect P hν hx hq hthr]

end

end LW.Proofs.C06
