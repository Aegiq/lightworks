/-
  Entries of the matrix operations of the tomography models (`scale`, `madd`, `conjM`, `transpose`,
  `dagger`), `scale` and `madd` as Mathlib's operations through `toMatN`; the scalar `half`.
-/
import LW.Proofs.TomoKron
import LW.Model.ProcTomo

open scoped BigOperators

namespace LW.Tomo

variable {K : Type} [Field K]

@[simp] theorem scale_n (c : K) (A : M K) : (scale c A).n = A.n := rfl
@[simp] theorem madd_n (A B : M K) : (madd A B).n = A.n := rfl
@[simp] theorem transpose_n (A : M K) : A.transpose.n = A.n := rfl

theorem get_scale (c : K) (A : M K) {r k : Nat} (hr : r < A.n) (hk : k < A.n) :
    (scale c A).get r k = c * A.get r k := by
  unfold scale; rw [M.get_ofFn _ hr hk]

theorem pairing_scale (c : K) (A C : M K) : pairing (scale c A) C = c * pairing A C := by
  unfold pairing
  rw [scale_n, M.sumN_eq_sum, M.sumN_eq_sum, Finset.mul_sum]
  refine Finset.sum_congr rfl fun j hj => ?_
  rw [M.sumN_eq_sum, M.sumN_eq_sum, Finset.mul_sum]
  refine Finset.sum_congr rfl fun l hl => ?_
  rw [get_scale c A (Finset.mem_range.mp hj) (Finset.mem_range.mp hl), mul_assoc]

theorem get_madd (A B : M K) {r k : Nat} (hr : r < A.n) (hk : k < A.n) :
    (madd A B).get r k = A.get r k + B.get r k := by
  unfold madd; rw [M.get_ofFn _ hr hk]

theorem toMatN_madd (A B : M K) (n : Nat) (hA : A.n = n) :
    (madd A B).toMatN n = A.toMatN n + B.toMatN n := by
  subst hA
  ext r k
  simp only [M.toMatN, Matrix.add_apply]
  exact get_madd _ _ r.isLt k.isLt

theorem toMatN_scale (c : K) (A : M K) (n : Nat) (hA : A.n = n) :
    (scale c A).toMatN n = c • A.toMatN n := by
  subst hA
  ext r k
  simp only [M.toMatN, Matrix.smul_apply, smul_eq_mul]
  exact get_scale _ _ r.isLt k.isLt

theorem get_transpose (A : M K) {r k : Nat} (hr : r < A.n) (hk : k < A.n) :
    A.transpose.get r k = A.get k r := by
  unfold M.transpose; rw [M.get_ofFn _ hr hk]

section
variable [StarRing K]

theorem get_dagger (A : M K) {r c : Nat} (hr : r < A.n) (hc : c < A.n) :
    A.dagger.get r c = star (A.get c r) := by
  unfold M.dagger
  rw [M.get_ofFn _ hr hc]
  rfl

@[simp] theorem conjM_n (A : M K) : (conjM A).n = A.n := rfl

theorem get_conjM (A : M K) {r k : Nat} (hr : r < A.n) (hk : k < A.n) :
    (conjM A).get r k = star (A.get r k) := by
  unfold conjM
  rw [M.get_ofFn _ hr hk]
  rfl

end

theorem half_two (h2 : (1 + 1 : K) ≠ 0) : (half : K) * (1 + 1) = 1 := inv_mul_cancel₀ h2

theorem two_half (h2 : (1 + 1 : K) ≠ 0) : (1 + 1 : K) * half = 1 := mul_inv_cancel₀ h2

theorem half_add_half (h2 : (1 + 1 : K) ≠ 0) : (half : K) + half = 1 := by
  rw [← half_two h2, mul_add, mul_one]

end LW.Tomo
