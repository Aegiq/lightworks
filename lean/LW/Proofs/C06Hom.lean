/-
  LW.Proofs.C06Hom — the property's main statement (sampler output = mixture over per-photon
  emission outcomes of the merged outputs of the distinguishable groups) and its Hong–Ou–Mandel
  corollary: at purity 1 the visibility of the coincidence dip equals the indistinguishability.
-/
import LW.Proofs.C06PerPhoton

-- the statements of the C06 chain keep the section's instance arguments whether they use them or not
set_option linter.unusedSectionVars false

namespace LW.Proofs.C06

open LW.Src LW.SV

section Main
variable {K Q : Type} [CommRing K] [Field Q] [LinearOrder Q] [IsStrictOrderedRing Q]

theorem output_mixture (b : BackendKind) (nsq : K → Q) (eps : Q) (U : M K) (nReal : Nat)
    (P : Params Q) (h : InRange P) (s : FState) (hs : s ≠ [])
    (hne : ∀ g : FState, g.length = nReal → fullDist b nsq eps U nReal g ≠ []) (F : FState → Q) :
    mix (annotatedPdist b nsq eps U nReal (buildStatisticsFull P s)) F =
      mix (specFull P s).1
        (fun a => mixGroups ((groupsOf nReal a).map (fullDist b nsq eps U nReal)) F) := by
  unfold buildStatisticsFull
  rw [remap_preserves_mixture b nsq eps U nReal _ hne,
    mix_annotatedPdist b nsq eps U nReal _ (fun x _ g hg => hne g (groupsOf_len nReal x.1 g hg)),
    mix_fullDistribution P h s hs]

/-- The sampler's distribution photon by photon, for every source and input: each photon of the
input draws one of the six outcomes; the photons emitted, grouped by label, move independently -/
theorem output_per_photon (b : BackendKind) (nsq : K → Q) (eps : Q) (U : M K) (nReal : Nat)
    (P : Params Q) (h : InRange P) (s : FState) (hs : s ≠ [])
    (hne : ∀ g : FState, g.length = nReal → fullDist b nsq eps U nReal g ≠ []) (F : FState → Q) :
    mix (annotatedPdist b nsq eps U nReal (buildStatisticsFull P s)) F =
      photonMix P (partitionIdx s) 1
        (fun e => mixGroups ((groupsP nReal e).map (fullDist b nsq eps U nReal)) F) :=
  (output_mixture b nsq eps U nReal P h s hs hne F).trans
    (mix_specFull_photon P s _ _ fun rows => mixGroups_perm ((groupsOf_new_perm nReal rows).map _) F)

end Main

-- one photon in each of two modes: label `0` is the indistinguishable one, `1` and `3` are the fresh
-- labels of the first and of the second photon

theorem groups_00 : groupsP 2 [] = [[0, 0]] := by decide
theorem groups_i0 : groupsP 2 [(0, 0)] = [[1, 0]] := by decide
theorem groups_d0 : groupsP 2 [(0, 1)] = [[1, 0]] := by decide
theorem groups_0i : groupsP 2 [(1, 0)] = [[0, 1]] := by decide
theorem groups_0d : groupsP 2 [(1, 3)] = [[0, 1]] := by decide
theorem groups_ii : groupsP 2 [(0, 0), (1, 0)] = [[1, 1]] := by decide
theorem groups_id : groupsP 2 [(0, 0), (1, 3)] = [[1, 0], [0, 1]] := by decide
theorem groups_di : groupsP 2 [(0, 1), (1, 0)] = [[1, 0], [0, 1]] := by decide
theorem groups_dd : groupsP 2 [(0, 1), (1, 3)] = [[1, 0], [0, 1]] := by decide

section Two
variable {Q : Type} [Field Q] [LinearOrder Q] [IsStrictOrderedRing Q]

theorem c1dp_of_pure (P : Params Q) (hx : P.p2 = 0) : c1dp P = 0 := by simp [c1dp, hx]
theorem c12d_of_pure (P : Params Q) (hx : P.p2 = 0) : c12d P = 0 := by simp [c12d, hx]
theorem c1d2d_of_pure (P : Params Q) (hx : P.p2 = 0) : c1d2d P = 0 := by simp [c1d2d, hx]
theorem c1_of_pure (P : Params Q) (hx : P.p2 = 0) : c1 P = P.pi * P.nu := by simp [c1, p1, hx]
theorem c1d_of_pure (P : Params Q) (hx : P.p2 = 0) : c1d P = (1 - P.pi) * P.nu := by
  simp [c1d, p1, pd, hx]
theorem c0_of_pure (P : Params Q) (hx : P.p2 = 0) : c0 P = 1 - P.nu := by simp [c0, p1, hx]

theorem mix_outcomeTable_pure (P : Params Q) (hx : P.p2 = 0) (ctr : Int) (H : List Int → Q) :
    mix (outcomeTable P ctr) H =
      (1 - P.nu) * H [] + P.pi * P.nu * H [0] + (1 - P.pi) * P.nu * H [ctr] := by
  simp only [outcomeTable, mix_cons, mix_nil, add_zero, c1dp_of_pure P hx, c12d_of_pure P hx,
    c1d2d_of_pure P hx, zero_mul, c1_of_pure P hx, c1d_of_pure P hx, c0_of_pure P hx]
  ring

end Two

section Hom
variable {K Q : Type} [CommRing K] [Field Q] [LinearOrder Q] [IsStrictOrderedRing Q]

theorem two_photon_pure (b : BackendKind) (nsq : K → Q) (eps : Q) (U : M K) (P : Params Q)
    (h : InRange P) (hx : P.p2 = 0)
    (hne : ∀ g : FState, g.length = 2 → fullDist b nsq eps U 2 g ≠ []) (F : FState → Q) :
    mix (annotatedPdist b nsq eps U 2 (buildStatisticsFull P [1, 1])) F =
      (1 - P.nu) * (1 - P.nu) * mix (fullDist b nsq eps U 2 [0, 0]) F +
      (1 - P.nu) * P.nu * (mix (fullDist b nsq eps U 2 [1, 0]) F + mix (fullDist b nsq eps U 2 [0, 1]) F) +
      P.nu * P.nu * (P.pi * P.pi * mix (fullDist b nsq eps U 2 [1, 1]) F +
        (1 - P.pi * P.pi) *
          mixGroups [fullDist b nsq eps U 2 [1, 0], fullDist b nsq eps U 2 [0, 1]] F) := by
  have hone : ∀ g : FState, mixGroups [fullDist b nsq eps U 2 g] F = mix (fullDist b nsq eps U 2 g) F :=
    fun g => rfl
  rw [output_per_photon b nsq eps U 2 P h [1, 1] (by simp) hne F,
    show partitionIdx [1, 1] = [0, 1] from rfl]
  simp only [photonMix, mix_outcomeTable_pure P hx, show (1 : Int) + 2 = 3 from rfl, List.map_nil,
    List.map_cons, List.nil_append, List.cons_append, groups_00, groups_i0, groups_d0, groups_0i,
    groups_0d, groups_ii, groups_id, groups_di, groups_dd, hone]
  ring

theorem hom_coincidence (b : BackendKind) (nsq : K → Q) (eps : Q) (U : M K) (P : Params Q)
    (h : InRange P) (hx : P.p2 = 0)
    (hne : ∀ g : FState, g.length = 2 → fullDist b nsq eps U 2 g ≠ []) (F : FState → Q)
    (h00 : mix (fullDist b nsq eps U 2 [0, 0]) F = 0)
    (h10 : mix (fullDist b nsq eps U 2 [1, 0]) F = 0)
    (h01 : mix (fullDist b nsq eps U 2 [0, 1]) F = 0) :
    mix (annotatedPdist b nsq eps U 2 (buildStatisticsFull P [1, 1])) F =
      P.nu * P.nu * (P.pi * P.pi * mix (fullDist b nsq eps U 2 [1, 1]) F +
        (1 - P.pi * P.pi) *
          mixGroups [fullDist b nsq eps U 2 [1, 0], fullDist b nsq eps U 2 [0, 1]] F) := by
  rw [two_photon_pure b nsq eps U P h hx hne F, h00, h10, h01, mul_zero, add_zero, mul_zero,
    zero_add, zero_add]

end Hom

section Vis
variable {K Q : Type} [CommRing K] [Field Q] [LinearOrder Q] [IsStrictOrderedRing Q]

theorem hom_visibility_eq_indist (b : BackendKind) (nsq : K → Q) (eps : Q) (U : M K) (P : Params Q)
    (h : InRange P) (hx : P.p2 = 0) (hν : P.nu ≠ 0)
    (hne : ∀ g : FState, g.length = 2 → fullDist b nsq eps U 2 g ≠ []) (F : FState → Q)
    (h00 : mix (fullDist b nsq eps U 2 [0, 0]) F = 0)
    (h10 : mix (fullDist b nsq eps U 2 [1, 0]) F = 0)
    (h01 : mix (fullDist b nsq eps U 2 [0, 1]) F = 0)
    (hind : mix (fullDist b nsq eps U 2 [1, 1]) F = 0)
    (hdis : mixGroups [fullDist b nsq eps U 2 [1, 0], fullDist b nsq eps U 2 [0, 1]] F ≠ 0) :
    1 - mix (annotatedPdist b nsq eps U 2 (buildStatisticsFull P [1, 1])) F /
        mix (annotatedPdist b nsq eps U 2 (buildStatisticsFull { P with pi := 0 } [1, 1])) F =
      P.pi * P.pi := by
  have h0 : InRange ({ P with pi := 0 } : Params Q) :=
    ⟨h.nu0, h.nu1, h.x0, h.x1, le_refl 0, zero_le_one⟩
  rw [hom_coincidence b nsq eps U P h hx hne F h00 h10 h01,
    hom_coincidence b nsq eps U { P with pi := 0 } h0 hx hne F h00 h10 h01, hind]
  simp only [mul_zero, zero_add, sub_zero, one_mul]
  rw [mul_div_mul_left _ _ (mul_ne_zero hν hν), mul_div_cancel_right₀ _ hdis, sub_sub_cancel]

end Vis

end LW.Proofs.C06
