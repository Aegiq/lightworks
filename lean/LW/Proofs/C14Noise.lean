/-
  LW.Proofs.C14Noise — the error-model clauses of C14: exact modulo, draws inside the declared
  bounds, seed determinism.
-/
import Mathlib.Algebra.Order.Floor.Ring
import Mathlib.Data.Rat.Floor
import Mathlib.Tactic.Linarith
import LW.Model.ReckNoise

namespace LW

/-- what a distribution needs from its generator state: a TopHat was constructed with
`min ≤ max` and draws uniforms from `[0, 1)` -/
def Reck.TapeOk : Reck.Dist → Reck.Tape → Prop
  | .topHat lo hi, t => lo ≤ hi ∧ ∀ u ∈ t, 0 ≤ u ∧ u < 1
  | _, _ => True

end LW

namespace LW.Proofs.C14

open LW.Reck

theorem pmod_range (x y : Rat) (hy : 0 < y) : 0 ≤ pmod x y ∧ pmod x y < y := by
  unfold pmod
  have h1 : ((x / y).floor : Rat) ≤ x / y := Rat.floor_le _
  have h2 : x / y < ((x / y).floor : Rat) + 1 := by
    have := Rat.lt_floor_add_one (x / y)
    push_cast at this
    exact this
  have hx : y * (x / y) = x := by field_simp
  have h1' := mul_le_mul_of_nonneg_left h1 hy.le
  have h2' := mul_lt_mul_of_pos_left h2 hy
  constructor <;> linarith

theorem firstInBounds_spec (lo hi : Option Rat) (t t' : Tape) (v : Rat)
    (h : firstInBounds lo hi t = some (v, t')) : inBounds lo hi v = true ∧ t' <:+ t := by
  induction t with
  | nil => simp [firstInBounds] at h
  | cons u rest ih =>
    unfold firstInBounds at h
    by_cases hb : inBounds lo hi u = true
    · rw [if_pos hb] at h
      injection h with h
      injection h with h1 h2
      subst h1 h2
      exact ⟨hb, List.suffix_cons _ _⟩
    · rw [if_neg hb] at h
      obtain ⟨a, b⟩ := ih h
      exact ⟨a, b.trans (List.suffix_cons _ _)⟩

theorem tapeOk_suffix {d : Dist} {t t' : Tape} (h : TapeOk d t) (hs : t' <:+ t) : TapeOk d t' := by
  cases d with
  | topHat lo hi => exact ⟨h.1, fun u hu => h.2 u (hs.subset hu)⟩
  | constant v => trivial
  | gaussian c dv lo hi => trivial

theorem value_within (d : Dist) (t t' : Tape) (v : Rat) (ht : TapeOk d t)
    (h : d.value t = some (v, t')) : d.within v ∧ t' <:+ t := by
  cases d with
  | constant c =>
    simp only [Dist.value, Option.some.injEq, Prod.mk.injEq] at h
    obtain ⟨rfl, rfl⟩ := h
    exact ⟨rfl, List.suffix_refl _⟩
  | gaussian c dv lo hi =>
    exact firstInBounds_spec lo hi t t' v h
  | topHat lo hi =>
    cases t with
    | nil => simp [Dist.value] at h
    | cons u rest =>
      simp only [Dist.value, Option.some.injEq, Prod.mk.injEq] at h
      obtain ⟨rfl, rfl⟩ := h
      obtain ⟨hle, hu⟩ := ht
      obtain ⟨h0, h1⟩ := hu u List.mem_cons_self
      refine ⟨⟨?_, ?_⟩, List.suffix_cons _ _⟩
      · nlinarith
      · nlinarith

/-- a resampled Gaussian value satisfies the code's loop exit condition literally -/
theorem gaussian_within_iff (lo hi : Option Rat) (v : Rat) :
    inBounds lo hi v = true ↔ (∀ l, lo = some l → l ≤ v) ∧ (∀ h, hi = some h → v ≤ h) := by
  unfold inBounds
  cases lo <;> cases hi <;> simp [not_lt]

theorem offsetCells_range (twoPi : Rat) (h2 : 0 < twoPi) (d : Dist) (cells : List (Rat × Rat))
    (t t' : Tape) (r : List (Rat × Rat)) (h : offsetCells twoPi d cells t = some (r, t')) :
    (∀ c ∈ r, (0 ≤ c.1 ∧ c.1 < twoPi) ∧ (0 ≤ c.2 ∧ c.2 < twoPi)) ∧ r.length = cells.length := by
  induction cells generalizing t t' r with
  | nil =>
    simp only [offsetCells, Option.some.injEq, Prod.mk.injEq] at h
    obtain ⟨rfl, _⟩ := h
    simp
  | cons c rest ih =>
    obtain ⟨th, ph⟩ := c
    simp only [offsetCells, Option.bind_eq_bind, Option.bind_eq_some_iff, Option.some.injEq,
      Prod.mk.injEq, Prod.exists] at h
    obtain ⟨o1, t1, -, o2, t2, -, r3, t3, h3, rfl, -⟩ := h
    obtain ⟨ih1, ih2⟩ := ih t2 t3 r3 h3
    refine ⟨?_, by simp [ih2]⟩
    intro c hc
    rcases List.mem_cons.mp hc with rfl | hc
    · exact ⟨pmod_range _ _ h2, pmod_range _ _ h2⟩
    · exact ih1 c hc

theorem offsetEnds_range (twoPi : Rat) (h2 : 0 < twoPi) (d : Dist) (ends : List Rat)
    (t t' : Tape) (r : List Rat) (h : offsetEnds twoPi d ends t = some (r, t')) :
    ∀ p ∈ r, 0 ≤ p ∧ p < twoPi := by
  induction ends generalizing t t' r with
  | nil =>
    simp only [offsetEnds, Option.some.injEq, Prod.mk.injEq] at h
    obtain ⟨rfl, _⟩ := h
    simp
  | cons p0 rest ih =>
    simp only [offsetEnds, Option.bind_eq_bind, Option.bind_eq_some_iff, Option.some.injEq,
      Prod.mk.injEq, Prod.exists] at h
    obtain ⟨o1, t1, -, r3, t3, h3, rfl, -⟩ := h
    intro p hp
    rcases List.mem_cons.mp hp with rfl | hp
    · exact pmod_range _ _ h2
    · exact ih t1 t3 r3 h3 p hp

theorem drawCells_within (dBs dLoss : Dist) (cells : List (Rat × Rat)) (tb tl tb' tl' : Tape)
    (r : List CellParams) (hb : TapeOk dBs tb) (hl : TapeOk dLoss tl)
    (h : drawCells dBs dLoss cells tb tl = some (r, tb', tl')) :
    (∀ c ∈ r, dBs.within c.r1 ∧ dBs.within c.r2 ∧ dLoss.within c.loss) ∧
    r.map (fun c => (c.theta, c.phi)) = cells := by
  induction cells generalizing tb tl tb' tl' r with
  | nil =>
    simp only [drawCells, Option.some.injEq, Prod.mk.injEq] at h
    obtain ⟨rfl, _⟩ := h
    simp
  | cons c rest ih =>
    obtain ⟨th, ph⟩ := c
    simp only [drawCells, Option.bind_eq_bind, Option.bind_eq_some_iff, Option.some.injEq,
      Prod.mk.injEq, Prod.exists] at h
    obtain ⟨r1, t1, h1, r2, t2, h2, l, t3, h3, r4, t4, t5, h4, rfl, -⟩ := h
    obtain ⟨w1, s1⟩ := value_within dBs tb t1 r1 hb h1
    have hb1 := tapeOk_suffix hb s1
    obtain ⟨w2, s2⟩ := value_within dBs t1 t2 r2 hb1 h2
    obtain ⟨w3, s3⟩ := value_within dLoss tl t3 l hl h3
    obtain ⟨ih1, ih2⟩ := ih t2 t3 t4 t5 r4 (tapeOk_suffix hb1 s2) (tapeOk_suffix hl s3) h4
    refine ⟨?_, by simp [ih2]⟩
    intro c hc
    rcases List.mem_cons.mp hc with rfl | hc
    · exact ⟨w1, w2, w3⟩
    · exact ih1 c hc

/-- the generator states are equal, except for a distribution that never reads its state (`hasSeed = false`),
for which any two are interchangeable -/
def SameFor (d : Dist) (t t' : Tape) : Prop := d.hasSeed = true → t = t'

/-- both runs fail, or both return the same value with states that are `SameFor d` -/
def SameRun {α : Type} (d : Dist) (x y : Option (α × Tape)) : Prop :=
  (x = none ∧ y = none) ∨ ∃ r t t', x = some (r, t) ∧ y = some (r, t') ∧ SameFor d t t'

theorem SameRun.bind {α β : Type} {d : Dist} {x y : Option (α × Tape)} (h : SameRun d x y)
    {f g : α × Tape → Option (β × Tape)}
    (hfg : ∀ r t t', SameFor d t t' → SameRun d (f (r, t)) (g (r, t'))) :
    SameRun d (x.bind f) (y.bind g) := by
  rcases h with ⟨rfl, rfl⟩ | ⟨r, t, t', rfl, rfl, s⟩
  · exact Or.inl ⟨rfl, rfl⟩
  · exact hfg r t t' s

theorem SameRun.bind_fst {α β γ : Type} {d : Dist} {x y : Option (α × Tape)} (h : SameRun d x y)
    {f g : α × Tape → Option (β × γ)}
    (hfg : ∀ r t t', SameFor d t t' → (f (r, t)).map Prod.fst = (g (r, t')).map Prod.fst) :
    (x.bind f).map Prod.fst = (y.bind g).map Prod.fst := by
  rcases h with ⟨rfl, rfl⟩ | ⟨r, t, t', rfl, rfl, s⟩
  · rfl
  · exact hfg r t t' s

theorem map_fst_bind {α β γ δ : Type} {x y : Option (α × β)}
    (hxy : x.map Prod.fst = y.map Prod.fst) (g : α → γ) (k k' : α × β → δ) :
    (x.bind fun p => some (g p.1, k p)).map Prod.fst =
      (y.bind fun p => some (g p.1, k' p)).map Prod.fst := by
  rcases x with _ | ⟨a, b⟩ <;> rcases y with _ | ⟨a', b'⟩ <;> simp_all

theorem SameRun.refl {α : Type} (d : Dist) (x : Option (α × Tape)) : SameRun d x x := by
  rcases x with _ | ⟨r, t⟩
  exacts [Or.inl ⟨rfl, rfl⟩, Or.inr ⟨r, t, t, rfl, rfl, fun _ => rfl⟩]

theorem value_same (d : Dist) (t t' : Tape) (h : SameFor d t t') :
    SameRun d (d.value t) (d.value t') := by
  cases d with
  | constant c => exact Or.inr ⟨c, t, t', rfl, rfl, fun hh => by simp [Dist.hasSeed] at hh⟩
  | _ =>
    obtain rfl := h rfl
    exact SameRun.refl _ _

theorem offsetCells_same (twoPi : Rat) (d : Dist) (cells : List (Rat × Rat)) (t t' : Tape)
    (h : SameFor d t t') :
    SameRun d (offsetCells twoPi d cells t) (offsetCells twoPi d cells t') := by
  induction cells generalizing t t' with
  | nil => exact Or.inr ⟨[], t, t', rfl, rfl, h⟩
  | cons c rest ih =>
    obtain ⟨th, ph⟩ := c
    simp only [offsetCells, Option.bind_eq_bind]
    exact (value_same d t t' h).bind fun v1 t1 t1' s1 =>
      (value_same d t1 t1' s1).bind fun v2 t2 t2' s2 =>
        (ih t2 t2' s2).bind fun r t3 t3' s3 => Or.inr ⟨_, t3, t3', rfl, rfl, s3⟩

theorem offsetEnds_same (twoPi : Rat) (d : Dist) (ends : List Rat) (t t' : Tape)
    (h : SameFor d t t') :
    SameRun d (offsetEnds twoPi d ends t) (offsetEnds twoPi d ends t') := by
  induction ends generalizing t t' with
  | nil => exact Or.inr ⟨[], t, t', rfl, rfl, h⟩
  | cons p rest ih =>
    simp only [offsetEnds, Option.bind_eq_bind]
    exact (value_same d t t' h).bind fun v1 t1 t1' s1 =>
      (ih t1 t1' s1).bind fun r t3 t3' s3 => Or.inr ⟨_, t3, t3', rfl, rfl, s3⟩

theorem drawCells_same (dBs dLoss : Dist) (cells : List (Rat × Rat)) (tb tb' tl tl' : Tape)
    (hb : SameFor dBs tb tb') (hl : SameFor dLoss tl tl') :
    (drawCells dBs dLoss cells tb tl).map Prod.fst =
      (drawCells dBs dLoss cells tb' tl').map Prod.fst := by
  induction cells generalizing tb tb' tl tl' with
  | nil => rfl
  | cons c rest ih =>
    obtain ⟨th, ph⟩ := c
    simp only [drawCells, Option.bind_eq_bind]
    exact (value_same dBs tb tb' hb).bind_fst fun v1 t1 t1' s1 =>
      (value_same dBs t1 t1' s1).bind_fst fun v2 t2 t2' s2 =>
        (value_same dLoss tl tl' hl).bind_fst fun v3 t3 t3' s3 =>
          map_fst_bind (ih t2 t2' t3 t3' s2 s3) (⟨ph, v1, th, v2, v3⟩ :: ·) _ _

theorem program_same (twoPi : Rat) (e1 e2 : EMS) (A : Angles) (hbs : e1.bs = e2.bs)
    (hloss : e1.loss = e2.loss) (hoff : e1.off = e2.off)
    (sb : SameFor e1.bs e1.tBs e2.tBs) (sl : SameFor e1.loss e1.tLoss e2.tLoss)
    (so : SameFor e1.off e1.tOff e2.tOff) :
    (program twoPi e1 A).map Prod.fst = (program twoPi e2 A).map Prod.fst := by
  unfold program
  simp only [Option.bind_eq_bind, ← hbs, ← hloss, ← hoff]
  exact (offsetCells_same twoPi e1.off A.cells e1.tOff e2.tOff so).bind_fst fun r t1 t1' s1 =>
    (offsetEnds_same twoPi e1.off A.ends t1 t1' s1).bind_fst fun r2 _ _ _ =>
      map_fst_bind (drawCells_same e1.bs e1.loss r e1.tBs e2.tBs e1.tLoss e2.tLoss sb sl)
        (fun cps => (⟨cps, r2⟩ : Programmed)) _ _

theorem seed_determinism (gen : Nat → Dist → Tape) (seedInts : Nat → List Nat) (twoPi : Rat)
    (e1 e2 : EMS) (hbs : e1.bs = e2.bs) (hloss : e1.loss = e2.loss) (hoff : e1.off = e2.off)
    (seed : Nat) (A : Angles) :
    (mapParams gen seedInts twoPi e1 seed A).map Prod.fst =
      (mapParams gen seedInts twoPi e2 seed A).map Prod.fst := by
  unfold mapParams
  apply program_same
  · simpa [setRandomSeed] using hbs
  · simpa [setRandomSeed] using hloss
  · simpa [setRandomSeed] using hoff
  · intro h
    have h' : e1.bs.hasSeed = true := by simpa [setRandomSeed] using h
    simp only [setRandomSeed, ← hbs, h', if_true]
  · intro h
    have h' : e1.loss.hasSeed = true := by simpa [setRandomSeed] using h
    simp only [setRandomSeed, ← hbs, ← hloss, h', if_true]
  · intro h
    have h' : e1.off.hasSeed = true := by simpa [setRandomSeed] using h
    simp only [setRandomSeed, ← hbs, ← hloss, ← hoff, h', if_true]

/-- the error model of the example in LW/Properties/C14: top-hat reflectivity, constant loss, a bounded
Gaussian phase offset, with the tapes the three generators would yield -/
def exEMS : EMS :=
  ⟨.topHat (2 / 5) (3 / 5), .constant (1 / 10), .gaussian 0 (1 / 10) (some (-1 / 5)) (some (1 / 5)),
   [1 / 2, 1 / 4], [], [3 / 10, 1 / 10, -1 / 10, 0]⟩

end LW.Proofs.C14
