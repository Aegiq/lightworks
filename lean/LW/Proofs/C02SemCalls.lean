/-
  LW.Proofs.C02SemCalls — refinement of the construction calls other than `add`: a primitive on user
  modes acts on the port indices of the abstraction (`applyPrims_toOptic`, `sem_of_rel`; `sem_ps`,
  `sem_loss`, `sem_bs`, `sem_swaps`), and `herald` records a pair of ports (`sem_herald`).
-/
import LW.Proofs.C02SemClosed
import LW.Proofs.C02SemRun
import LW.Proofs.Reach

open scoped BigOperators

namespace LW.Proofs.C02Sem

open LW LW.Proofs.C01Aux LW.Proofs.C02

variable {K : Type} [CommRing K] [StarRing K]

-- the refinement theorems of the calls keep `[CommRing K] [StarRing K]` as stated; so does what leads to them
set_option linter.unusedSectionVars false

theorem optic_eq {x y : Optic K} (h1 : x.p = y.p) (h2 : x.a = y.a) (h3 : x.l = y.l) (h4 : x.W = y.W)
    (h5 : x.her = y.her) : x = y := by
  cases x; cases y; simp only at h1 h2 h3 h4 h5; subst h1 h2 h3 h4 h5; rfl

theorem prim_fields (i : K) (x : Optic K) (q : Prim K) :
    (Optic.prim i x q).p = x.p ∧ (Optic.prim i x q).a = x.a ∧
    (Optic.prim i x q).l = x.l + (if q.isLoss then 1 else 0) ∧
    (Optic.prim i x q).W = compilePrim i x.W q ∧ (Optic.prim i x q).her = x.her := by
  cases q <;> exact ⟨rfl, rfl, rfl, rfl, rfl⟩

theorem foldl_prim_fields (i : K) (qs : List (Prim K)) (x : Optic K) :
    (qs.foldl (Optic.prim i) x).p = x.p ∧ (qs.foldl (Optic.prim i) x).a = x.a ∧
    (qs.foldl (Optic.prim i) x).l = x.l + lossN qs ∧
    (qs.foldl (Optic.prim i) x).W = qs.foldl (compilePrim i) x.W ∧
    (qs.foldl (Optic.prim i) x).her = x.her := by
  induction qs generalizing x with
  | nil => exact ⟨rfl, rfl, rfl, rfl, rfl⟩
  | cons q qs ih =>
    obtain ⟨h1, h2, h3, h4, h5⟩ := ih (Optic.prim i x q)
    obtain ⟨g1, g2, g3, g4, g5⟩ := prim_fields i x q
    rw [List.foldl_cons]
    refine ⟨by rw [h1, g1], by rw [h2, g2], ?_, by rw [h4, g4]; rfl, by rw [h5, g5]⟩
    rw [h3, g3, lossN_cons]; omega

theorem applyPrims_toOptic (i : K) (c : Circ K) (hwf : c.WF) (qsM qsP : List (Prim K))
    (hrel : List.Forall₂ (MatRel i (fun r => some (c.optMode r)) c.n c.n) qsM qsP)
    (hwf' : ({ c with spec := c.spec ++ qsM.map Comp.prim } : Circ K).WF) :
    qsP.foldl (Optic.prim i) (c.toOptic i)
      = ({ c with spec := c.spec ++ qsM.map Comp.prim } : Circ K).toOptic i := by
  obtain ⟨h1, h2, h3, h4, h5⟩ := foldl_prim_fields i qsP (c.toOptic i)
  apply optic_eq
  · rw [h1]; rfl
  · rw [h2]; rfl
  · rw [h3, toOptic_l, toOptic_l, lossCount_append, lossCount_map_prim, lossN_rel hrel]
  · rw [h4, toOptic_W i c hwf, toOptic_W i _ hwf']
    show _ = Optic.embedVia (c.n + lossCount (c.spec ++ qsM.map Comp.prim))
      (compile i c.n (c.spec ++ qsM.map Comp.prim)) (fun r => some (c.optMode r))
    rw [compile_append_prims, lossCount_append, lossCount_map_prim]
    have hU : (c.Ufull i).n = c.n + lossCount c.spec := Ufull_n i c
    have := run_rel i (fun L => pinj_optMode c hwf L) qsM qsP hrel (c.Ufull i)
      (M.one (c.n + lossCount c.spec)) (lossCount c.spec) hU rfl (M.isOfFn_one _)
    rw [embedVia_mul_one, one_pad, embedVia_mul_one] at this
    rw [this, Nat.add_assoc]
    rfl
  · rw [h5]; rfl

theorem matRel_opt_loss (i : K) (c : Circ K) (hwf : c.WF) {a : Nat} (ha : a < c.n) (x y : K) :
    MatRel i (fun r => some (c.optMode r)) c.n c.n (.loss a x y) (.loss (optIdx c a) x y) :=
  matRel_loss (pinj_optMode c hwf) ha
    (fun L hL => by unfold optIdx; rw [if_neg (by omega)]) x y

/-! ### the dummy circuit on which `Optic.applyCall` validates a call -/

theorem dummy_mapMode (P : Nat) (m : Int) : (({ n := P } : Circ K)).mapMode m = m := rfl

theorem dummy_inRange (P : Nat) (m : Int) (h0 : 0 ≤ m) (h1 : m < (P : Int)) :
    (({ n := P } : Circ K)).modeInRange m = .ok m.toNat :=
  Circ.modeInRange_eq_ok.mpr ⟨h0, h1, Int.toNat_of_nonneg h0⟩

theorem dummy_loss (P : Nat) (m : Int) (h0 : 0 ≤ m) (h1 : m < (P : Int)) (ab : K × K) :
    (({ n := P } : Circ K)).loss m ab = .ok { n := P, spec := [.prim (.loss m.toNat ab.1 ab.2)] } := by
  simp only [Circ.loss, dummy_mapMode, dummy_inRange P m h0 h1, bind, Except.bind]
  rfl

theorem sem_of_rel (i : K) (c : Circ K) (hwf : c.WF) (qsM qsP : List (Prim K))
    (hrel : List.Forall₂ (MatRel i (fun r => some (c.optMode r)) c.n c.n) qsM qsP)
    (hwf' : ({ c with spec := c.spec ++ qsM.map Comp.prim } : Circ K).WF)
    (f : Circ K → Except Err (Circ K))
    (hf : f { n := (c.toOptic i).p } = .ok { n := (c.toOptic i).p, spec := [] ++ qsP.map Comp.prim }) :
    ∃ x, (c.toOptic i).applyCall i f = .ok x ∧
      x.closed = (({ c with spec := c.spec ++ qsM.map Comp.prim } : Circ K).toOptic i).closed := by
  unfold Optic.applyCall
  rw [hf]
  refine ⟨_, rfl, ?_⟩
  simp only [List.nil_append, flatMap_toPrims_map_prim]
  exact congrArg Optic.closed (applyPrims_toOptic i c hwf _ _ hrel hwf')

theorem sem_ps (i : K) (c c' : Circ K) (hc : Reach c) (m : Int) (p : K) (l : Option (K × K))
    (h : c.ps m p l = .ok c') :
    ∃ x, (c.toOptic i).applyCall i (fun d => d.ps m p l) = .ok x ∧ x.closed = (c'.toOptic i).closed := by
  have hwf := (LW.Proofs.Reach.reach_inv c hc).wf
  have hwf' : c'.WF := let ⟨_, hl, e⟩ := Circ.ps_leaf h; e ▸ (Circ.avoid_of_leaf hwf hl).1
  obtain ⟨a, ha, -, rfl⟩ := Circ.ps_ok.mp h
  obtain ⟨hm0, hm1, ha_eq, ha_lt, -⟩ := mapped_port c hwf ha
  have hidx : optIdx c a = m.toNat := by rw [ha_eq, optIdx_optMode c hwf]
  refine sem_of_rel i c hwf _ (Circ.psPrims m.toNat p l) ?_ hwf' _
    (Circ.ps_eq_ok (dummy_inRange _ m hm0 hm1) p l)
  rw [← hidx]
  cases l with
  | none => exact .cons (matRel_ps (pinj_optMode c hwf) ha_lt p) .nil
  | some ab =>
    exact .cons (matRel_ps (pinj_optMode c hwf) ha_lt p)
      (.cons (matRel_opt_loss i c hwf ha_lt _ _) .nil)

theorem sem_loss (i : K) (c c' : Circ K) (hc : Reach c) (m : Int) (ab : K × K)
    (h : c.loss m ab = .ok c') :
    ∃ x, (c.toOptic i).applyCall i (fun d => d.loss m ab) = .ok x ∧ x.closed = (c'.toOptic i).closed := by
  have hwf := (LW.Proofs.Reach.reach_inv c hc).wf
  have hwf' : c'.WF := let ⟨_, hl, e⟩ := Circ.loss_leaf h; e ▸ (Circ.avoid_of_leaf hwf hl).1
  obtain ⟨a, ha, -, rfl⟩ := Circ.loss_ok.mp h
  obtain ⟨hm0, hm1, ha_eq, ha_lt, -⟩ := mapped_port c hwf ha
  have hidx : optIdx c a = m.toNat := by rw [ha_eq, optIdx_optMode c hwf]
  refine sem_of_rel i c hwf [.loss a ab.1 ab.2] [.loss m.toNat ab.1 ab.2] ?_ hwf' _
    (dummy_loss (c.toOptic i).p m hm0 hm1 ab)
  rw [← hidx]
  exact .cons (matRel_opt_loss i c hwf ha_lt _ _) .nil

theorem sem_bs (i : K) (c c' : Circ K) (hc : Reach c) (m1 m2 : Int) (cs : K × K) (cv : Conv)
    (l : Option (K × K)) (h : c.bs m1 m2 cs cv l = .ok c') :
    ∃ x, (c.toOptic i).applyCall i (fun d => d.bs m1 m2 cs cv l) = .ok x ∧ x.closed = (c'.toOptic i).closed := by
  have hwf := (LW.Proofs.Reach.reach_inv c hc).wf
  have hwf' : c'.WF := let ⟨_, _, hl, e⟩ := Circ.bs_leaf h; e ▸ (Circ.avoid_of_leaf hwf hl).1
  obtain ⟨a, b, ha, hb, hne, -, -, rfl⟩ := Circ.bs_ok.mp h
  obtain ⟨hm0, hm1, ha_eq, ha_lt, -⟩ := mapped_port c hwf ha
  obtain ⟨hn0, hn1, hb_eq, hb_lt, -⟩ := mapped_port c hwf hb
  have hidx : optIdx c a = m1.toNat := by rw [ha_eq, optIdx_optMode c hwf]
  have hidx2 : optIdx c b = m2.toNat := by rw [hb_eq, optIdx_optMode c hwf]
  have hne' : m1 ≠ m2 := fun e =>
    hne (Int.ofNat_inj.mp (by rw [(mapped_ok ha).2.2, (mapped_ok hb).2.2, e]))
  refine sem_of_rel i c hwf _ (Circ.bsPrims m1.toNat m2.toNat cs cv l) ?_ hwf' _
    (Circ.bs_eq_ok (dummy_inRange _ m1 hm0 hm1) (dummy_inRange _ m2 hn0 hn1)
      (by omega) cs cv l)
  rw [← hidx, ← hidx2]
  cases l with
  | none => exact .cons (matRel_bs (pinj_optMode c hwf) ha_lt hb_lt _ _ _) .nil
  | some ab =>
    exact .cons (matRel_bs (pinj_optMode c hwf) ha_lt hb_lt _ _ _)
      (.cons (matRel_opt_loss i c hwf ha_lt _ _) (.cons (matRel_opt_loss i c hwf hb_lt _ _) .nil))

theorem mapM_ports (c : Circ K) (hwf : c.WF) (l : List Int) (ks : List Nat)
    (h : l.mapM (fun x => c.modeInRange (c.mapMode x)) = .ok ks) :
    l.mapM (fun x => (({ n := c.portModes.length } : Circ K)).modeInRange x) = .ok (l.map Int.toNat) ∧
    ks = (l.map Int.toNat).map c.optMode ∧ ∀ k ∈ ks, k < c.n := by
  induction l generalizing ks with
  | nil =>
    cases Except.mapM_nil_ok.mp h
    exact ⟨rfl, rfl, by simp⟩
  | cons x xs ih =>
    obtain ⟨a, ks', ha, hks', rfl⟩ := Except.mapM_cons_ok.mp h
    obtain ⟨hm0, hm1, ha_eq, ha_lt, -⟩ := mapped_port c hwf ha
    obtain ⟨h1, h2, h3⟩ := ih ks' hks'
    refine ⟨?_, ?_, ?_⟩
    · simp only [List.mapM_cons, bind, Except.bind, dummy_inRange _ x hm0 hm1, h1]
      rfl
    · simp only [List.map_cons, ← h2, ← ha_eq]
    · intro k hk
      rcases List.mem_cons.mp hk with rfl | hk
      · exact ha_lt
      · exact h3 k hk

theorem fn_lt_of_vals {d : Dict} {n N x : Nat} (hv : ∀ v ∈ d.vals, v < n) (hN : n ≤ N) (hx : x < N) :
    Dict.fn d x < N := by
  rcases Dict.getD_cases d x with ⟨_, e⟩ | ⟨v, hm, e⟩
  · show d.getD x x < N; rw [e]; exact hx
  · show d.getD x x < N; rw [e]
    have := hv v (Dict.mem_vals_of_mem hm); omega

theorem sem_swaps (i : K) (c c' : Circ K) (hc : Reach c) (sw : List (Int × Int))
    (h : c.modeSwaps sw = .ok c') :
    ∃ x, (c.toOptic i).applyCall i (fun d => d.modeSwaps sw) = .ok x ∧ x.closed = (c'.toOptic i).closed := by
  have hwf := (LW.Proofs.Reach.reach_inv c hc).wf
  have hwf' : c'.WF := let ⟨_, hl, e⟩ := Circ.modeSwaps_leaf h; e ▸ (Circ.avoid_of_leaf hwf hl).1
  obtain ⟨ks, hks, vs, hvs, hsort, rfl⟩ := Circ.modeSwaps_ok.mp h
  rw [List.mapM_map] at hks hvs
  have hks' : (sw.map (·.1)).mapM (fun x => c.modeInRange (c.mapMode x)) = .ok ks := by
    rw [List.mapM_map]; exact hks
  have hvs' : (sw.map (·.2)).mapM (fun x => c.modeInRange (c.mapMode x)) = .ok vs := by
    rw [List.mapM_map]; exact hvs
  obtain ⟨k1, k2, k3⟩ := mapM_ports c hwf _ ks hks'
  obtain ⟨v1, v2, v3⟩ := mapM_ports c hwf _ vs hvs'
  rw [List.mapM_map] at k1 v1
  set ksP := (sw.map (·.1)).map Int.toNat with hksP
  set vsP := (sw.map (·.2)).map Int.toNat with hvsP
  have hinj := optMode_inj c hwf
  have hd : Dict.ofPairs (ks.zip vs)
      = (Dict.ofPairs (ksP.zip vsP)).map fun p => (c.optMode p.1, c.optMode p.2) := by
    rw [k2, v2, List.zip_map]
    exact ofPairs_map_pair c.optMode hinj _
  have hkeys : (Dict.ofPairs (ks.zip vs)).keys = (Dict.ofPairs (ksP.zip vsP)).keys.map c.optMode := by
    rw [hd]; exact keys_map_pair _ _ _
  have hvals : (Dict.ofPairs (ks.zip vs)).vals = (Dict.ofPairs (ksP.zip vsP)).vals.map c.optMode := by
    rw [hd]; exact vals_map_pair _ _ _
  have hsortP : sortNat (Dict.ofPairs (ksP.zip vsP)).keys = sortNat (Dict.ofPairs (ksP.zip vsP)).vals := by
    rw [sortNat_eq_iff_perm] at hsort ⊢
    rw [hkeys, hvals] at hsort
    have := hsort.map (optIdx c)
    simp only [List.map_map, Function.comp_def, optIdx_optMode c hwf, List.map_id'] at this
    exact this
  have hdummy : (({ n := (c.toOptic i).p } : Circ K)).modeSwaps sw
      = .ok { n := (c.toOptic i).p, spec := [.prim (.swaps (Dict.ofPairs (ksP.zip vsP)))] } := by
    simp only [Circ.modeSwaps, bind, Except.bind, List.mapM_map, dummy_mapMode]
    have e1 : (c.toOptic i).p = c.portModes.length := rfl
    have k1' : List.mapM ((fun p : Int × Int => (({ n := c.portModes.length } : Circ K)).modeInRange p.1)
        ∘ fun p : Int × Int => (p.1, p.2)) sw = .ok ksP := k1
    have v1' : List.mapM ((fun p : Int × Int => (({ n := c.portModes.length } : Circ K)).modeInRange p.2)
        ∘ fun p : Int × Int => (p.1, p.2)) sw = .ok vsP := v1
    rw [e1, k1', v1']
    simp only [hsortP, bne_self_eq_false, Bool.false_eq_true, if_false]
    rfl
  refine sem_of_rel i c hwf [.swaps (Dict.ofPairs (ks.zip vs))]
    [.swaps (Dict.ofPairs (ksP.zip vsP))] (.cons ?_ .nil) hwf' _ hdummy
  refine matRel_swaps (pinj_optMode c hwf) ?_ (fun _ x _ => ?_) (fun _ _ _ hr => by cases hr)
  · intro L x hx
    apply fn_lt_of_vals (n := c.n) _ (by omega) hx
    intro v hv
    have := mem_vals_ofPairs hv
    simp only [List.mem_map] at this
    obtain ⟨p, hp, rfl⟩ := this
    exact v3 _ (List.of_mem_zip hp).2
  · have hx : x = c.optMode (optIdx c x) := (optMode_optIdx c hwf x).symm
    conv_rhs => rw [hx, hd, fn_map_pair _ c.optMode hinj, optIdx_optMode c hwf]

theorem sem_herald (i : K) (c c' : Circ K) (hc : Reach c) (k : Nat) (a b : Int)
    (h : c.herald k a b = .ok c') :
    ∃ x, (c.toOptic i).herald k a b = .ok x ∧ x.closed = (c'.toOptic i).closed := by
  have hwf := (LW.Proofs.Reach.reach_inv c hc).wf
  obtain ⟨ia, ha, ob, hb, hci, hco, rfl⟩ := Circ.herald_ok.mp h
  obtain ⟨ha0, ha1, ha_eq, ha_lt, -⟩ := mapped_port c hwf ha
  obtain ⟨hb0, hb1, hb_eq, hb_lt, -⟩ := mapped_port c hwf hb
  have hci' : ia ∉ c.inHer.keys := fun hh => hci (contains_iff.mpr hh)
  have hco' : ob ∉ c.outHer.keys := fun hh => hco (contains_iff.mpr hh)
  have hidxa : optIdx c ia = a.toNat := by rw [ha_eq, optIdx_optMode c hwf]
  have hidxb : optIdx c ob = b.toNat := by rw [hb_eq, optIdx_optMode c hwf]
  have hcin : (c.toOptic i).extIn.contains a.toNat = false := by
    rw [Bool.eq_false_iff, Ne, List.contains_iff_mem, mem_extIn i c hwf]
    rintro ⟨-, x, hx, e⟩
    rw [optIndex_eq_optIdx c (hwf.inLt x hx), ← hidxa] at e
    exact hci' (optIdx_inj c hwf e ▸ hx)
  have hcout : (c.toOptic i).extOut.contains b.toNat = false := by
    rw [Bool.eq_false_iff, Ne, List.contains_iff_mem, mem_extOut i c hwf]
    rintro ⟨-, y, hy, e⟩
    rw [optIndex_eq_optIdx c (hwf.outLt y hy), ← hidxb] at e
    exact hco' (optIdx_inj c hwf e ▸ hy)
  unfold Optic.herald
  have hp : (c.toOptic i).p = c.portModes.length := rfl
  rw [if_neg (by rw [hp]; intro hor; rcases hor with hor | hor <;> exact hor ⟨by assumption, by assumption⟩),
    hcin, hcout]
  simp only [Bool.false_eq_true, if_false]
  refine ⟨_, rfl, ?_⟩
  apply congrArg Optic.closed
  apply optic_eq
  · rfl
  · rfl
  · rfl
  · rfl
  · show (c.toOptic i).her ++ [_] = _
    rw [toOptic_her, toOptic_her]
    show _ = ((c.inHer.set ia k).zip (c.outHer.set ob k)).map _
    rw [set_of_not_mem hci', set_of_not_mem hco', List.zip_append hwf.lenEq,
      List.map_append]
    congr 1
    show [_] = [_]
    congr 1
    show Her.mk a.toNat b.toNat k = Her.mk (c.optIndex ia) (c.optIndex ob) k
    rw [optIndex_eq_optIdx c ha_lt, optIndex_eq_optIdx c hb_lt, hidxa, hidxb]

end LW.Proofs.C02Sem
