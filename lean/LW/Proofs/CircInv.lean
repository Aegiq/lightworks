/-
  LW.Proofs.CircInv — the bookkeeping invariant of a `Circ` (C02) and the modes a component
  touches.  Definitions only; the lemmas about `Circ.WF` are in C02Calls (`WF.of_spec`, `WF.bare`,
  `WF.internal_lt`, `herald_preserves_WF`) and C02Final (`add_preserves_WF`), those about modes in C02Modes.
-/
import LW.Model.Circuit
import LW.Model.Optic

namespace LW

variable {K : Type}

/-- modes a leaf component reads or writes -/
def Prim.modes : Prim K → List Nat
  | .bs m1 m2 .. => [m1, m2]
  | .ps m _ => [m]
  | .loss m .. => [m]
  | .barrier ms => ms
  | .swaps σ => σ.keys ++ σ.vals
  | .unitary m u => (List.range u.n).map (· + m)

def Comp.modes : Comp K → List Nat
  | .prim p => p.modes
  | .group cs .. => cs.flatMap Prim.modes

/-- bookkeeping invariant of a circuit object -/
structure Circ.WF (c : Circ K) : Prop where
  inNodup : c.inHer.keys.Nodup
  outNodup : c.outHer.keys.Nodup
  inLt : ∀ k ∈ c.inHer.keys, k < c.n
  outLt : ∀ k ∈ c.outHer.keys, k < c.n
  lenEq : c.inHer.length = c.outHer.length
  intNodup : c.internal.Nodup
  /-- every ancilla is heralded with the same photon number at input and output -/
  intHer : ∀ a ∈ c.internal, (c.inHer.get? a).isSome ∧ c.inHer.get? a = c.outHer.get? a
  modesLt : ∀ comp ∈ c.spec, ∀ m ∈ comp.modes, m < c.n

/-- number of user-visible (addressable) modes -/
def Circ.ports (c : Circ K) : Nat := c.n - c.internal.length

end LW
