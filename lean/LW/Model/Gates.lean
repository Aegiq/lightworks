/-
  LW.Model.Gates — the qubit gate library (lightworks/qubit/gates/*.py), generic in the scalar
  type `K`.

  The algebraic constants the constructors obtain through float `**`, `np.exp`, `np.cos`/`np.sin`
  are *parameters* of the model (record `GC K`, DESIGN §3.1/§3.2) constrained by their defining
  equations in the theorems (`GC.Valid` in LW/Proofs/C13Field.lean); the definitions below use ring
  operations only, so the same text runs
    * on `Rat`/`S6` towers `ℚ[√2, …]` in the driver and in the kernel (exact), and
    * over any field containing such constants (in particular ℂ) in the lifted theorems.

  Every multi-qubit gate is built through the `Circ` model of `Circuit.add` / `herald` exactly as
  its constructor does (hard-coded unitary, herald placement, `add(..., group=True)`,
  H-conjugation on the chosen target), so `U_full`, `heralds` and `n_modes` are the model's
  outputs, not restated facts.
-/
import LW.Model.Circuit
import LW.Model.QFock
import LW.Model.Quad

namespace LW.Gates

variable {K : Type}

/-- constants of the gate library; a field that a given tower does not contain is set to 0
there and is not used by the gates evaluated over that tower -/
structure GC (K : Type) where
  i : K       -- imaginary unit `1j`
  s2 : K      -- `2**0.5`
  rh : K      -- `2**-0.5`
  half : K    -- `0.5`
  third : K   -- `1/3`
  s3i : K     -- `3**-0.5`
  q4i : K     -- `2**-0.25`
  w : K       -- `(3/2**0.5 - 2)**0.5`
  s7 : K      -- `7**0.5`
  t8 : K      -- `exp(1j*pi/4)`
  t8c : K     -- `exp(-1j*pi/4)`

section
variable [Add K] [Mul K] [Neg K] [Zero K] [One K]

/-- entry function of a 2×2 matrix -/
def m2 (a b c d : K) : Nat → Nat → K := fun r k =>
  match r, k with
  | 0, 0 => a | 0, 1 => b | 1, 0 => c | 1, 1 => d | _, _ => 0

def ofN : Nat → K
  | 0 => 0
  | n + 1 => ofN n + 1

/-! ### single-qubit gates (single_qubit_gates.py) -/

inductive SQ (K : Type)
  | I | H | X | Y | Z | S | Sadj | T | Tadj | SX
  | P (p : K)            -- p = exp(1j*theta)
  | Rx (c s : K)         -- (c, s) = (cos(theta/2), sin(theta/2))
  | Ry (c s : K)
  | Rz (pm pp : K)       -- (pm, pp) = (exp(-1j*theta/2), exp(1j*theta/2))

/-- the 2×2 unitary handed to `Unitary(...)` by the constructor -/
def sqEntry (c : GC K) : SQ K → Nat → Nat → K
  | .I => m2 1 0 0 1
  | .H => m2 c.rh c.rh c.rh (-c.rh)
  | .X => m2 0 1 1 0
  | .Y => m2 0 (-c.i) c.i 0
  | .Z => m2 1 0 0 (-1)
  | .S => m2 1 0 0 c.i
  | .Sadj => m2 1 0 0 (-c.i)
  | .T => m2 1 0 0 c.t8
  | .Tadj => m2 1 0 0 c.t8c
  | .SX => m2 (c.half * (1 + c.i)) (c.half * (1 + -c.i)) (c.half * (1 + -c.i)) (c.half * (1 + c.i))
  | .P p => m2 1 0 0 p
  | .Rx cs sn => m2 cs (-(c.i * sn)) (-(c.i * sn)) cs
  | .Ry cs sn => m2 cs (-sn) sn cs
  | .Rz pm pp => m2 pm 0 0 pp

def sqMat (c : GC K) (g : SQ K) : M K := M.ofFn 2 (sqEntry c g)

/-- `Unitary(u)` -/
def unitaryCirc (u : M K) : Circ K := { n := u.n, spec := [.prim (.unitary 0 u)] }

def sqCirc (c : GC K) (g : SQ K) : Circ K := unitaryCirc (sqMat c g)

/-! ### two-qubit gates (two_qubit_gates.py) -/

/-- `CZ.__init__`: `u_a` -/
def czUnitary (c : GC K) : M K :=
  M.ofFn 6 fun r k =>
    -- u_bs = [[-1, √2], [√2, 1]] / √3 written into the three diagonal 2×2 blocks of identity(6)
    let v := if r / 2 = k / 2 then c.s3i * m2 (-1) c.s2 c.s2 1 (r % 2) (k % 2) else 0
    -- u_a[3, :] = -u_a[3, :]
    if r = 3 then -v else v

def CZ (c : GC K) : Except Err (Circ K) := do
  let un := unitaryCirc (czUnitary c)
  let un ← un.herald 0 0 0
  let un ← un.herald 0 5 5
  (Circ.new 4).add un 0 true

/-- `CNOT(target_qubit)` / `CNOT_Heralded(target_qubit)`: H on the target, the CZ, H on the target,
added as one group.  `cz` is the already constructed CZ variant. -/
def conjH (c : GC K) (nq : Nat) (cz : Except Err (Circ K)) (target : Int) : Except Err (Circ K) := do
  if ¬ (0 ≤ target ∧ target < (nq : Int)) then throw .value
  let circ : Circ K := Circ.new (2 * nq)
  let circ ← circ.add (sqCirc c .H) (2 * target) false
  let g ← cz
  let circ ← circ.add g 0 false
  let circ ← circ.add (sqCirc c .H) (2 * target) false
  (Circ.new (2 * nq)).add circ 0 true

def CNOT (c : GC K) (target : Int) : Except Err (Circ K) := conjH c 2 (CZ c) target

/-- `u_ns` of `CZ_Heralded` -/
def uNS (c : GC K) : Nat → Nat → K := fun r k =>
  match r, k with
  | 0, 0 => 1 + -c.s2 | 0, 1 => c.q4i | 0, 2 => c.w
  | 1, 0 => c.q4i | 1, 1 => c.half | 1, 2 => c.half + -c.rh
  | 2, 0 => c.w | 2, 1 => c.half + -c.rh | 2, 2 => c.s2 + -c.half
  | _, _ => 0

/-- `swaps = {2: 0, 0: 1, 1: 2, 5: 7, 7: 6, 6: 5}` -/
def czhSwaps : Dict := [(2, 0), (0, 1), (1, 2), (5, 7), (7, 6), (6, 5)]

/-- `CZ_Heralded.__init__`: `u_perm2 @ u_bs @ u_a @ u_bs @ u_perm1` -/
def czhUnitary (c : GC K) : M K :=
  let ua : M K := M.ofFn 8 fun r k =>
    let v :=
      if 1 ≤ r ∧ r < 4 ∧ 1 ≤ k ∧ k < 4 then uNS c (3 - r) (3 - k)      -- np.flip(u_ns)
      else if 4 ≤ r ∧ r < 7 ∧ 4 ≤ k ∧ k < 7 then uNS c (r - 4) (k - 4)
      else if r = k then 1 else 0
    if k = 3 then -v else v                                              -- u_a[:, 3] = -u_a[:, 3]
  let ubs : M K := M.ofFn 8 fun r k =>
    if (r = 3 ∧ k = 3) ∨ (r = 4 ∧ k = 4) then c.rh
    else if (r = 3 ∧ k = 4) ∨ (r = 4 ∧ k = 3) then c.i * c.rh
    else if r = k then 1 else 0
  let p1 : M K := permMat czhSwaps 8
  let p2 : M K := p1.transpose                                           -- conj(u_perm1.T), real
  (((p2.mul ubs).mul ua).mul ubs).mul p1

def CZH (c : GC K) : Except Err (Circ K) := do
  let un := unitaryCirc (czhUnitary c)
  let un ← un.herald 0 0 0
  let un ← un.herald 1 1 1
  let un ← un.herald 1 6 6
  let un ← un.herald 0 7 7
  (Circ.new 4).add un 0 true

def CNOTH (c : GC K) (target : Int) : Except Err (Circ K) := conjH c 2 (CZH c) target

/-- Python dict literal `{k1: v1, …}` with integer keys: later value wins, first position kept -/
def dictLit : List (Int × Int) → List (Int × Int)
  | [] => []
  | p :: t =>
    let rest := dictLit t
    -- the value of key p.1 is the last one written
    let v := match (t.reverse.find? (·.1 == p.1)) with
      | some q => q.2
      | none => p.2
    (p.1, v) :: rest.filter (·.1 != p.1)

/-- `SWAP(qubit_1, qubit_2)`; the arguments are the tuples as lists of integers
(`TypeError` for non-integers is not modelled: the model's inputs are integers) -/
def SWAP (q1 q2 : List Int) : Except Err (Circ K) := do
  match q1, q2 with
  | [a0, a1], [b0, b1] =>
    let modes := [a0, a1, b0, b1]
    let nModes := modes.foldl max a0 + 1
    -- `Circuit(n_modes)` itself accepts any integer; a non-positive size fails at the range check
    let circ : Circ K := Circ.new nModes.toNat
    circ.modeSwaps (dictLit [(a0, b0), (b0, a0), (a1, b1), (b1, a1)])
  | _, _ => throw .value

/-! ### three-qubit gates (three_qubit_gates.py) -/

/-- `CCZ.__init__`: `u_a` (10 × 10), row by row as written in the source -/
def cczEntry (c : GC K) : Nat → Nat → K := fun r k =>
  let i := c.i
  let a := c.s3i                        -- 3**-0.5
  let b := i * (c.s2 * c.s3i)           -- 1j*(2/3)**0.5
  match r, k with
  | 0, 0 => a | 0, 3 => b
  | 1, 1 => a | 1, 5 => b
  | 2, 2 => -a | 2, 7 => c.rh | 2, 8 => -(i * (c.rh * c.s3i))
  | 3, 0 => -b | 3, 3 => -a
  | 4, 2 => -(i * (c.s2 * c.third)) | 4, 4 => -a | 4, 7 => -(i * c.s3i) | 4, 8 => c.third
  | 5, 1 => -b | 5, 5 => -a
  | 6, 6 => i * (c.half * c.rh) | 6, 9 => i * (c.s7 * (c.half * c.rh))
  | 7, 2 => -(i * c.s3i) | 7, 4 => c.rh | 7, 7 => -(i * (c.half * c.rh))
  | 7, 8 => -(c.half * (c.rh * c.s3i))
  | 8, 2 => -(i * c.third) | 8, 4 => -(c.rh * c.s3i) | 8, 7 => i * (c.half * (c.rh * c.s3i))
  | 8, 8 => -(ofN 7 * (c.half * (c.third * c.rh)))
  | 9, 6 => -(c.s7 * (c.half * c.rh)) | 9, 9 => c.half * c.rh
  | _, _ => 0

def cczUnitary (c : GC K) : M K := M.ofFn 10 (cczEntry c)

def CCZ (c : GC K) : Except Err (Circ K) := do
  let un := unitaryCirc (cczUnitary c)
  let un ← un.herald 0 0 0
  let un ← un.herald 0 1 1
  let un ← un.herald 0 8 8
  let un ← un.herald 0 9 9
  (Circ.new 6).add un 0 true

def CCNOT (c : GC K) (target : Int) : Except Err (Circ K) := conjH c 3 (CCZ c) target

end

/-! ### the named gates (specification side): action on computational basis bit strings,
first bit = first qubit (lowest modes) -/

def flipAt : Nat → List Bool → List Bool
  | _, [] => []
  | 0, b :: t => (!b) :: t
  | n + 1, b :: t => b :: flipAt n t

/-- all bits except position `t` are set -/
def othersSet (t : Nat) (bs : List Bool) : Bool :=
  (bs.zipIdx.all fun (b, k) => k == t || b)

/-- `C…CNOT` on `bs` with target `t`: flip the target iff every other qubit is 1 -/
def cnotAct (t : Nat) (bs : List Bool) : List Bool := if othersSet t bs then flipAt t bs else bs

/-- sign of `C…CZ`: `-1` iff every qubit is 1 -/
def czSign (bs : List Bool) : Int := if bs.all id then -1 else 1

/-- named matrix entry `⟨out| CZ-type |in⟩` -/
def namedCZ (o i : List Bool) : Int := if o = i then czSign i else 0
/-- named matrix entry `⟨out| CNOT-type with target t |in⟩` -/
def namedCNOT (t : Nat) (o i : List Bool) : Int := if o = cnotAct t i then 1 else 0
/-- named matrix entry of the two-qubit SWAP -/
def namedSWAP (o i : List Bool) : Int := if o = i.reverse then 1 else 0

/-! ### amplitude tables -/

section
variable [Add K] [Mul K] [Neg K] [Zero K] [One K]

/-- `G · k` for a named-matrix entry `G ∈ {0, 1, -1}` -/
def scaleBy (k : K) (g : Int) : K := if g = 0 then 0 else if g = 1 then k else -k

/-- the heralded (unnormalised = normalised, all occupations ≤ 1 on the qubit subspace) amplitude
of a constructed gate between user states -/
def gateAmp (i : K) (c : Circ K) (ins outs : List Nat) : K :=
  QF.permAmp (c.Ufull i).get c.n c.inHer c.outHer ins outs

/-- executable form of the table statement `HasTable` (LW/Proofs/C13.lean): the constructor
succeeds with `2·nq` user modes, and from every dual-rail basis input the amplitude to every
dual-rail output is `k ×` the named entry; with `leakFree`, the amplitude to every other state of
the user modes with the same photon number (= every other output the heralds accept) is 0 -/
def hasTableB [Eqv K] (i : K) (g : Except Err (Circ K)) (nq : Nat) (k : K)
    (G : List Bool → List Bool → Int) (leakFree : Bool) : Bool :=
  match g with
  | .error _ => false
  | .ok c =>
    (c.n - c.inHer.length == 2 * nq) &&
    (QF.bitStrings nq).all fun ib =>
      ((QF.bitStrings nq).all fun ob =>
        Eqv.eqv (gateAmp i c (QF.dualRail ib) (QF.dualRail ob)) (scaleBy k (G ob ib))) &&
      (!leakFree || (QF.fockStates (2 * nq) nq).all fun o =>
        QF.isDualRail o || Eqv.eqv (gateAmp i c (QF.dualRail ib) o) 0)
end

end LW.Gates
