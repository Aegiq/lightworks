/-
  LW.Proofs.TomoRun — `ProcessTomography._run_required_experiments` (`runExperiments`) when the
  callback returns, input-major, one table per requested setting: slicing the flat result list into
  the blocks of the inputs, and reading each measurement string's table back by its setting.
-/
import LW.Model.ProcTomo
import LW.Proofs.ExceptLemmas
import LW.Proofs.AssocList

namespace LW.Tomo

variable {K : Type}

/-- slicing a concatenation of equally long blocks (`results[per*i : per*(i+1)]`) -/
theorem mapM_blocks {α β γ : Type} (blk : α → List β) (per : Nat) (hper : ∀ a, (blk a).length = per)
    (mk : α → List β → γ) (R : List β) (l : List α) (P : List β) (k0 : Nat)
    (hP : P.length = per * k0) (hR : R = P ++ l.flatMap blk) :
    (l.zipIdx k0).mapM (fun x : α × Nat =>
        if ((R.drop (per * x.2)).take per).length ≠ per then (.error .value : Except Err γ)
        else .ok (mk x.1 ((R.drop (per * x.2)).take per)))
      = .ok (l.map fun a => mk a (blk a)) := by
  induction l generalizing P k0 with
  | nil => rfl
  | cons a t ih =>
    have hs : (R.drop (per * k0)).take per = blk a := by
      rw [hR, List.flatMap_cons, List.drop_left' hP, List.take_left' (hper a)]
    rw [List.zipIdx_cons, List.mapM_cons, hs, if_neg (by simp [hper a]),
      ih (P ++ blk a) (k0 + 1) (by rw [List.length_append, hP, hper a, Nat.mul_succ])
        (by rw [hR, List.flatMap_cons, List.append_assoc])]
    rfl

theorem lookup_zip_map {β : Type} (f : Meas → β) (order : List Meas) {s : Meas} (hs : s ∈ order) :
    lookup (order.zip (order.map f)) s = some (f s) := by
  rw [← List.map_prod_left_eq_zip]
  exact (Assoc.find_map_pair order f s).trans (if_pos hs)

theorem find_key_map {κ β : Type} [BEq κ] [LawfulBEq κ] [DecidableEq κ] (f : κ → β) (keys : List κ) {key : κ}
    (hk : key ∈ keys) :
    (keys.map fun k => (k, f k)).find? (fun e => e.1 == key) = some (key, f key) := by
  obtain ⟨p, hp, h2⟩ := Option.map_eq_some_iff.mp ((Assoc.find_map_pair keys f key).trans (if_pos hk))
  have h1 : p.1 = key := beq_iff_eq.mp (List.find?_some (p := fun x : κ × β => x.1 == key) hp)
  rw [hp]
  exact congrArg some (Prod.ext h1 h2)

theorem runExperiments_tables (n : Nat) (inputs : List Ins) (order : List Meas)
    (g : Ins → Meas → Res K) (hcover : ∀ c ∈ tomoMeasurements n, c.map toZ ∈ order) :
    runExperiments n inputs order (inputs.flatMap fun ins => order.map (g ins))
      = .ok (inputs.flatMap fun ins =>
          (tomoMeasurements n).map fun meas => ((ins, meas), g ins (meas.map toZ))) := by
  unfold runExperiments
  have h1 := mapM_blocks (fun ins => order.map (g ins)) order.length (fun _ => by simp)
    (fun (ins : Ins) (slice : List (Res K)) => (ins, order.zip slice))
    (inputs.flatMap fun ins => order.map (g ins)) inputs [] 0 rfl rfl
  have h2 : (inputs.map fun a => (a, order.zip (order.map (g a)))).mapM
      (fun (x : Ins × List (Meas × Res K)) =>
        (tomoMeasurements n).mapM fun meas =>
          match lookup x.2 (meas.map toZ) with
          | some r => (pure ((x.1, meas), r) : Except Err ((Ins × Meas) × Res K))
          | none => throw Err.other)
      = .ok ((inputs.map fun a => (a, order.zip (order.map (g a)))).map
          fun (x : Ins × List (Meas × Res K)) =>
          (tomoMeasurements n).map fun meas => ((x.1, meas), g x.1 (meas.map toZ))) := by
    apply Except.mapM_ok_of_forall
    intro x hx
    obtain ⟨a, _, rfl⟩ := List.mem_map.mp hx
    apply Except.mapM_ok_of_forall
    intro meas hm
    simp only [lookup_zip_map (g a) order (hcover meas hm)]
    rfl
  show (do
    let sorted ← (inputs.zipIdx).mapM _
    let full ← sorted.mapM _
    pure full.flatten : Except Err _) = _
  -- `erw`: the loop bodies of the model are pattern-matching lambdas `fun (ins, idx) => …`; they
  -- agree with the projections of `h1`, `h2` only after the match is unfolded
  erw [h1]
  simp only [bind, Except.bind]
  erw [h2]
  simp only [List.map_map, List.flatMap_def]
  rfl

end LW.Tomo
