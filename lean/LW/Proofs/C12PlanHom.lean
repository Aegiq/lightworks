/-
  LW.Proofs.C12PlanHom — the plan side of the converter's proof: what a placement puts where
  (`placedSub`, `placedMode`, `placedQ`, `placedHer`, `PlacedOk`), the homomorphism of a placement
  through the window maps `fwdS` / `invS'` of `Circuit.add` (`placedHom`), and of a plan (`planHom`).
-/
import LW.Proofs.C12FullMainDefs
import LW.Proofs.C02SemRelabel

namespace LW.C12F

open LW LW.QC LW.Gates LW.QF LW.Proofs.C02Sem

/-- `fwdS m q P` / `invS' m q P` (C12FullPlanDefs) are `winFwd q m P` / `winInv q m P` of
C02SemRelabel, with the arguments in another order; they unfold to the same terms -/
theorem pinj_invS' (m q P a : ℕ) (hm : m + q ≤ P) :
    PInj (q + a) (P + a) (fwdS m q P) (invS' m q P) :=
  pinj_win q m P a hm

variable {R : Type} [CommRing R]

/-- herald photon numbers of a placement: those of `herCZ`, `herCZH`, `herCCZ` (C13Struct) in key
order, spelt as in `instrHer` (C12FullMainDefs), which they are rewritten to in `placeInstr_hom` -/
def placedHer : Placed → List ℕ
  | .two _ ps _ _ => if ps then [0, 0] else [0, 1, 1, 0]
  | .three _ _ _ => [0, 0, 0, 0]
  | _ => []

/-- number of ports of the sub-circuit of a placement -/
def placedQ : Placed → ℕ
  | .single _ _ _ => 2
  | .swap a b => 2 * max a b + 2
  | .two _ _ _ _ => 4
  | .three _ _ _ => 6

def placedMode : Placed → ℕ
  | .single _ _ m => m
  | .swap _ _ => 0
  | .two _ _ _ m => m
  | .three _ _ m => m

def placedSub (c : GC R) (par : ℕ → R × R) : Placed → Circ R
  | .single name idx _ => sqCirc c (sqOfName name (par idx))
  | .swap a b => swapCirc R a b
  | .two cx ps t _ => twoCirc c cx ps t
  | .three ccx t _ => threeCirc c ccx t

/-- homomorphism of a placement whose heralds start at mode `P` -/
noncomputable def placedHom (c : GC R) (par : ℕ → R × R) (p : Placed) (P : ℕ) : Hom R :=
  placeHomG (circHom c.i (placedSub c par p)) (fwdS (placedMode p) (placedQ p) P)
    (invS' (placedMode p) (placedQ p) P) (P + (placedHer p).length)

noncomputable def planHom (c : GC R) (par : ℕ → R × R) : List Placed → ℕ → Hom R
  | [], _ => AlgHom.id R _
  | p :: ps, P => (planHom c par ps (P + (placedHer p).length)).comp (placedHom c par p P)

def planHer : List Placed → List ℕ
  | [] => []
  | p :: ps => placedHer p ++ planHer ps

def PlacedOk (nq : ℕ) : Placed → Prop
  | .single _ _ m => m + 2 ≤ 2 * nq
  | .swap a b => a ≠ b ∧ a < nq ∧ b < nq
  | .two cx _ t m => t < 2 ∧ (cx = false → t = 0) ∧ m + 4 ≤ 2 * nq
  | .three ccx t m => t < 3 ∧ (ccx = false → t = 0) ∧ m + 6 ≤ 2 * nq

theorem planHom_append (c : GC R) (par : ℕ → R × R) (p1 p2 : List Placed) (P : ℕ) :
    planHom c par (p1 ++ p2) P =
      (planHom c par p2 (P + (planHer p1).length)).comp (planHom c par p1 P) := by
  induction p1 generalizing P with
  | nil => simp [planHom, planHer]
  | cons p ps ih =>
    simp only [List.cons_append, planHom, planHer, List.length_append]
    rw [ih, AlgHom.comp_assoc, Nat.add_assoc]

theorem planHer_append (p1 p2 : List Placed) : planHer (p1 ++ p2) = planHer p1 ++ planHer p2 := by
  induction p1 with
  | nil => rfl
  | cons p ps ih => simp [planHer, ih]

end LW.C12F
