/-
  LW.Proofs.CircuitWf — well-formedness predicates on components (the documented parameter
  ranges of C01, expressed on the model's algebraic inputs, DESIGN §3.1).
-/
import LW.Proofs.MatAlg

namespace LW

variable {K : Type} [CommRing K] [StarRing K]

/-- a swap dictionary is a permutation of a set of modes `< n` -/
def SwapsOk (n : Nat) (σ : Dict) : Prop :=
  σ.keys.Nodup ∧ σ.keys.Perm σ.vals ∧ ∀ k ∈ σ.keys, k < n

/-- the documented parameter ranges, on `n` real modes -/
def Prim.Wf (n : Nat) : Prim K → Prop
  | .bs m1 m2 c s _ => m1 < n ∧ m2 < n ∧ m1 ≠ m2 ∧ star c = c ∧ star s = s ∧ c * c + s * s = 1
  | .ps m p => m < n ∧ p * star p = 1
  | .loss m a b => m < n ∧ star a = a ∧ star b = b ∧ a * a + b * b = 1
  | .barrier ms => ∀ m ∈ ms, m < n
  | .swaps σ => SwapsOk n σ
  | .unitary m u => m + u.n ≤ n ∧ IsUnitary u

def Comp.Wf (n : Nat) : Comp K → Prop
  | .prim p => p.Wf n
  | .group cs _ _ _ _ => ∀ p ∈ cs, p.Wf n

def SpecWf (n : Nat) (spec : List (Comp K)) : Prop := ∀ c ∈ spec, c.Wf n

/-- `i` behaves as the imaginary unit -/
structure IsImagUnit (i : K) : Prop where
  sq : i * i = -1
  star : star i = -i

end LW
