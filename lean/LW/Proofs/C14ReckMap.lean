/-
  LW.Proofs.C14ReckMap — `Reck.map` end to end: accepted, heralds carried over, well-formed spec
  (hence a unitary `U_full` for every valid error model), and `U` equal to the original for the
  default error model.
-/
import LW.Proofs.C14Mesh
import LW.Proofs.C14Loop

open Matrix

namespace LW

/-- on exact inputs the two tolerance checks of `reck_decomposition` accept what they are meant to
accept: a unitary matrix, a matrix whose off-diagonal entries vanish -/
structure Reck.ChecksOk {K : Type} [CommRing K] [StarRing K] (N : Reck.Num K) : Prop where
  unitary_accepts : ∀ V : M K, V.toMatN V.n ∈ Matrix.unitaryGroup (Fin V.n) K → N.isUnitary V = true
  null_accepts : ∀ V : M K, (∀ r k : Fin V.n, r ≠ k → V.toMatN V.n r k = 0) → N.isNull V = true

/-- the values an error model returns are valid component parameters: reflectivities and losses
as real `(cos, sin)` pairs, phase offsets on the unit circle -/
structure Reck.EMOk {K : Type} [CommRing K] [StarRing K] (em : Reck.EM K) : Prop where
  bs1 : ∀ a j, star (em.bs1 a j).1 = (em.bs1 a j).1 ∧ star (em.bs1 a j).2 = (em.bs1 a j).2 ∧
    (em.bs1 a j).1 * (em.bs1 a j).1 + (em.bs1 a j).2 * (em.bs1 a j).2 = 1
  bs2 : ∀ a j, star (em.bs2 a j).1 = (em.bs2 a j).1 ∧ star (em.bs2 a j).2 = (em.bs2 a j).2 ∧
    (em.bs2 a j).1 * (em.bs2 a j).1 + (em.bs2 a j).2 * (em.bs2 a j).2 = 1
  loss : ∀ a j la lb, em.loss a j = some (la, lb) →
    star la = la ∧ star lb = lb ∧ la * la + lb * lb = 1
  offTheta : ∀ a j, em.offTheta a j * star (em.offTheta a j) = 1
  offPhi : ∀ a j, em.offPhi a j * star (em.offPhi a j) = 1
  offEnd : ∀ k, em.offEnd k * star (em.offEnd k) = 1
  flags : ∀ a j, em.refl1Ok a j = true ∧ em.refl2Ok a j = true ∧ em.lossOk a j = true

end LW

namespace LW.Proofs.C14

open LW.Reck LW.Proofs.C01Aux

variable {K : Type} [CommRing K] [StarRing K]

theorem unit_mul {p o : K} (hp : p * star p = 1) (ho : o * star o = 1) :
    (p * o) * star (p * o) = 1 := by
  rw [star_mul']
  linear_combination (o * star o) * hp + ho

theorem EMOk_ideal {h : K} (hh : 2 * (h * h) = 1) (hhr : star h = h) : EMOk (EM.ideal h) := by
  refine ⟨fun _ _ => ⟨hhr, hhr, ?_⟩, fun _ _ => ⟨hhr, hhr, ?_⟩, ?_, ?_, ?_, ?_, ?_⟩
  · simp only [EM.ideal]; linear_combination hh
  · simp only [EM.ideal]; linear_combination hh
  · intro a j la lb h; simp [EM.ideal] at h
  · intro a j; simp [EM.ideal]
  · intro a j; simp [EM.ideal]
  · intro k; simp [EM.ideal]
  · intro a j; exact ⟨rfl, rfl, rfl⟩

theorem cellPrims_wf {i : K} (hi : IsImagUnit i) {em : EM K} (hem : EMOk em) {n j : Nat}
    (hj : j + 1 < n) {x : Cell K} (hx : CellOk i x) (a : Nat) :
    ∀ p ∈ cellPrims em n x a j, p.Wf n := by
  have hm1 : n - j - 2 < n := by omega
  have hm2 : n - j - 2 + 1 < n := by omega
  obtain ⟨b11, b12, b13⟩ := hem.bs1 a j
  obtain ⟨b21, b22, b23⟩ := hem.bs2 a j
  intro p hp
  simp only [cellPrims, List.mem_append, List.mem_singleton] at hp
  rcases hp with rfl | rfl | hp | rfl | hp
  · intro m hm; simp at hm; omega
  · exact ⟨hm2, unit_mul hx.p_unit (hem.offPhi a j)⟩
  · cases List.mem_singleton.mp hp
    exact ⟨hm1, hm2, by omega, b11, b12, b13⟩
  · exact ⟨hm1, unit_mul (unit_mul (w_unit hi hx) (w_unit hi hx)) (hem.offTheta a j)⟩
  · rcases Circ.mem_bsPrims hp with rfl | ⟨la, lb, hl, hp⟩
    · exact ⟨hm1, hm2, by omega, b21, b22, b23⟩
    · obtain ⟨l1, l2, l3⟩ := hem.loss a j la lb hl
      rcases hp with rfl | rfl
      exacts [⟨hm1, l1, l2, l3⟩, ⟨hm2, l1, l2, l3⟩]

theorem Realises.specWf {i : K} (hi : IsImagUnit i) {em : EM K} (hem : EMOk em) {n : Nat}
    {cs : List ((Nat × Nat) × Cell K)} {ends : List K} {W : Matrix (Fin n) (Fin n) K}
    (hR : Realises i n cs ends W) : SpecWf n (mapSpec em n cs ends) := by
  rw [mapSpec_eq]
  refine specWf_prims fun p hp => ?_
  simp only [mapPrims, List.mem_append, List.mem_flatMap, List.mem_singleton, List.mem_map,
    List.mem_range] at hp
  rcases hp with ⟨e, he, hp⟩ | rfl | ⟨k, hk, rfl⟩
  · exact cellPrims_wf hi hem (hR.cells e he).1 (hR.cells e he).2 e.1.1 p hp
  · exact fun m hm => List.mem_range.mp hm
  · exact ⟨by omega, unit_mul (hR.ends_unit k hk) (hem.offEnd k)⟩

theorem decomp_ok {n : Nat} {i : K} (hi : IsImagUnit i) {N : Num K} (hN : NumOk i N)
    (hC : ChecksOk N) (W : M K) (hW : W.n = n)
    (hWu : W.toMatN n ∈ Matrix.unitaryGroup (Fin n) K) :
    reckDecomposition N i W =
      .ok (((steps n).zip (cellsGo N i (steps n) W)).map keyed,
        (List.range n).map fun k => N.ang ((finalGo N i (steps n) W).get k k)) ∧
    Realises i n ((steps n).zip (cellsGo N i (steps n) W))
      ((List.range n).map fun k => N.ang ((finalGo N i (steps n) W).get k k)) (W.toMatN n) := by
  subst hW
  obtain ⟨h2, hR⟩ := loop_realises hi hN W rfl hWu
  refine ⟨?_, hR⟩
  have hnull : N.isNull (finalGo N i (steps W.n) W) = true := by
    apply hC.null_accepts
    rw [finalGo_n]
    exact h2
  unfold reckDecomposition decompLoop
  rw [hC.unitary_accepts W hWu, foldl_decompStep]
  simp [hnull]

omit [CommRing K] [StarRing K] in
theorem lookup_of_mem {pm : List (Key × Cell K)} (hn : (pm.map (·.1)).Nodup) {k : Key}
    {x : Cell K} (h : (k, x) ∈ pm) : lookup pm k = .ok x := by
  have := Assoc.find_of_mem hn h
  unfold lookup
  cases hf : pm.find? (fun e => e.1 == k) with
  | none => rw [hf] at this; cases this
  | some e => rw [hf] at this; exact congrArg Except.ok (Option.some.inj this)

theorem steps_nodup (n : Nat) : (steps n).Nodup := by
  unfold steps stepsRow
  rw [List.nodup_flatMap]
  refine ⟨fun a _ => (List.nodup_range).map (fun j j' h => (Prod.mk.inj h).2), ?_⟩
  refine (List.nodup_range).pairwise_of_forall_ne ?_
  intro a _ b _ hab x hx1 hx2
  obtain ⟨j, _, rfl⟩ := List.mem_map.mp hx1
  obtain ⟨j', _, h⟩ := List.mem_map.mp hx2
  exact hab (Prod.mk.inj h).1.symm

omit [CommRing K] [StarRing K] in
theorem keys_nodup {n : Nat} (cs : List ((Nat × Nat) × Cell K))
    (hsteps : cs.map Prod.fst = steps n) : ((cs.map keyed).map (·.1)).Nodup := by
  have h1 : (cs.map keyed).map (·.1) = (cs.map Prod.fst).map fun aj => (aj.2 + 2 * aj.1, aj.2) := by
    simp [keyed, List.map_map, Function.comp_def]
  rw [h1, hsteps]
  refine (steps_nodup n).map fun a b h => ?_
  have := Prod.mk.inj h
  ext <;> omega

/-- whenever `reck_decomposition` returns, for the loop's steps, settings that realise some matrix,
`Reck.map` is accepted and builds `mapSpec` from them — for every valid error model, whatever the
numerics (no `NumOk`, no `ChecksOk`) -/
theorem map_of_realises {i : K} (hi : IsImagUnit i) {N : Num K} {em : EM K} (hem : EMOk em)
    (src : Src K) {cs : List ((Nat × Nat) × Cell K)} {ends : List K}
    {W : Matrix (Fin src.n) (Fin src.n) K}
    (hdec : reckDecomposition N i (flip src.U) = .ok (cs.map keyed, ends))
    (hsteps : cs.map Prod.fst = steps src.n) (hlen : ends.length = src.n)
    (hR : Realises i src.n cs ends W) (hH : HeraldsOk src.n src.inHer src.outHer) :
    ∃ c', map N em i src = .ok c' ∧ c'.n = src.n ∧ c'.internal = [] ∧
      c'.inHer = src.inHer ∧ c'.outHer = src.outHer ∧
      c'.spec = mapSpec em src.n cs ends ∧ SpecWf c'.n c'.spec := by
  obtain ⟨n, U, inH, outH⟩ := src
  simp only at hdec hsteps hlen hR hH ⊢
  have hcs : ∀ e ∈ cs, e.1.2 + 1 < n ∧ lookup (cs.map keyed) (keyed e).1 = .ok e.2 :=
    fun e he => ⟨(hR.cells e he).1,
      lookup_of_mem (keys_nodup cs hsteps) (List.mem_map.mpr ⟨e, he, rfl⟩)⟩
  have hb := build_appends em hem.flags (cs.map keyed) cs ends hlen hcs
  obtain ⟨c', hc1, hc2, hc3, hc4, hc5, hc6⟩ := foldlM_mapHerald (n := n) inH outH
    ((Circ.new n : Circ K).addPrims (mapPrims em n cs ends)) rfl rfl hH.len hH.counts
    (by simpa [Circ.new, Circ.addPrims, Dict.keys] using hH.in_nodup)
    (by simpa [Circ.new, Circ.addPrims, Dict.keys] using hH.out_nodup) hH.in_lt hH.out_lt
  have hl : (inH.length != outH.length) = false := by simp [hH.len]
  have hspec : c'.spec = mapSpec em n cs ends := by
    rw [hc3, mapSpec_eq]; exact List.nil_append _
  refine ⟨c', ?_, hc2, hc4, hc5.trans (List.nil_append _), hc6.trans (List.nil_append _), hspec, ?_⟩
  · refine Eq.trans ?_ hc1
    refine Eq.trans ?_ (hb.bind_eq (c := Circ.new n) rfl rfl fun c =>
      (inH.zip outH).foldlM mapHerald c)
    unfold Reck.map
    simp only [hdec, ← hsteps, hl, bind_assoc]
    rfl
  · rw [hc2, hspec]
    exact hR.specWf hi hem

theorem map_ok {i : K} (hi : IsImagUnit i) {N : Num K} (hN : NumOk i N) (hC : ChecksOk N)
    {em : EM K} (hem : EMOk em) (src : Src K) (hn : src.U.n = src.n)
    (hU : src.U.toMatN src.n ∈ Matrix.unitaryGroup (Fin src.n) K)
    (hH : HeraldsOk src.n src.inHer src.outHer) :
    ∃ c', map N em i src = .ok c' ∧ c'.n = src.n ∧ c'.internal = [] ∧
      c'.inHer = src.inHer ∧ c'.outHer = src.outHer ∧
      c'.spec = mapSpec em src.n ((steps src.n).zip (cellsGo N i (steps src.n) (flip src.U)))
        ((List.range src.n).map fun k =>
          N.ang ((finalGo N i (steps src.n) (flip src.U)).get k k)) ∧
      SpecWf c'.n c'.spec := by
  obtain ⟨hdec, hR⟩ := decomp_ok hi hN hC (flip src.U) hn (flip_unitary src.U hn hU)
  exact map_of_realises hi hem src hdec (List.map_fst_zip (by rw [cellsGo_length])) (by simp) hR hH

theorem map_U_eq {i h : K} (hi : IsImagUnit i) (hh : 2 * (h * h) = 1) (hhr : star h = h)
    {N : Num K} (hN : NumOk i N) (hC : ChecksOk N) (src : Src K) (hn : src.U.n = src.n)
    (hU : src.U.toMatN src.n ∈ Matrix.unitaryGroup (Fin src.n) K)
    (hH : HeraldsOk src.n src.inHer src.outHer) :
    ∃ c', Reck.map N (EM.ideal h) i src = .ok c' ∧ c'.n = src.n ∧ c'.inHer = src.inHer ∧
      c'.outHer = src.outHer ∧
      ∀ r k, r < src.n → k < src.n → (c'.U i).get r k = src.U.get r k := by
  obtain ⟨hdec, hR⟩ := decomp_ok hi hN hC (flip src.U) hn (flip_unitary src.U hn hU)
  obtain ⟨c', h1, h2, _, h4, h5, h6, hwf⟩ := map_of_realises hi (EMOk_ideal hh hhr) src hdec
    (List.map_fst_zip (by rw [cellsGo_length])) (by simp) hR hH
  refine ⟨c', h1, h2, h4, h5, fun r k hr hk => ?_⟩
  have hm : (c'.U i).toMatN src.n = src.U.toMatN src.n := by
    rw [show c'.U i = orderedProd i c'.n (flattenSpec c'.spec) from
      LW.Proofs.C01.U_eq_orderedProd i c'.n c'.spec hwf, h2, toMatN_orderedProd, h6, mapSpec_eq,
      flattenSpec_map_prim]
    exact hR.revProd_mapPrims hi hh hn
  exact congrFun (congrFun hm ⟨r, hr⟩) ⟨k, hk⟩

end LW.Proofs.C14
