/-
  C17 — Result containers index consistently and mappings conserve weight.

  The property theorems and their non-vacuity examples; the lemmas they rest on are in
  LW/Proofs/C17*.lean.  Model: LW.Model.Result (`SimResult`, `SampResult`, `thr`, `par`, `accum`,
  `recombine`).  Values live in any additive commutative monoid `V` (ℝ, ℂ, ℕ, …); states are
  arbitrary integer lists; there is no bound on the number of inputs, outputs or modes; the
  statements about mapped results hold for EVERY iteration order of the Python set of outputs.
-/
import LW.Proofs.C17Result

namespace LW.C17

open LW.SV LW.Res

variable {V : Type}

/-- the constructor accepts exactly a valid result type with matching shape; every refusal is a
ResultCreationError (`.other`); an accepted result returns its inputs, outputs and array as given -/
theorem sim_new_ok_iff (rtype : Option RType) (A : Arr V) (ins outs : List St) :
    (∃ r, SimResult.new rtype A ins outs = .ok r) ↔ rtype.isSome ∧ ins.length = A.r ∧ outs.length = A.c := by
  cases rtype with
  | none => exact ⟨fun ⟨_, h⟩ => (nomatch h), fun h => (Bool.false_ne_true h.1).elim⟩
  | some t =>
    rw [SimResult.new_some]
    split
    · exact ⟨fun _ => ⟨rfl, ‹_›⟩, fun _ => ⟨_, rfl⟩⟩
    · exact ⟨fun ⟨_, h⟩ => (nomatch h), fun h => absurd h.2 ‹_›⟩

theorem sim_new_error (rtype : Option RType) (A : Arr V) (ins outs : List St) (e : Err)
    (h : SimResult.new rtype A ins outs = .error e) : e = .other := by
  cases rtype with
  | none => exact (Except.error.inj h).symm
  | some t =>
    rw [SimResult.new_some] at h
    split at h
    · cases h
    · exact (Except.error.inj h).symm

theorem sim_new_fields (t : RType) (A : Arr V) (ins outs : List St) (r : SimResult V)
    (h : SimResult.new (some t) A ins outs = .ok r) :
    r.rtype = t ∧ r.inputs = ins ∧ r.outputs = outs ∧ r.array = A ∧ r.dict = buildDict ins outs A ∧
    ins.length = A.r ∧ outs.length = A.c := by
  rw [SimResult.new_some] at h
  split at h
  · cases h
    exact ⟨rfl, rfl, rfl, rfl, rfl, ‹_›⟩
  · cases h

example : ∃ r, SimResult.new (some .probability) (⟨1, 2, [[1, 2]]⟩ : Arr Nat) [⟨[1, 0]⟩] [⟨[2, 0]⟩, ⟨[1, 1]⟩] = .ok r :=
  (sim_new_ok_iff _ _ _ _).mpr ⟨rfl, rfl, rfl⟩

/-- Indexing coherence: pair indexing `r[in, out]`, nested indexing `r[in][out]` (also `r[in, None]`)
and the array agree at every position `(i, j)` whose states do not occur again later in the lists —
i.e. at EVERY position when the input and output lists are duplicate-free -/
theorem indexing_coherent [Zero V] (t : RType) (A : Arr V) (hA : A.WF) (ins outs : List St) (r : SimResult V)
    (h : SimResult.new (some t) A ins outs = .ok r) (i j : Nat) (hi : i < ins.length) (hj : j < outs.length)
    (hli : ∀ i' (h' : i' < ins.length), i < i' → ins[i'] ≠ ins[i])
    (hlj : ∀ j' (h' : j' < outs.length), j < j' → outs[j'] ≠ outs[j]) :
    ∃ row, r.getItem (.st ins[i]) = .ok (.row row) ∧
      r.getItem (.tup [.st ins[i], .none]) = .ok (.row row) ∧
      row.get? outs[j] = some (A.get i j) ∧
      r.getItem (.tup [.st ins[i], .st outs[j]]) = .ok (.val (A.get i j)) ∧
      r.array.get i j = A.get i j := by
  obtain ⟨_, _, _, harr, hdict, hl1, hl2⟩ := sim_new_fields t A ins outs r h
  obtain ⟨h1, h2, hget⟩ := A.get_eq hA i j (by omega) (by omega)
  have hrow : r.dict.get? ins[i] = some (buildRow outs A.a[i]) :=
    hdict ▸ get?_buildDict ins outs A i hi h1 hli
  have hval : (buildRow outs A.a[i]).get? outs[j] = some (A.get i j) :=
    hget ▸ get?_buildRow outs A.a[i] j hj h2 hlj
  exact ⟨_, (SimResult.getItem_st_of_get? hrow).1, (SimResult.getItem_st_of_get? hrow).2, hval,
    SimResult.getItem_pair_of_get? hrow hval, by rw [harr]⟩

example : Arr.WF (⟨1, 2, [[1, 2]]⟩ : Arr Nat) := ⟨rfl, by simp⟩

/-- ORDER: the result's keys are its inputs in order and every row lists the outputs in order -/
theorem indexing_order [Zero V] (t : RType) (A : Arr V) (hA : A.WF) (ins outs : List St) (r : SimResult V)
    (h : SimResult.new (some t) A ins outs = .ok r) (hni : ins.Nodup) (hno : outs.Nodup) :
    r.dict.keys = ins ∧ ∀ p ∈ r.dict, p.2.keys = outs := by
  obtain ⟨_, _, _, _, hdict, hl1, hl2⟩ := sim_new_fields t A ins outs r h
  refine ⟨by rw [hdict, keys_buildDict _ _ _ (hl1.trans hA.1.symm), dedup_of_nodup _ hni], fun p hp => ?_⟩
  obtain ⟨row, hrow, e⟩ := mem_buildDict ins outs A p (hdict ▸ hp)
  rw [e, keys_buildRow outs row (hl2.trans (hA.2 row hrow).symm), dedup_of_nodup _ hno]

/-- subscripts that are refused: unknown input → KeyError, non-State → TypeError, more than two
elements → ValueError, empty tuple → IndexError -/
theorem indexing_refusals [Zero V] (t : RType) (A : Arr V) (ins outs : List St) (r : SimResult V)
    (h : SimResult.new (some t) A ins outs = .ok r) (hl : ins.length = A.a.length) :
    (∀ s, s ∉ ins → r.getItem (.st s) = .error .other) ∧
    r.getItem .bad = .error .type ∧
    (∀ a b c l, r.getItem (.tup (a :: b :: c :: l)) = .error .value) ∧
    (∀ o, r.getItem (.tup [.bad, o]) = .error .type) ∧
    r.getItem (.tup []) = .error .other := by
  obtain ⟨_, _, _, _, hdict, _, _⟩ := sim_new_fields t A ins outs r h
  refine ⟨fun s hs => SimResult.getItem_st_of_not_mem ?_, rfl, fun a b c l => ?_, fun o => ?_, rfl⟩
  · rwa [hdict, keys_buildDict _ _ _ hl, mem_dedup]
  · simp [SimResult.getItem]
  · cases o <;> rfl

/-- Image with summed weights: after the loop an image `g` holds the sum of the weights of all
outputs whose image is `g`; states that are no image are absent; the images appear in order of first
occurrence, each once -/
theorem mapping_is_image_with_summed_weights [AddCommMonoid V] (f : St → St) (row : PD V) :
    (∀ g, (accum f row).get? g =
      if row.any (fun p => decide (f p.1 = g)) then some (imageWeight f row g) else none) ∧
    (accum f row).keys = dedup (row.keys.map f) ∧ (accum f row).keys.Nodup :=
  ⟨get?_accum f row, keys_accum f row, nodup_keys_accum f row⟩

example : accum (thr false) ([(⟨[2, 0]⟩, 5), (⟨[1, 1]⟩, 3), (⟨[3, 0]⟩, 2)] : PD Nat)
    = [(⟨[1, 0]⟩, 7), (⟨[1, 1]⟩, 3)] := rfl

/-- Conservation: the mapped row has the same total -/
theorem row_total_preserved [AddCommMonoid V] (f : St → St) (row : PD V) :
    (accum f row).vals.sum = row.vals.sum := by
  rw [accum_eq, PD.vals, List.map_map]
  exact sum_map_imageWeight f row _ (nodup_dedup _) (image_mem_dedup f row)

/-- Repeated application: mapping by `f` and then by `f'` is mapping by `f' ∘ f` (order included) -/
theorem mapping_compose [AddCommMonoid V] (f f' : St → St) (row : PD V) :
    accum f' (accum f row) = accum (f' ∘ f) row := by
  rw [accum_eq f' (accum f row), accum_eq (f' ∘ f) row, keys_accum, dedup_map_dedup, List.map_map]
  refine List.map_congr_left fun g _ => ?_
  rw [accum_eq]
  exact congrArg _ (imageWeight_map_imageWeight f f' row _ (nodup_dedup _) (image_mem_dedup f row) g)

/-- … in particular the plain mappings are idempotent and an inverted mapping applied twice is the
plain one -/
theorem mapping_idempotent :
    thr false ∘ thr false = thr false ∧ par false ∘ par false = par false ∧
    thr true ∘ thr true = thr false ∧ par true ∘ par true = par false :=
  ⟨fn_comp .threshold .threshold false false, fn_comp .parity .parity false false,
    fn_comp .threshold .threshold true true, fn_comp .parity .parity true true⟩

/-- every image is a state over {0, 1} with the same number of modes -/
theorem mapping_image_binary (k : MapKind) (inv : Bool) (s : St) :
    (k.fn inv s).s.length = s.s.length ∧ ∀ x ∈ (k.fn inv s).s, x = 0 ∨ x = 1 :=
  image_binary k inv s

example : thr true ⟨[2, 0, -1]⟩ = ⟨[0, 1, 1]⟩ ∧ par false ⟨[3, 0, -1]⟩ = ⟨[1, 0, 1]⟩ := ⟨rfl, rfl⟩

/-- amplitudes are refused (ValueError) -/
theorem amplitudes_refused [AddCommMonoid V] (r : SimResult V) (f : St → St) (order : List St → List St)
    (h : r.rtype = .amplitude) : r.applyMapping f order = .error .value := by
  rw [SimResult.applyMapping, if_pos h]

/-- for a probability-typed result the mapping is accepted, for every iteration order of the output
set, and the mapped result IS the result constructed from the same inputs, the collected images and
the array of summed weights -/
theorem sim_mapping_result [AddCommMonoid V] (A : Arr V) (hA : A.WF) (ins outs : List St) (r : SimResult V)
    (h : SimResult.new (some .probability) A ins outs = .ok r) (f : St → St) (order : List St → List St) :
    r.applyMapping f order =
      SimResult.new (some .probability)
        ⟨ins.length, (order (imagesOf (mapDict f r.dict))).length,
          ins.map fun i => (order (imagesOf (mapDict f r.dict))).map fun g => mappedWeight f r i g⟩
        ins (order (imagesOf (mapDict f r.dict))) := by
  obtain ⟨hty, hins, _, _, hdict, hl1, _⟩ := sim_new_fields _ A ins outs r h
  have hk : r.dict.keys = dedup ins := by rw [hdict, keys_buildDict _ _ _ (hl1.trans hA.1.symm)]
  rw [← hins]
  exact r.applyMapping_eq hty (hk ▸ nodup_dedup ins) (fun i hi => by rwa [hk, mem_dedup, ← hins]) f order

theorem sim_mapping_accepted [AddCommMonoid V] (A : Arr V) (hA : A.WF) (ins outs : List St) (r : SimResult V)
    (h : SimResult.new (some .probability) A ins outs = .ok r) (f : St → St) (order : List St → List St) :
    ∃ r', r.applyMapping f order = .ok r' ∧ r'.rtype = .probability ∧ r'.inputs = ins ∧
      r'.outputs = order (imagesOf (mapDict f r.dict)) := by
  rw [sim_mapping_result A hA ins outs r h f order]
  exact ⟨_, (SimResult.new_some ..).trans (if_pos ⟨rfl, rfl⟩), rfl, rfl, rfl⟩

/-- the mapped result returns, by pair indexing and in its array, for input `ins[i]` and image
`uo[j]` the summed weight of that input's outputs whose image is `uo[j]` -/
theorem sim_mapping_values [AddCommMonoid V] (A : Arr V) (hA : A.WF) (ins outs : List St) (r : SimResult V)
    (h : SimResult.new (some .probability) A ins outs = .ok r) (f : St → St) (order : List St → List St)
    (hni : ins.Nodup) (hnu : (order (imagesOf (mapDict f r.dict))).Nodup) :
    ∃ r', r.applyMapping f order = .ok r' ∧
      ∀ i j (hi : i < ins.length) (hj : j < (order (imagesOf (mapDict f r.dict))).length),
        r'.getItem (.tup [.st ins[i], .st (order (imagesOf (mapDict f r.dict)))[j]]) =
          .ok (.val (mappedWeight f r ins[i] (order (imagesOf (mapDict f r.dict)))[j])) ∧
        r'.array.get i j = mappedWeight f r ins[i] (order (imagesOf (mapDict f r.dict)))[j] := by
  rw [sim_mapping_result A hA ins outs r h f order]
  generalize order (imagesOf (mapDict f r.dict)) = uo at *
  refine ⟨_, (SimResult.new_some ..).trans (if_pos ⟨rfl, rfl⟩), fun i j hi hj => ?_⟩
  obtain ⟨row, _, _, _, h4, _⟩ := indexing_coherent .probability _ (mapped_arr_wf ins uo (mappedWeight f r))
    ins uo _ ((SimResult.new_some ..).trans (if_pos ⟨rfl, rfl⟩)) i j hi hj
    (fun i' h' hlt e => by have := (List.Nodup.getElem_inj_iff hni).mp e; omega)
    (fun j' h' hlt e => by have := (List.Nodup.getElem_inj_iff hnu).mp e; omega)
  rw [mapped_arr_get ins uo (mappedWeight f r) i j hi hj] at h4
  exact ⟨h4, mapped_arr_get ins uo (mappedWeight f r) i j hi hj⟩

/-- the outputs of the mapped result are exactly the images of the outputs, each once — whatever
order the set was iterated in -/
theorem sim_mapping_outputs_are_images [AddCommMonoid V] (A : Arr V) (hA : A.WF) (ins outs : List St)
    (r : SimResult V) (h : SimResult.new (some .probability) A ins outs = .ok r) (f : St → St) (uo : List St)
    (hperm : uo.Perm (imagesOf (mapDict f r.dict))) :
    uo.Nodup ∧ ∀ g, g ∈ uo ↔ (ins ≠ [] ∧ ∃ o ∈ outs, f o = g) := by
  obtain ⟨_, _, _, _, hdict, hl1, hl2⟩ := sim_new_fields _ A ins outs r h
  have hk : r.dict.keys = dedup ins := by rw [hdict, keys_buildDict _ _ _ (hl1.trans hA.1.symm)]
  have hrows : ∀ p ∈ r.dict, ∀ o, o ∈ p.2.keys ↔ o ∈ outs := fun p hp o => by
    obtain ⟨row, hrow, e⟩ := mem_buildDict ins outs A p (hdict ▸ hp)
    rw [e, keys_buildRow outs row (hl2.trans (hA.2 row hrow).symm), mem_dedup]
  have hne : r.dict = [] ↔ ins = [] := by
    rw [← List.map_eq_nil_iff (f := (·.1)), ← dedup_eq_nil ins, ← hk]
    rfl
  refine ⟨hperm.nodup_iff.mpr (nodup_dedup _), fun g => ?_⟩
  rw [hperm.mem_iff, mem_imagesOf_mapDict f r.dict (hk ▸ nodup_dedup ins) outs hrows, ne_eq, hne]

/-- Conservation per input: the mapped row of input `i` has the total of the original row -/
theorem sim_row_total_preserved [AddCommMonoid V] (f : St → St) (r : SimResult V) (i : St) (uo : List St)
    (hn : uo.Nodup) (hall : ∀ p ∈ (r.dict.get? i).getD [], f p.1 ∈ uo) :
    (uo.map fun g => mappedWeight f r i g).sum = ((r.dict.get? i).getD []).vals.sum :=
  sum_map_imageWeight f _ uo hn hall

/-- Repeated application per input: mapping the mapped row with `f'` gives the weights of the
original row under `f' ∘ f` -/
theorem sim_mapping_repeated [AddCommMonoid V] (f f' : St → St) (r : SimResult V) (i : St) (uo : List St)
    (hn : uo.Nodup) (hall : ∀ p ∈ (r.dict.get? i).getD [], f p.1 ∈ uo) (g' : St) :
    imageWeight f' (uo.map fun g => (g, mappedWeight f r i g)) g'
      = imageWeight (f' ∘ f) ((r.dict.get? i).getD []) g' :=
  imageWeight_map_imageWeight f f' _ uo hn hall g'

/-- the constructor refuses exactly a non-State input -/
theorem samp_new_ok_iff [AddCommMonoid V] (results : List (St × V)) (input : Option St) :
    (∃ r, SampResult.new results input = .ok r) ↔ input.isSome := by
  cases input with
  | none => exact ⟨fun ⟨_, h⟩ => (nomatch h), fun h => (Bool.false_ne_true h).elim⟩
  | some i => exact ⟨fun _ => rfl, fun _ => ⟨_, rfl⟩⟩

/-- Round trip: a sampling result returns exactly the counts it was built from, lists the outputs in
the dictionary's order, refuses unknown states (KeyError) and non-States (TypeError) -/
theorem sampling_result_roundtrip [AddCommMonoid V] (results : List (St × V))
    (hn : (results.map (·.1)).Nodup) (i : St) :
    ∃ r, SampResult.new results (some i) = .ok r ∧ r.input = i ∧ r.dict = results ∧
      r.outputs = results.map (·.1) ∧
      (∀ s v, (s, v) ∈ results → r.getItem (some s) = .ok v) ∧
      (∀ s, s ∉ results.map (·.1) → r.getItem (some s) = .error .other) ∧
      r.getItem none = .error .type := by
  have hd : PD.ofPairs results = results := PD.ofPairs_of_nodup results hn
  refine ⟨_, rfl, rfl, hd, congrArg PD.keys hd, fun s v hsv => ?_, fun s hs => ?_, rfl⟩
  · exact SampResult.getItem_of_get? ((congrArg (PD.get? · s) hd).trans (PD.get?_of_mem results hn hsv))
  · exact SampResult.getItem_of_not_mem ((congrArg PD.keys hd).symm ▸ hs)

example : (([(⟨[2, 0]⟩, 5), (⟨[1, 1]⟩, 3)] : List (St × Nat)).map (·.1)).Nodup := by decide

/-- a mapping of a sampling result is never refused, keeps the input, lists the images in order of
first occurrence with the summed counts, and keeps the total count -/
theorem sampling_mapping [AddCommMonoid V] (r : SampResult V) (f : St → St) :
    ∃ r', r.applyMapping f = .ok r' ∧ r'.input = r.input ∧ r'.dict = accum f r.dict ∧
      r'.outputs = dedup (r.dict.keys.map f) ∧
      (∀ g, r'.getItem (some g) =
        if r.dict.any (fun p => decide (f p.1 = g)) then .ok (imageWeight f r.dict g) else .error .other) ∧
      r'.dict.vals.sum = r.dict.vals.sum := by
  refine ⟨_, SampResult.applyMapping_eq r f, rfl, rfl, rfl, fun g => ?_, row_total_preserved f r.dict⟩
  by_cases hany : r.dict.any (fun p => decide (f p.1 = g)) = true
  · simp only [SampResult.getItem, get?_accum, hany, if_true]
  · simp only [SampResult.getItem, get?_accum, hany, Bool.false_eq_true, if_false]

/-- repeated application of mappings to a sampling result composes exactly -/
theorem sampling_mapping_repeated [AddCommMonoid V] (r : SampResult V) (f f' : St → St) :
    (r.applyMapping f >>= fun r' => r'.applyMapping f') = r.applyMapping (f' ∘ f) := by
  rw [SampResult.applyMapping_eq, SampResult.applyMapping_eq]
  show SampResult.applyMapping _ f' = _
  rw [SampResult.applyMapping_eq, mapping_compose, keys_accum, dedup_map_dedup, List.map_map]

end LW.C17
