/-
  LW.Proofs.FockBridge — the bridge between permanents and coefficients. Lists of mode indices are
  read as index functions (`idxFn`, whose occupation `occ` is `List.count`); the permanent of the
  photon-indexed sub-matrix is `∏ occ!` times a coefficient of the substitution homomorphism
  `homOf U D` (`permanent_eq_amp`: the image of a monomial expanded as a sum over index functions,
  regrouped by `fibre_sum`); hence the model's `LW.QF.permAmpFull` is `∏ t_k!` times the coefficient
  amplitude (`permAmpFull_eq_amp`).
-/
import LW.Proofs.FockOcc
import LW.Proofs.FockPermanent
import LW.Proofs.C12FullDefs
import Mathlib.Algebra.BigOperators.Fin
import Mathlib.Algebra.BigOperators.Finsupp.Basic
import Mathlib.Algebra.MvPolynomial.Basic

namespace LW.Proofs.FockIso

open Finset

theorem fact_eq (n : ℕ) : fact n = n.factorial := by
  induction n with
  | zero => rfl
  | succ n ih => rw [fact, ih, Nat.factorial_succ]

/-- Two functions are called `factProd`: the model's `LW.factProd` (a `foldl` over `LW.fact`; the bare
name inside `namespace LW.Proofs.…`) and `LW.C12F.factProd` (`(l.map Nat.factorial).prod`; the bare
name inside `namespace LW.C12F`). They agree. -/
theorem factProd_eq (l : List ℕ) : LW.factProd l = C12F.factProd l := by
  unfold LW.factProd C12F.factProd
  rw [List.prod_eq_foldl_nat]
  congr 1
  exact List.map_congr_left fun a _ => fact_eq a

theorem factProd_pos (l : List ℕ) : 0 < LW.factProd l := by
  rw [factProd_eq]
  exact Nat.pos_of_ne_zero (List.prod_ne_zero (by simp [Nat.factorial_ne_zero]))

theorem ofFn_getD {N : ℕ} (t : List ℕ) (ht : t.length = N) :
    List.ofFn (fun z : Fin N => t.getD z.val 0) = t := by
  apply List.ext_getElem (by simp [ht])
  intro i h1 h2
  simp [List.getD_eq_getElem?_getD, h2]

theorem count_ofFn {n : ℕ} (r : Fin n → ℕ) (m : ℕ) :
    (List.ofFn r).count m = Fintype.card {k // r k = m} := by
  rw [Fintype.card_subtype, Finset.card_filter]
  induction n with
  | zero => simp
  | succ n ih =>
    rw [List.ofFn_succ, List.count_cons, ih, Fin.sum_univ_succ, add_comm]
    simp

def idxFn {n N : ℕ} (l : List ℕ) (hl : l.length = n) (hb : ∀ m ∈ l, m < N) : Fin n → Fin N :=
  fun k => ⟨l[k.val]'(hl ▸ k.2), hb _ (List.getElem_mem _)⟩

theorem ofFn_idxFn {n N : ℕ} (l : List ℕ) (hl : l.length = n) (hb : ∀ m ∈ l, m < N) :
    List.ofFn (fun k => (idxFn l hl hb k).val) = l := by
  subst hl
  exact List.ofFn_getElem

theorem occ_idxFn {n N : ℕ} (l : List ℕ) (hl : l.length = n) (hb : ∀ m ∈ l, m < N) (z : Fin N) :
    occ (idxFn l hl hb) z = l.count z.val := by
  conv_rhs => rw [← ofFn_idxFn l hl hb]
  rw [count_ofFn]
  unfold occ
  apply Fintype.card_congr
  exact Equiv.subtypeEquivRight fun k => Fin.ext_iff

end LW.Proofs.FockIso

namespace LW.C12F

open LW.QF LW.Proofs.FockIso MvPolynomial Finset

variable {R : Type} [CommRing R]

/-- the mode of the `k`-th photon of the state `s` -/
def photonMode {p D : ℕ} (s : List ℕ) (hl : s.length = D) (hp : s.sum = p) : Fin p → Fin D :=
  idxFn (idxs s) ((length_idxs s).trans hp) fun m hm => hl ▸ mem_idxs_lt s m hm

theorem photonMode_val {p D : ℕ} (s : List ℕ) (hl : s.length = D) (hp : s.sum = p) (k : Fin p) :
    (photonMode s hl hp k).val = (idxs s).getD k.val 0 := by
  unfold photonMode idxFn
  have hk : k.val < (idxs s).length := by rw [length_idxs, hp]; exact k.2
  simp [List.getD_eq_getElem?_getD, hk]

theorem occ_photonMode {p D : ℕ} (s : List ℕ) (hl : s.length = D) (hp : s.sum = p) (z : Fin D) :
    occ (photonMode s hl hp) z = s.getD z.val 0 := by
  unfold photonMode
  rw [occ_idxFn, count_idxs]

theorem prod_comp_occ {p D : ℕ} {M : Type*} [CommMonoid M] (y : Fin p → Fin D) (h : Fin D → M) :
    ∏ k, h (y k) = ∏ z, h z ^ occ y z := by
  rw [← Finset.prod_fiberwise' univ y h]
  refine Finset.prod_congr rfl fun z _ => ?_
  rw [Finset.prod_const]
  congr 1
  unfold occ
  rw [Fintype.card_subtype]

/-- occupation of an index function as a finitely supported function on all of `ℕ` -/
noncomputable def cnt {p D : ℕ} (f : Fin p → Fin D) : ℕ →₀ ℕ := ∑ k, Finsupp.single (f k).val 1

theorem homOf_monomial (U : ℕ → ℕ → R) (D : ℕ) (s : ℕ →₀ ℕ) (hs : s.support ⊆ Finset.range D) :
    homOf U D (monomial s 1) = ∏ j : Fin D, colForm U D j.val ^ s j.val := by
  unfold homOf
  rw [aeval_monomial, map_one, one_mul, Finsupp.prod_of_support_subset _ hs _ (by simp),
    ← Fin.prod_univ_eq_prod_range (fun j => (if j < D then colForm U D j else X j) ^ s j) D]
  refine Finset.prod_congr rfl fun j _ => ?_
  rw [if_pos j.2]

theorem prod_colForm {p D : ℕ} (U : ℕ → ℕ → R) (y : Fin p → Fin D) :
    ∏ k, colForm U D (y k).val =
      ∑ f : Fin p → Fin D, C (∏ k, U (f k).val (y k).val) * monomial (cnt f) 1 := by
  simp_rw [colForm, Finset.sum_range]
  have h2 := Finset.prod_univ_sum (fun _ : Fin p => (univ : Finset (Fin D)))
    (fun k i => (C (U i.val (y k).val) * X i.val : MvPolynomial ℕ R))
  rw [Fintype.piFinset_univ] at h2
  rw [h2]
  refine Finset.sum_congr rfl fun f _ => ?_
  rw [Finset.prod_mul_distrib, map_prod]
  congr 1
  unfold cnt
  rw [monomial_sum_one]
  rfl

theorem homOf_monomial_eq {p D : ℕ} (U : ℕ → ℕ → R) (y : Fin p → Fin D) (s : ℕ →₀ ℕ)
    (hs : ∀ j, s j = if h : j < D then occ y ⟨j, h⟩ else 0) :
    homOf U D (monomial s 1) =
      ∑ f : Fin p → Fin D, C (∏ k, U (f k).val (y k).val) * monomial (cnt f) 1 := by
  rw [homOf_monomial, ← prod_colForm, prod_comp_occ y (fun z => colForm U D z.val)]
  · refine Finset.prod_congr rfl fun j _ => ?_
    rw [hs, dif_pos j.2]
  · intro j hj
    rw [Finsupp.mem_support_iff, hs] at hj
    by_cases h : j < D
    · exact Finset.mem_range.mpr h
    · rw [dif_neg h] at hj
      exact absurd rfl hj

theorem amp_eq_sum {p D : ℕ} (U : ℕ → ℕ → R) (y : Fin p → Fin D) (s t : ℕ →₀ ℕ)
    (hs : ∀ j, s j = if h : j < D then occ y ⟨j, h⟩ else 0) :
    amp (homOf U D) t s =
      ∑ f ∈ univ.filter (fun f : Fin p → Fin D => cnt f = t), ∏ k, U (f k).val (y k).val := by
  classical
  unfold amp
  rw [homOf_monomial_eq U y s hs, coeff_sum, Finset.sum_filter]
  refine Finset.sum_congr rfl fun f _ => ?_
  rw [coeff_C_mul, coeff_monomial]
  split_ifs <;> simp

theorem cnt_apply {p D : ℕ} (f : Fin p → Fin D) (j : ℕ) :
    cnt f j = if h : j < D then occ f ⟨j, h⟩ else 0 := by
  classical
  unfold cnt occ
  rw [Finsupp.finsetSum_apply]
  simp only [Finsupp.single_apply]
  rw [Finset.sum_boole]
  split_ifs with h
  · rw [Fintype.card_subtype]
    simp only [Nat.cast_id]
    congr 1
    ext k
    simp [Fin.ext_iff]
  · simp only [Nat.cast_id, Finset.card_eq_zero, Finset.filter_eq_empty_iff]
    intro k _ hk
    exact h (hk ▸ (f k).2)

theorem cnt_eq_iff {p D : ℕ} (f g : Fin p → Fin D) : cnt f = cnt g ↔ occ f = occ g := by
  constructor
  · intro h
    funext z
    have := DFunLike.congr_fun h z.val
    rw [cnt_apply, cnt_apply, dif_pos z.2, dif_pos z.2] at this
    exact this
  · intro h
    ext j
    rw [cnt_apply, cnt_apply, h]

theorem factProd_eq_prod_fin {D : ℕ} (t : List ℕ) (ht : t.length = D) :
    factProd t = ∏ z : Fin D, (t.getD z.val 0).factorial := by
  unfold factProd
  conv_lhs => rw [← ofFn_getD t ht]
  rw [List.map_ofFn, List.prod_ofFn]
  rfl

theorem toFinsupp_eq_occ {p D : ℕ} (s : List ℕ) (hl : s.length = D) (hp : s.sum = p) (j : ℕ) :
    s.toFinsupp j = if h : j < D then occ (photonMode s hl hp) ⟨j, h⟩ else 0 := by
  rw [List.toFinsupp_apply]
  split_ifs with h
  · rw [occ_photonMode]
  · rw [List.getD_eq_getElem?_getD, List.getElem?_eq_none (by omega)]
    rfl

theorem toFinsupp_eq_cnt {p D : ℕ} (s : List ℕ) (hl : s.length = D) (hp : s.sum = p) :
    s.toFinsupp = cnt (photonMode s hl hp) := by
  ext j
  rw [toFinsupp_eq_occ s hl hp, cnt_apply]

theorem toFinsupp_eq_sum_idxs (s : List ℕ) :
    s.toFinsupp = ((idxs s).map fun m => Finsupp.single m 1).sum := by
  have h : List.ofFn (fun k => (photonMode s rfl rfl k).val) = idxs s := ofFn_idxFn _ _ _
  rw [toFinsupp_eq_cnt s rfl rfl, ← h, List.map_ofFn, List.sum_ofFn]
  rfl

theorem toFinsupp_ofFn_occ {p D : ℕ} (f : Fin p → Fin D) : (List.ofFn (occ f)).toFinsupp = cnt f := by
  ext j
  rw [List.toFinsupp_apply, cnt_apply, List.getD_eq_getElem?_getD, List.getElem?_ofFn]
  split <;> rfl

theorem toFinsupp_inj {a b : List ℕ} (hl : a.length = b.length) (h : a.toFinsupp = b.toFinsupp) :
    a = b := by
  refine List.ext_getElem hl fun i h1 h2 => ?_
  have := DFunLike.congr_fun h i
  rwa [List.toFinsupp_apply, List.toFinsupp_apply, List.getD_eq_getElem _ _ h1,
    List.getD_eq_getElem _ _ h2] at this

theorem factProd_eq_prod_toFinsupp (l : List ℕ) :
    factProd l = l.toFinsupp.prod fun _ k => k.factorial := by
  rw [Finsupp.prod_of_support_subset _ l.toFinsupp_support_subset _ (fun _ _ => rfl),
    Finset.prod_range, factProd_eq_prod_fin l rfl]
  simp only [List.toFinsupp_apply]

theorem exists_of_amp_homOf_ne (U : ℕ → ℕ → R) {D : ℕ} (s : List ℕ) (hs : s.length = D)
    (w : ℕ →₀ ℕ) (h : amp (homOf U D) w s.toFinsupp ≠ 0) :
    ∃ l : List ℕ, l.length = D ∧ l.sum = s.sum ∧ l.toFinsupp = w := by
  rw [amp_eq_sum U (photonMode s hs rfl) s.toFinsupp w (toFinsupp_eq_occ s hs rfl)] at h
  obtain ⟨f, hf, -⟩ := Finset.exists_ne_zero_of_sum_ne_zero h
  refine ⟨List.ofFn (occ f), List.length_ofFn, ?_,
    (toFinsupp_ofFn_occ f).trans (Finset.mem_filter.mp hf).2⟩
  rw [List.sum_ofFn, sum_occ, Fintype.card_fin]

theorem permAmpFull_eq_permanent {p : ℕ} (U : ℕ → ℕ → R) (D : ℕ) (ins outs : List ℕ)
    (hi : ins.length = D) (ho : outs.length = D) (hip : ins.sum = p) (hop : outs.sum = p) :
    permAmpFull U ins outs =
      ((Matrix.of fun i j : Fin D => U i.val j.val).submatrix
        (photonMode outs ho hop) (photonMode ins hi hip)).permanent := by
  unfold permAmpFull
  simp only []
  rw [length_idxs, length_idxs, hip, hop, if_pos rfl, LW.Proofs.C03.permN_eq_permanent]
  congr 1
  ext r c
  simp only [Matrix.of_apply, Matrix.submatrix_apply, photonMode_val]

/-- summing over the orbit of `x` counts every index function of its occupation `∏ occ x !` times
(`fibre_sum`) -/
theorem permanent_eq_amp {p D : ℕ} (U : ℕ → ℕ → R) (x y : Fin p → Fin D) :
    ((Matrix.of fun i j : Fin D => U i.val j.val).submatrix x y).permanent =
      ((∏ z, (occ x z).factorial : ℕ) : R) * amp (homOf U D) (cnt x) (cnt y) := by
  rw [amp_eq_sum U y (cnt y) (cnt x) (cnt_apply y), ← nsmul_eq_mul]
  simp only [cnt_eq_iff]
  exact permanent_eq_fibre _ x y

/-- also when the photon numbers differ: then both sides vanish -/
theorem permAmpFull_eq_amp (U : Nat → Nat → R) (D : Nat) (ins outs : List Nat)
    (hi : ins.length = D) (ho : outs.length = D) :
    LW.QF.permAmpFull U ins outs =
      ((factProd outs : Nat) : R) * amp (homOf U D) outs.toFinsupp ins.toFinsupp := by
  by_cases hsum : ins.sum = outs.sum
  · rw [permAmpFull_eq_permanent U D ins outs hi ho hsum rfl, permanent_eq_amp,
      toFinsupp_eq_cnt ins hi hsum, toFinsupp_eq_cnt outs ho rfl, factProd_eq_prod_fin outs ho]
    simp only [occ_photonMode]
  · have hl : permAmpFull U ins outs = 0 := by
      unfold permAmpFull
      simp only []
      rw [length_idxs, length_idxs, if_neg fun h => hsum h.symm]
    have h0 : amp (homOf U D) outs.toFinsupp ins.toFinsupp = 0 := by
      by_contra h
      obtain ⟨l, hl', hs, e⟩ := exists_of_amp_homOf_ne U ins hi _ h
      exact hsum (by rw [← toFinsupp_inj (hl'.trans ho.symm) e, hs])
    rw [hl, h0, mul_zero]

theorem factProd_append (a b : List ℕ) :
    factProd (a ++ b) = factProd a * factProd b := by
  unfold factProd
  rw [List.map_append, List.prod_append]

theorem factProd_dualRail : ∀ b : List Bool, factProd (LW.QF.dualRail b) = 1
  | [] => rfl
  | false :: b => by
    have := factProd_dualRail b
    unfold factProd at this ⊢
    simp [LW.QF.dualRail, this]
  | true :: b => by
    have := factProd_dualRail b
    unfold factProd at this ⊢
    simp [LW.QF.dualRail, this]

theorem factProd_cast_ne_zero {R : Type} [Field R] {N : ℕ} (hN : ((N.factorial : ℕ) : R) ≠ 0) :
    ∀ l : List ℕ, (∀ x ∈ l, x ≤ N) → ((factProd l : ℕ) : R) ≠ 0
  | [], _ => by
    unfold factProd
    simp
  | x :: l, h => by
    have ih := factProd_cast_ne_zero hN l fun y hy => h y (List.mem_cons_of_mem _ hy)
    obtain ⟨q, hq⟩ := Nat.factorial_dvd_factorial (h x List.mem_cons_self)
    rw [hq, Nat.cast_mul] at hN
    unfold factProd at ih ⊢
    rw [List.map_cons, List.prod_cons, Nat.cast_mul]
    exact mul_ne_zero (left_ne_zero_of_mul hN) ih

theorem sum_range_toFinsupp (l : List ℕ) : ∑ j ∈ Finset.range l.length, l.toFinsupp j = l.sum := by
  conv_rhs => rw [← ofFn_getD l rfl]
  rw [List.sum_ofFn, Finset.sum_range]
  apply Finset.sum_congr rfl
  intro z _
  rw [List.toFinsupp_apply]

/-! non-vacuity: a 2-mode instance with two photons bunching -/
example : LW.QF.permAmpFull (fun i j => ((i + 2 * j + 1 : ℕ) : ℤ)) [1, 1] [2, 0] = 6 := by
  decide

end LW.C12F
