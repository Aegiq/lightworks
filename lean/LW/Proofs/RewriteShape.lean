/-
  LW.Proofs.RewriteShape — what the spec rewrites emit, independently of the scalars: unpacking
  leaves the leaf components, `Prim.convertNonAdj` either leaves a component alone or replaces a beam splitter on
  non-adjacent modes by swap, beam splitter, inverse swap (`Prim.convertNonAdj_cases`), and swap compression
  (which looks at a component in two ways only: is it a mode swap, `Comp.asSwaps`, and which modes
  does it block) only ever keeps a component or replaces a swap by a combination of swaps.
-/
import LW.Model.Rewrite
import LW.Model.CircuitSpec

namespace LW

variable {K : Type}

theorem mem_unpackSpec {spec : List (Comp K)} {c : Comp K} (hc : c ∈ unpackSpec spec) :
    ∃ p, c = .prim p ∧ ∃ c0 ∈ spec, p ∈ c0.toPrims := by
  unfold unpackSpec at hc
  obtain ⟨a, ha, hc⟩ := List.mem_flatMap.mp hc
  cases a with
  | prim p => exact ⟨p, List.mem_singleton.mp hc, _, ha, List.mem_singleton.mpr rfl⟩
  | group cs m1 m2 hin hout =>
    obtain ⟨p, hp, rfl⟩ := List.mem_map.mp hc
    exact ⟨p, rfl, _, ha, hp⟩

theorem flatMap_toPrims_map_prim (l : List (Prim K)) : (l.map Comp.prim).flatMap Comp.toPrims = l :=
  (List.flatMap_map ..).trans (List.flatMap_singleton' l)

theorem flattenSpec_append (a b : List (Comp K)) : flattenSpec (a ++ b) = flattenSpec a ++ flattenSpec b :=
  List.flatMap_append

theorem flattenSpec_map_of_toPrims {K' : Type} (G : Comp K → Comp K') (g : Prim K → Prim K')
    (h : ∀ c, (G c).toPrims = c.toPrims.map g) (spec : List (Comp K)) :
    flattenSpec (spec.map G) = (flattenSpec spec).map g := by
  simp only [flattenSpec, List.flatMap_map, List.map_flatMap, h]

theorem flattenSpec_unpackSpec (spec : List (Comp K)) :
    flattenSpec (unpackSpec spec) = flattenSpec spec := by
  unfold flattenSpec unpackSpec
  induction spec with
  | nil => rfl
  | cons c spec ih =>
    rw [List.flatMap_cons, List.flatMap_append, ih, List.flatMap_cons]
    cases c with
    | prim p => rfl
    | group cs m1 m2 hin hout => exact congrArg (· ++ _) (flatMap_toPrims_map_prim cs)

theorem Prim.convertNonAdj_bs_adj (m1 m2 : Nat) (c s : K) (cv : Conv)
    (h : m1 + 1 = m2 ∨ m2 + 1 = m1) :
    (Prim.bs m1 m2 c s cv).convertNonAdj = [.bs m1 m2 c s cv] := by
  simp only [Prim.convertNonAdj]
  rw [if_pos h]

theorem Prim.convertNonAdj_bs_nonadj (m1 m2 : Nat) (c s : K) (cv : Conv)
    (h : ¬(m1 + 1 = m2 ∨ m2 + 1 = m1)) :
    (Prim.bs m1 m2 c s cv).convertNonAdj =
      [.swaps (nonAdjSwaps (min m1 m2) (max m1 m2)),
       .bs (if m1 > m2 then (min m1 m2 + max m1 m2 - 1) / 2 + 1 else (min m1 m2 + max m1 m2 - 1) / 2)
           (if m1 > m2 then (min m1 m2 + max m1 m2 - 1) / 2 else (min m1 m2 + max m1 m2 - 1) / 2 + 1)
           c s cv,
       .swaps (Dict.ofPairs ((nonAdjSwaps (min m1 m2) (max m1 m2)).map fun p => (p.2, p.1)))] := by
  simp only [Prim.convertNonAdj]
  rw [if_neg h]
  by_cases hgt : m1 > m2
  · simp only [hgt, if_true]
  · simp only [hgt, if_false]

theorem Prim.convertNonAdj_cases (p : Prim K) :
    p.convertNonAdj = [p] ∨ ∃ m1 m2 c s cv, p = .bs m1 m2 c s cv ∧ ¬(m1 + 1 = m2 ∨ m2 + 1 = m1) := by
  cases p with
  | bs m1 m2 c s cv =>
    by_cases h : m1 + 1 = m2 ∨ m2 + 1 = m1
    · exact Or.inl (Prim.convertNonAdj_bs_adj m1 m2 c s cv h)
    · exact Or.inr ⟨m1, m2, c, s, cv, rfl, h⟩
  | _ => exact Or.inl rfl

theorem mem_convertNonAdj {spec : List (Comp K)} {c : Comp K} (hc : c ∈ convertNonAdj spec) :
    (∃ p, Comp.prim p ∈ spec ∧ ∃ q ∈ p.convertNonAdj, c = .prim q) ∨
    (∃ cs m1 m2 hin hout, Comp.group cs m1 m2 hin hout ∈ spec ∧
      c = .group (cs.flatMap Prim.convertNonAdj) m1 m2 hin hout) := by
  unfold convertNonAdj at hc
  obtain ⟨a, ha, hc⟩ := List.mem_flatMap.mp hc
  cases a with
  | prim p =>
    obtain ⟨q, hq, rfl⟩ := List.mem_map.mp hc
    exact Or.inl ⟨p, ha, q, hq, rfl⟩
  | group cs m1 m2 hin hout =>
    exact Or.inr ⟨cs, m1, m2, hin, hout, ha, List.mem_singleton.mp hc⟩

theorem flattenSpec_convertNonAdj (spec : List (Comp K)) :
    flattenSpec (convertNonAdj spec) = (flattenSpec spec).flatMap Prim.convertNonAdj := by
  unfold flattenSpec convertNonAdj
  induction spec with
  | nil => rfl
  | cons c spec ih =>
    rw [List.flatMap_cons, List.flatMap_append, ih, List.flatMap_cons, List.flatMap_append]
    cases c with
    | prim p => exact congrArg (· ++ _) ((flatMap_toPrims_map_prim _).trans (List.append_nil _).symm)
    | group cs m1 m2 hin hout => exact congrArg (· ++ _) (List.append_nil _)

def Comp.asSwaps : Comp K → Option Dict
  | .prim (.swaps σ) => some σ
  | _ => none

/- One step of the scan and of the outer loop as equations in `Comp.asSwaps`, to rewrite with.  Where only the recursion
matters (`compressGo_length_le`, the closure lemmas below, C09's `scan_correct`) `fun_induction` is used directly. -/
theorem compressScan_cons (k : Nat) (c : Comp K) (rest : List (Nat × Comp K)) (σ : Dict)
    (blocked skip : List Nat) :
    compressScan ((k, c) :: rest) σ blocked skip =
      if skip.contains k then compressScan rest σ blocked skip
      else match c.asSwaps with
        | some τ =>
          if τ.keys.any blocked.contains then compressScan rest σ (blocked ++ τ.keys) skip
          else compressScan rest (combineSwapDicts σ τ) blocked (skip ++ [k])
        | none => compressScan rest σ (blocked ++ c.blocked) skip := by
  cases c with
  | group cs m1 m2 hin hout => rfl
  | prim p => cases p <;> rfl

theorem compressGo_cons (i : Nat) (c : Comp K) (rest : List (Nat × Comp K)) (skip : List Nat) :
    compressGo ((i, c) :: rest) skip =
      if skip.contains i then compressGo rest skip
      else match c.asSwaps with
        | some σ => .prim (.swaps (compressScan rest σ [] skip).1) :: compressGo rest (compressScan rest σ [] skip).2
        | none => c :: compressGo rest skip := by
  cases c with
  | group cs m1 m2 hin hout => rfl
  | prim p => cases p <;> rfl

theorem compressGo_length_le (l : List (Nat × Comp K)) (skip : List Nat) :
    (compressGo l skip).length ≤ l.length := by
  fun_induction compressGo l skip with
  | case1 => exact Nat.le_refl _
  | case2 k c rest skip hk ih => exact Nat.le_succ_of_le ih
  | case3 k rest skip hk τ σ' skip' hscan ih => exact Nat.succ_le_succ ih
  | case4 k rest skip hk c hns ih => exact Nat.succ_le_succ ih

theorem compressScan_closed (P : Dict → Prop)
    (hcomb : ∀ σ τ, P σ → P τ → P (combineSwapDicts σ τ))
    (rest : List (Nat × Comp K)) (σ : Dict) (b s : List Nat) :
    P σ → (∀ k τ, (k, Comp.prim (.swaps τ)) ∈ rest → P τ) → P (compressScan rest σ b s).1 := by
  fun_induction compressScan rest σ b s with
  | case1 => intro hσ _; exact hσ
  | case2 k c rest σ b s hk ih =>
    exact fun hσ hw => ih hσ fun k τ h => hw k τ (List.mem_cons_of_mem _ h)
  | case3 k rest σ b s hk τ hb ih =>
    exact fun hσ hw => ih hσ fun k τ h => hw k τ (List.mem_cons_of_mem _ h)
  | case4 k rest σ b s hk τ hb ih =>
    exact fun hσ hw => ih (hcomb σ τ hσ (hw k τ List.mem_cons_self))
      fun k τ h => hw k τ (List.mem_cons_of_mem _ h)
  | case5 k rest σ b s hk c hns ih =>
    exact fun hσ hw => ih hσ fun k τ h => hw k τ (List.mem_cons_of_mem _ h)

theorem compressGo_closed (Q : Comp K → Prop)
    (hcomb : ∀ σ τ, Q (.prim (.swaps σ)) → Q (.prim (.swaps τ)) →
      Q (.prim (.swaps (combineSwapDicts σ τ))))
    (l : List (Nat × Comp K)) (skip : List Nat) :
    (∀ p ∈ l, Q p.2) → ∀ c ∈ compressGo l skip, Q c := by
  fun_induction compressGo l skip with
  | case1 => intro _ c hc; cases hc
  | case2 k c rest skip hk ih => exact fun hw => ih fun p hp => hw p (List.mem_cons_of_mem _ hp)
  | case3 k rest skip hk τ σ' skip' hscan ih =>
    intro hw c hc
    have hw' : ∀ p ∈ rest, Q p.2 := fun p hp => hw p (List.mem_cons_of_mem _ hp)
    rcases List.mem_cons.mp hc with rfl | hc
    · have := compressScan_closed (fun σ => Q (.prim (.swaps σ))) hcomb rest τ [] skip
        (hw (k, .prim (.swaps τ)) List.mem_cons_self) (fun k τ h => hw' _ h)
      rwa [hscan] at this
    · exact ih hw' c hc
  | case4 k rest skip hk c hns ih =>
    intro hw c' hc
    rcases List.mem_cons.mp hc with rfl | hc
    · exact hw (k, c') List.mem_cons_self
    · exact ih (fun p hp => hw p (List.mem_cons_of_mem _ hp)) c' hc

theorem compressSwaps_closed (Q : Comp K → Prop)
    (hcomb : ∀ σ τ, Q (.prim (.swaps σ)) → Q (.prim (.swaps τ)) →
      Q (.prim (.swaps (combineSwapDicts σ τ))))
    (spec : List (Comp K)) (h : ∀ c ∈ spec, Q c) : ∀ c ∈ compressSwaps spec, Q c :=
  compressGo_closed Q hcomb _ [] fun p hp => h _ (List.of_mem_zip (a := p.1) (b := p.2) hp).2

end LW
