/-
  Reachability: every circuit that can be built through the construction API satisfies the
  hypotheses under which the C01 / C02 / C09 theorems are stated, so those theorems hold for
  "any constructible circuit" without side conditions.
-/
import LW.Proofs.Reach
import LW.Proofs.C09
import LW.Proofs.C01

namespace LW.Reachable

variable {K : Type} [CommRing K] [StarRing K]

/-- every constructible circuit satisfies the bookkeeping invariant (C02) -/
theorem reach_WF (c : Circ K) (h : Reach c) : c.WF := Proofs.Reach.reach_WF c h

/-- … its components lie in the documented parameter ranges (hypothesis of C01/C09) -/
theorem reach_SpecWf (c : Circ K) (h : Reach c) : SpecWf c.n c.spec := (Proofs.Reach.reach_inv c h).spec

/-- … and every group spans the modes of its members (hypothesis of C09 swap compression) -/
theorem reach_SpecGroupOk (c : Circ K) (h : Reach c) : SpecGroupOk c.spec :=
  (Proofs.Reach.reach_inv c h).grp

/-- hence: `U_full` of every constructible circuit is unitary … -/
theorem reach_unitary (i : K) (hi : IsImagUnit i) (c : Circ K) (h : Reach c) :
    IsUnitary (c.Ufull i) := Proofs.C01.Ufull_unitary i hi c.n c.spec (reach_SpecWf c h)

/-- … and swap compression never changes it. -/
theorem reach_compress (i : K) (c : Circ K) (h : Reach c) :
    c.compress.Ufull i = c.Ufull i :=
  Proofs.C09.compress_compile_partial i c.n c.spec (reach_SpecWf c h) (reach_SpecGroupOk c h)

end LW.Reachable
