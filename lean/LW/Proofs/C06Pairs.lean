/-
  LW.Proofs.C06Pairs — the photons of an annotated state as a list of `(mode, label)` pairs
  (`pairsFrom`).  `groupsOf` is `groupsP` of that list; `groupsP` depends on it up to order and an
  injective renaming of the labels (`groupsP_relabel_perm`); all labels distinct, all labels `0`.
-/
import LW.Proofs.C06Output
import Mathlib.Data.List.Perm.Basic
import Mathlib.Data.List.GetD

namespace LW.Proofs.C06

open LW.Src LW.SV

/-- `(mode, label)` of every photon of a list of rows, the first row being mode `c` -/
def pairsFrom : Nat → List (List Int) → List (Nat × Int)
  | _, [] => []
  | c, row :: rows => row.map (fun x => (c, x)) ++ pairsFrom (c + 1) rows

theorem pairsFrom_snoc (c : Nat) (rows : List (List Int)) (l : List Int) :
    pairsFrom c (rows ++ [l]) = pairsFrom c rows ++ l.map (fun x => (c + rows.length, x)) := by
  induction rows generalizing c with
  | nil => simp [pairsFrom]
  | cons row rows ih =>
    simp only [List.cons_append, pairsFrom, ih, List.append_assoc, List.length_cons]
    have : c + 1 + rows.length = c + (rows.length + 1) := by omega
    rw [this]

theorem pairsFrom_map_snd (c : Nat) (rows : List (List Int)) :
    (pairsFrom c rows).map (·.2) = rows.flatten := by
  induction rows generalizing c with
  | nil => rfl
  | cons row rows ih =>
    simp only [pairsFrom, List.map_append, List.map_map, List.flatten_cons, ih]
    congr 1
    simp [Function.comp_def]

def groupP (n : Nat) (e : List (Nat × Int)) (lab : Int) : FState :=
  (List.range n).map fun i => e.count (i, lab)

/-- `groupsOf` from the `(mode, label)` pairs -/
def groupsP (n : Nat) (e : List (Nat × Int)) : List FState :=
  let labs := dedup (e.map (·.2))
  if labs.isEmpty then [List.replicate n 0] else labs.map (groupP n e)

theorem ite_map_perm {α β : Type} {l1 l2 : List α} (hp : l1.Perm l2) (z : List β) (f : α → β) :
    (if l1.isEmpty then z else l1.map f).Perm (if l2.isEmpty then z else l2.map f) := by
  by_cases h : l1 = []
  · subst h
    have : l2 = [] := hp.symm.eq_nil
    subst this
    exact List.Perm.refl _
  · have h2 : l2 ≠ [] := fun h2 => h (by subst h2; exact hp.eq_nil)
    rw [if_neg (by simpa using h), if_neg (by simpa using h2)]
    exact hp.map f

theorem count_map_pair (c i : Nat) (lab : Int) (row : List Int) :
    (row.map (fun x => (c, x))).count (i, lab) = if c = i then row.count lab else 0 := by
  induction row with
  | nil => simp
  | cons x row ih =>
    rw [List.map_cons, List.count_cons, ih, List.count_cons]
    by_cases h : c = i <;> simp [h]

theorem count_pairsFrom (rows : List (List Int)) (c i : Nat) (lab : Int) :
    (pairsFrom c rows).count (i, lab) =
      if c ≤ i then (rows.getD (i - c) []).count lab else 0 := by
  induction rows generalizing c with
  | nil => simp [pairsFrom]
  | cons row rows ih =>
    rw [pairsFrom, List.count_append, count_map_pair, ih]
    by_cases h1 : c = i
    · subst h1; simp
    · by_cases h2 : c < i
      · have e : i - c = (i - (c + 1)) + 1 := by omega
        rw [if_neg h1, if_pos (by omega), if_pos (by omega), e, List.getD_cons_succ]
        simp
      · rw [if_neg h1, if_neg (by omega), if_neg (by omega)]

theorem groupsOf_eq_groupsP (n : Nat) (a : AState) : groupsOf n a = groupsP n (pairsFrom 0 a.s) := by
  have hf : groupState n a = groupP n (pairsFrom 0 a.s) := funext fun lab =>
    List.map_congr_left fun i _ => by rw [count_pairsFrom]; rfl
  unfold groupsOf groupsP labelsOf
  rw [pairsFrom_map_snd, hf]

theorem pairsFrom_map_perm (g : List Int → List Int) (hg : ∀ r, (g r).Perm r) (c : Nat)
    (rows : List (List Int)) : (pairsFrom c (rows.map g)).Perm (pairsFrom c rows) := by
  induction rows generalizing c with
  | nil => exact List.Perm.refl _
  | cons r rows ih => exact ((hg r).map _).append (ih (c + 1))

theorem pairsFrom_map_label (ρ : Int → Int) (c : Nat) (rows : List (List Int)) :
    pairsFrom c (rows.map (List.map ρ)) = (pairsFrom c rows).map fun p => (p.1, ρ p.2) := by
  induction rows generalizing c with
  | nil => rfl
  | cons r rows ih =>
    rw [List.map_cons, pairsFrom, pairsFrom, ih, List.map_append, List.map_map, List.map_map]
    rfl

theorem groupsP_relabel_perm (n : Nat) {e e' : List (Nat × Int)} (ρ : Int → Int)
    (hinj : ∀ x ∈ e.map (·.2), ∀ y ∈ e.map (·.2), ρ x = ρ y → x = y)
    (hp : e'.Perm (e.map fun p => (p.1, ρ p.2))) : (groupsP n e').Perm (groupsP n e) := by
  have hmem : ∀ x, x ∈ dedup (e'.map (·.2)) ↔ x ∈ (dedup (e.map (·.2))).map ρ := fun x => by
    rw [mem_dedup, (hp.map _).mem_iff, List.map_map, List.mem_map, List.mem_map]
    simp only [mem_dedup, List.mem_map, Function.comp_apply]
    exact ⟨fun ⟨p, hp, h⟩ => ⟨p.2, ⟨p, hp, rfl⟩, h⟩, fun ⟨_, ⟨p, hp, rfl⟩, h⟩ => ⟨p, hp, h⟩⟩
  have hL : (dedup (e'.map (·.2))).Perm ((dedup (e.map (·.2))).map ρ) :=
    (List.perm_ext_iff_of_nodup (dedup_nodup _) ((List.nodup_map_iff_inj_on (dedup_nodup _)).2
      fun x hx y hy => hinj x ((mem_dedup _ x).1 hx) y ((mem_dedup _ y).1 hy))).2 hmem
  refine (ite_map_perm hL [List.replicate n 0] (groupP n e')).trans (List.Perm.of_eq ?_)
  unfold groupsP
  rw [List.isEmpty_map, List.map_map]
  refine if_congr Iff.rfl rfl (List.map_congr_left fun l hl => List.map_congr_left fun i _ => ?_)
  -- a photon of `e` carries `ρ l` after the renaming only if it carried `l`: `ρ` is injective there
  rw [hp.count_eq, List.count_eq_countP, List.countP_map, List.count_eq_countP]
  refine List.countP_congr fun p hp => ?_
  simp only [Function.comp_apply, beq_iff_eq, Prod.ext_iff]
  exact and_congr_right fun _ =>
    ⟨hinj _ (List.mem_map_of_mem hp) _ ((mem_dedup _ l).1 hl), congrArg ρ⟩

/-- the constructor sorts the rows: the groups of an arbitrary annotated state, up to their order -/
theorem groupsOf_new_perm (n : Nat) (rows : List (List Int)) :
    (groupsOf n (AState.new rows)).Perm (groupsP n (pairsFrom 0 rows)) := by
  rw [groupsOf_eq_groupsP]
  refine groupsP_relabel_perm n id (fun _ _ _ _ h => h) ?_
  rw [show (fun p : Nat × Int => (p.1, id p.2)) = id from rfl, List.map_id]
  exact pairsFrom_map_perm sortInt sortInt_perm 0 rows

theorem groupP_distinct (n : Nat) (e : List (Nat × Int)) (hnd : (e.map (·.2)).Nodup)
    (p : Nat × Int) (hp : p ∈ e) : groupP n e p.2 = unitVec n p.1 := by
  unfold groupP unitVec
  apply List.map_congr_left
  intro i _
  have hne : e.Nodup := List.Nodup.of_map _ hnd
  by_cases h : p.1 = i
  · rw [if_pos h]
    have : (i, p.2) = p := by rw [← h]
    rw [this]
    exact List.count_eq_one_of_mem hne hp
  · rw [if_neg h]
    apply List.count_eq_zero_of_not_mem
    intro hmem
    have := List.inj_on_of_nodup_map hnd hmem hp rfl
    exact h (by rw [← this])

theorem groupsP_distinct (n : Nat) (e : List (Nat × Int)) (hnd : (e.map (·.2)).Nodup) :
    (groupsP n e).Perm
      (if e.isEmpty then [List.replicate n 0] else e.map (fun p => unitVec n p.1)) := by
  have hp : (dedup (e.map (·.2))).Perm (e.map (·.2)) := by
    rw [List.perm_ext_iff_of_nodup (dedup_nodup _) hnd]
    intro x
    exact mem_dedup _ x
  have h1 := ite_map_perm hp [List.replicate n 0] (groupP n e)
  unfold groupsP
  simp only
  refine h1.trans (List.Perm.of_eq ?_)
  cases e with
  | nil => rfl
  | cons q e' =>
    have h2 : ((q :: e').map (·.2)).isEmpty = false := rfl
    have h3 : (q :: e').isEmpty = false := rfl
    rw [h2, h3]
    simp only [Bool.false_eq_true, if_false]
    rw [List.map_map]
    apply List.map_congr_left
    intro p hp
    exact groupP_distinct n (q :: e') hnd p hp

theorem count_pair_zero (e : List (Nat × Int)) (h0 : ∀ p ∈ e, p.2 = 0) (i : Nat) :
    e.count (i, 0) = (e.map (·.1)).count i := by
  induction e with
  | nil => rfl
  | cons p e ih =>
    rw [List.map_cons, List.count_cons, List.count_cons, ih (fun q hq => h0 q (List.mem_cons_of_mem _ hq))]
    have hp : p.2 = 0 := h0 p List.mem_cons_self
    congr 1
    obtain ⟨a, b⟩ := p
    simp only at hp
    subst hp
    simp

theorem nodup_all_zero {α : Type} (z : α) (L : List α) (hnd : L.Nodup) (h0 : ∀ x ∈ L, x = z)
    (hne : L ≠ []) : L = [z] := by
  cases L with
  | nil => exact absurd rfl hne
  | cons x L' =>
    have hx : x = z := h0 x List.mem_cons_self
    subst hx
    cases L' with
    | nil => rfl
    | cons y L'' =>
      have hy : y = x := h0 y (List.mem_cons_of_mem _ List.mem_cons_self)
      subst hy
      simp at hnd

theorem groupsP_zero (n : Nat) (e : List (Nat × Int)) (h0 : ∀ p ∈ e, p.2 = 0) :
    groupsP n e = [countVec n (e.map (·.1))] := by
  have hg : groupP n e 0 = countVec n (e.map (·.1)) := by
    unfold groupP countVec
    apply List.map_congr_left
    intro i _
    exact count_pair_zero e h0 i
  unfold groupsP
  simp only
  cases e with
  | nil =>
    have : dedup (([] : List (Nat × Int)).map (·.2)) = [] := rfl
    rw [this]
    simp [countVec_nil]
  | cons q e' =>
    have hL : dedup ((q :: e').map (·.2)) = [0] := by
      apply nodup_all_zero 0 _ (dedup_nodup _)
      · intro x hx
        rw [mem_dedup] at hx
        obtain ⟨p, hp, rfl⟩ := List.mem_map.1 hx
        exact h0 p hp
      · intro hnil
        have : q.2 ∈ dedup ((q :: e').map (·.2)) := by
          rw [mem_dedup]; simp
        rw [hnil] at this
        cases this
    rw [hL]
    simp [hg]

end LW.Proofs.C06
