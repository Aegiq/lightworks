/-
  LW.Proofs.C02SemRun — `MatRel`: a component relabelled along a partial injection has the embedded
  matrix, for every number of loss modes already present; `run_rel`: compiling a relabelled list of
  components is the embedding of the compiled original. For a permutation of the modes this is
  `foldl_relabel_perm` (the swap commutation of C09).
-/
import LW.Proofs.C02SemEmbed
import LW.Proofs.C01Lead
import LW.Proofs.SwapDict
import LW.Proofs.RewriteShape

open scoped BigOperators

namespace LW.Proofs.C02Sem

open LW LW.Proofs.C01Aux

variable {K : Type} [CommRing K]

def isBarrier : Prim K → Bool
  | .barrier _ => true
  | _ => false

theorem compilePrim_barrier (i : K) (U : M K) (p : Prim K) (h : isBarrier p = true) :
    compilePrim i U p = U := by
  cases p with
  | barrier ms => rfl
  | _ => cases h

theorem compilePrim_loss (i : K) (U : M K) (p : Prim K) (h : p.isLoss = true) :
    compilePrim i U p = (p.mat i (U.n + 1)).mul (U.pad 1) := by
  cases p with
  | loss m a b => rfl
  | _ => cases h

theorem compilePrim_other (i : K) (U : M K) (p : Prim K) (hl : p.isLoss = false)
    (hb : isBarrier p = false) : compilePrim i U p = (p.mat i U.n).mul U := by
  cases p with
  | loss m a b => cases hl
  | barrier ms => cases hb
  | _ => rfl

omit [CommRing K] in
theorem not_loss_of_barrier (p : Prim K) (h : isBarrier p = true) : p.isLoss = false := by
  cases p with
  | barrier ms => rfl
  | _ => cases h

/-- `q'` is `q` seen through the embedding `inv` of `nS` modes into `T` modes, for every number `L`
of loss modes present when the component is compiled: its matrix on `T + L` indices is the embedded
matrix on `nS + L` indices. A loss element acts on the last index, the loss mode it creates itself,
so for it `L` counts that mode too and is at least 1. -/
structure MatRel (i : K) (inv : Nat → Option Nat) (nS T : Nat) (q q' : Prim K) : Prop where
  loss : q'.isLoss = q.isLoss
  barrier : isBarrier q' = isBarrier q
  mat : ∀ L, (q.isLoss = true → 1 ≤ L) →
    q'.mat i (T + L) = Optic.embedVia (T + L) (q.mat i (nS + L)) inv

section Relabel
variable {i : K} {fwd : Nat → Nat} {inv : Nat → Option Nat} {nS T : Nat}
  (hP : ∀ L, PInj (nS + L) (T + L) fwd inv)
include hP

theorem matRel_bs {m1 m2 : Nat} (h1 : m1 < nS) (h2 : m2 < nS) (c s : K) (cv : Conv) :
    MatRel i inv nS T (.bs m1 m2 c s cv) (.bs (fwd m1) (fwd m2) c s cv) := by
  refine ⟨rfl, rfl, fun L _ => ?_⟩
  cases cv <;> exact embed2_embedVia (hP L) (by omega) (by omega) _ _ _ _

theorem matRel_ps {m : Nat} (h : m < nS) (p : K) :
    MatRel i inv nS T (.ps m p) (.ps (fwd m) p) :=
  ⟨rfl, rfl, fun L _ => embed1_embedVia (hP L) (by omega) p⟩

/-- the loss mode created by a loss element is the last index on both sides -/
theorem matRel_loss {m : Nat} (h : m < nS) (hlast : ∀ L, 1 ≤ L → fwd (nS + L - 1) = T + L - 1)
    (a b : K) : MatRel i inv nS T (.loss m a b) (.loss (fwd m) a b) := by
  refine ⟨rfl, rfl, fun L hL => ?_⟩
  have hL' := hL rfl
  show embed2 (T + L) (fwd m) (T + L - 1) a b (-b) a = _
  rw [← hlast L hL']
  exact embed2_embedVia (hP L) (by omega) (by omega) _ _ _ _

theorem matRel_barrier (ms ms' : List Nat) : MatRel i inv nS T (.barrier ms) (.barrier ms') :=
  ⟨rfl, rfl, fun L _ => (embedVia_one (hP L)).symm⟩

theorem matRel_swaps {σ σ' : Dict} (ht : ∀ L x, x < nS + L → Dict.fn σ x < nS + L)
    (hc : ∀ L x, x < nS + L → Dict.fn σ' (fwd x) = fwd (Dict.fn σ x))
    (hfix : ∀ L r, r < T + L → inv r = none → Dict.fn σ' r = r) :
    MatRel i inv nS T (.swaps σ) (.swaps σ') := by
  refine ⟨rfl, rfl, fun L _ => ?_⟩
  show permMat _ _ = Optic.embedVia _ (permMat σ _) _
  rw [permMat_eq_permF, permMat_eq_permF]
  exact permF_embedVia (hP L) _ _ (ht L) (hc L) (hfix L)

theorem matRel_unitary {m m' : Nat} (u : M K) (hm : m + u.n ≤ nS)
    (hf : ∀ j, j < u.n → fwd (m + j) = m' + j) :
    MatRel i inv nS T (.unitary m u) (.unitary m' u) :=
  ⟨rfl, rfl, fun L _ => embedBlock_embedVia (hP L) u (by omega) hf⟩

end Relabel

theorem matRel_swaps_map {i : K} {fwd : Nat → Nat} {inv : Nat → Option Nat} {nS T : Nat}
    (hP : ∀ L, PInj (nS + L) (T + L) fwd inv) {σ : Dict} (hσ : SwapsOk nS σ) (f : Nat → Nat)
    (hf : ∀ a b, f a = f b → a = b) (hfw : ∀ x, x < nS → fwd x = f x) :
    MatRel i inv nS T (.swaps σ) (.swaps (Dict.ofPairs (σ.map fun p => (f p.1, f p.2)))) := by
  have hkey : ∀ r, r ∈ Dict.keys (σ.map fun p => (f p.1, f p.2)) → ∃ k, k < nS ∧ fwd k = r := by
    intro r hm
    simp only [Dict.keys, List.map_map, List.mem_map, Function.comp] at hm
    obtain ⟨p, hp, e⟩ := hm
    have hk := hσ.lt p.1 (List.mem_map.mpr ⟨p, hp, rfl⟩)
    exact ⟨p.1, hk, (hfw _ hk).trans e⟩
  refine matRel_swaps hP (fun L x hx => hσ.fn_lt (Nat.le_add_right nS L) hx) ?_ ?_
  · intro L x hxL
    rw [LW.Proofs.C02.ofPairs_map_pair f hf, LW.Proofs.C02.ofPairs_of_nodup hσ.nodup]
    by_cases hx : x < nS
    · rw [hfw x hx, hfw _ (hσ.fn_lt (Nat.le_refl _) hx)]
      exact LW.Proofs.C02.fn_map_pair σ f hf x
    · rw [Dict.fn_of_not_mem (σ := σ) fun hm => hx (hσ.lt x hm)]
      refine Dict.fn_of_not_mem fun hm => ?_
      obtain ⟨k, hk, e⟩ := hkey _ hm
      exact hx ((hP L).inj (Nat.lt_add_right L hk) hxL e ▸ hk)
  · intro L r _ hr
    rw [LW.Proofs.C02.ofPairs_map_pair f hf, LW.Proofs.C02.ofPairs_of_nodup hσ.nodup]
    refine Dict.fn_of_not_mem fun hm => ?_
    obtain ⟨k, hk, e⟩ := hkey _ hm
    exact (hP L).ne_of_none (Nat.lt_add_right L hk) hr e

theorem isOfFn_compilePrim (i : K) (U : M K) (hU : U.IsOfFn) (p : Prim K) :
    (compilePrim i U p).IsOfFn := by
  cases p with
  | barrier ms => exact hU
  | _ => exact M.isOfFn_mul _ _

theorem isOfFn_foldl_compilePrim (i : K) (qs : List (Prim K)) (U : M K) (hU : U.IsOfFn) :
    (qs.foldl (compilePrim i) U).IsOfFn := by
  induction qs generalizing U with
  | nil => exact hU
  | cons q qs ih => exact ih _ (isOfFn_compilePrim i U hU q)

def lossN (qs : List (Prim K)) : Nat := (qs.filter Prim.isLoss).length

omit [CommRing K] in
theorem lossN_cons (q : Prim K) (qs : List (Prim K)) :
    lossN (q :: qs) = (if q.isLoss then 1 else 0) + lossN qs := by
  unfold lossN
  rw [List.filter_cons]
  split
  · simp; omega
  · simp

omit [CommRing K] in
theorem lossN_flatten (spec : List (Comp K)) : lossN (flattenSpec spec) = lossCount spec := by
  unfold lossN flattenSpec lossCount
  induction spec with
  | nil => rfl
  | cons c spec ih =>
    simp only [List.flatMap_cons, List.filter_append, List.length_append, List.map_cons,
      List.sum_cons, ih]
    congr 1
    cases c with
    | prim p =>
      simp only [Comp.toPrims, Comp.lossCount, List.filter_cons, List.filter_nil]
      split <;> rfl
    | group cs m1 m2 hin hout => rfl

theorem lossN_rel {i : K} {inv : Nat → Option Nat} {nS T : Nat} {qs qs' : List (Prim K)}
    (h : List.Forall₂ (MatRel i inv nS T) qs qs') : lossN qs' = lossN qs := by
  induction h with
  | nil => rfl
  | cons hq _ ih => rw [lossN_cons, lossN_cons, ih, hq.loss]

omit [CommRing K] in
theorem lossN_map (f : Prim K → Prim K) (hf : ∀ p, (f p).isLoss = p.isLoss) (qs : List (Prim K)) :
    lossN (qs.map f) = lossN qs := by
  unfold lossN
  rw [List.filter_map, List.length_map]
  exact congrArg List.length (List.filter_congr fun p _ => hf p)

omit [CommRing K] in
theorem lossCount_append (s1 s2 : List (Comp K)) : lossCount (s1 ++ s2) = lossCount s1 + lossCount s2 := by
  unfold lossCount; rw [List.map_append, List.sum_append]

omit [CommRing K] in
theorem lossCount_map_prim (qs : List (Prim K)) : lossCount (qs.map Comp.prim) = lossN qs := by
  rw [← lossN_flatten]
  unfold flattenSpec
  rw [flatMap_toPrims_map_prim]

theorem compile_append_prims (i : K) (n : Nat) (spec : List (Comp K)) (qs : List (Prim K)) :
    compile i n (spec ++ qs.map Comp.prim) = qs.foldl (compilePrim i) (compile i n spec) := by
  rw [compile_eq_foldl, compile_eq_foldl]
  unfold flattenSpec
  rw [List.flatMap_append, flatMap_toPrims_map_prim, List.foldl_append]

/-- `U`: the original list compiled so far, on the small space with `L` loss modes; `V`: whatever
was compiled before the relabelled components, on the big space -/
theorem run_rel (i : K) {fwd : Nat → Nat} {inv : Nat → Option Nat} {nS T : Nat}
    (hP : ∀ L, PInj (nS + L) (T + L) fwd inv) (qs qs' : List (Prim K))
    (hrel : List.Forall₂ (MatRel i inv nS T) qs qs') (U V : M K) (L : Nat)
    (hU : U.n = nS + L) (hV : V.n = T + L) (hVf : V.IsOfFn) :
    qs'.foldl (compilePrim i) ((Optic.embedVia (T + L) U inv).mul V) =
      (Optic.embedVia (T + L + lossN qs) (qs.foldl (compilePrim i) U) inv).mul (V.pad (lossN qs)) := by
  induction hrel generalizing U V L with
  | nil =>
    simp only [List.foldl_nil, lossN, List.filter_nil, List.length_nil, Nat.add_zero]
    rw [M.pad_zero V hVf]
  | @cons q q' qs qs' hq _ ih =>
    rw [List.foldl_cons, List.foldl_cons, lossN_cons]
    by_cases hb : isBarrier q = true
    · have hl := not_loss_of_barrier q hb
      rw [compilePrim_barrier i _ q' (by rw [hq.barrier]; exact hb), compilePrim_barrier i _ q hb,
        ih U V L hU hV hVf, hl]
      simp
    · have hb' : isBarrier q = false := by simpa using hb
      by_cases hl : q.isLoss = true
      · have hlq' : q'.isLoss = true := by rw [hq.loss]; exact hl
        rw [compilePrim_loss i _ q' hlq', compilePrim_loss i U q hl, M.mul_n, embedVia_n]
        have e1 : T + (L + 1) = T + L + 1 := by omega
        have e2 : nS + (L + 1) = nS + L + 1 := by omega
        have hm := hq.mat (L + 1) (fun _ => by omega)
        rw [e1, e2] at hm
        rw [pad_mul _ _ (by rw [embedVia_n]; exact hV),
          embedVia_pad (hP L) (by have := hP (L + 1); simpa [Nat.add_assoc] using this) U hU,
          hm, hU]
        have hP1 : PInj (nS + L + 1) (T + L + 1) fwd inv := by
          have := hP (L + 1); simpa [Nat.add_assoc] using this
        rw [← M.mul_assoc' _ _ _ (by simp [embedVia_n]),
          ← embedVia_mul hP1 _ _ (by simp [Prim.mat_n])]
        have := ih ((q.mat i (nS + L + 1)).mul (U.pad 1)) (V.pad 1) (L + 1)
          (by simp [Prim.mat_n]; omega) (by simp [hV]; omega) (M.isOfFn_pad _ _)
        rw [e1] at this
        rw [this, hl, M.pad_pad]
        simp only [if_true]
        have e3 : T + L + 1 + lossN qs = T + L + (1 + lossN qs) := by omega
        rw [e3]
      · have hl' : q.isLoss = false := by simpa using hl
        have hlq' : q'.isLoss = false := by rw [hq.loss]; exact hl'
        have hbq' : isBarrier q' = false := by rw [hq.barrier]; exact hb'
        rw [compilePrim_other i _ q' hlq' hbq', compilePrim_other i U q hl' hb', M.mul_n,
          embedVia_n, hq.mat L (fun h => by rw [hl'] at h; cases h), hU,
          ← M.mul_assoc' _ _ _ (by simp [embedVia_n]),
          ← embedVia_mul (hP L) _ _ (by simp [Prim.mat_n])]
        rw [ih ((q.mat i (nS + L)).mul U) V L (by simp [Prim.mat_n]) hV hVf, hl']
        simp

theorem run_rel_one (i : K) {fwd : Nat → Nat} {inv : Nat → Option Nat} {nS T : Nat}
    (hP : ∀ L, PInj (nS + L) (T + L) fwd inv) (qs qs' : List (Prim K))
    (hrel : List.Forall₂ (MatRel i inv nS T) qs qs') (V : M K) (hV : V.n = T) (hVf : V.IsOfFn) :
    qs'.foldl (compilePrim i) V =
      (Optic.embedVia (T + lossN qs) (qs.foldl (compilePrim i) (M.one nS)) inv).mul
        (V.pad (lossN qs)) := by
  have := run_rel i hP qs qs' hrel (M.one nS) V 0 rfl hV hVf
  have h0 := hP 0
  simp only [Nat.add_zero] at h0 this
  rwa [embedVia_one h0, show (M.one T : M K).mul V = V from hV ▸ M.one_mul' V hVf] at this

theorem _root_.LW.PermBelow.pinj {n N : Nat} {t g : Nat → Nat} (h : PermBelow n t g) (hN : n ≤ N) :
    PInj N N t (fun r => some (g r)) :=
  ⟨fun _ hx => h.lt hN hx, fun x _ => congrArg some (h.left x), fun r x hr e => by
    injection e with e
    subst e
    exact ⟨h.symm.lt hN hr, h.right r⟩⟩

theorem embedVia_perm_mul {n N : Nat} {t g : Nat → Nat} (h : PermBelow n t g) (hN : n ≤ N) (A : M K) :
    (Optic.embedVia N A fun r => some (g r)).mul (permF t N) = (permF t N).mul A := by
  refine M.ext_get (M.isOfFn_mul _ _) (M.isOfFn_mul _ _)
    (by rw [M.mul_n, M.mul_n, embedVia_n, permF_n]) fun r c hr hc => ?_
  rw [M.mul_n, embedVia_n] at hr hc
  rw [mul_permF_get (N := N) t (Optic.embedVia N A fun r => some (g r)) (embedVia_n N A _) hr hc
      (h.lt hN hc),
    permF_mul_get h hN A hr hc, get_embedVia N A _ hr (h.lt hN hc), h.left]

theorem permF_pad {n N : Nat} {t g : Nat → Nat} (h : PermBelow n t g) (hN : n ≤ N) (k : Nat) :
    (permF t N : M K).pad k = permF t (N + k) := by
  refine M.ext_get (M.isOfFn_pad _ _) (isOfFn_permF _ _) rfl fun r c hr hc => ?_
  rw [M.pad_n, permF_n] at hr hc
  rw [M.get_pad _ (by rwa [permF_n]) (by rwa [permF_n]), get_permF t hr hc, permF_n]
  by_cases hcN : c < N
  · by_cases hrN : r < N
    · rw [if_pos ⟨hrN, hcN⟩, get_permF t hrN hcN]
    · have h1 : t c ≠ r := fun e => hrN (by rw [← e]; exact h.lt hN hcN)
      rw [if_neg (fun x => hrN x.1), if_neg h1, if_neg (fun e => hrN (by rw [e]; exact hcN))]
  · rw [if_neg (fun x => hcN x.2), h.fix c (by omega)]
    simp only [eq_comm]

theorem permF_mul_cancel {n N : Nat} {t g : Nat → Nat} (h : PermBelow n t g) (hN : n ≤ N) {X : M K}
    (hX : X.IsOfFn) (hn : X.n = N) : (permF g N).mul ((permF t N).mul X) = X := by
  refine M.ext_get (M.isOfFn_mul _ _) hX hn.symm fun r c hr hc => ?_
  rw [M.mul_n, permF_n] at hr hc
  rw [permF_mul_get h.symm hN _ hr hc, permF_mul_get h hN X (h.lt hN hr) hc, h.left]

theorem foldl_relabel_perm (i : K) {n : Nat} {t g : Nat → Nat} (h : PermBelow n t g)
    (qs qs' : List (Prim K)) (hrel : List.Forall₂ (MatRel i (fun r => some (g r)) n n) qs qs')
    (U : M K) (hU : n ≤ U.n) :
    qs'.foldl (compilePrim i) ((permF t U.n).mul U)
      = (permF t (U.n + lossN qs)).mul (qs.foldl (compilePrim i) U) := by
  obtain ⟨L, hL⟩ := Nat.exists_eq_add_of_le hU
  have hP : ∀ L, PInj (n + L) (n + L) t fun r => some (g r) := fun L => h.pinj (Nat.le_add_right n L)
  have := run_rel i hP qs qs' hrel U (permF t (n + L)) L hL rfl (isOfFn_permF _ _)
  rw [embedVia_perm_mul h (Nat.le_add_right n L), permF_pad h (Nat.le_add_right n L),
    embedVia_perm_mul h (by omega)] at this
  rw [hL]
  exact this

end LW.Proofs.C02Sem
