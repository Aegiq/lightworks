/-
  LW.Proofs.C13Complex — the constants of the gate library as complex numbers satisfy `GC.Valid`,
  so every field-level table of C13 applies to ℂ with √2, √3, √7, 2^(-1/4), √(3/√2−2), i, e^{±iπ/4}.
-/
import Mathlib.Analysis.Real.Sqrt
import Mathlib.Data.Complex.Basic
import LW.Proofs.C13Field
namespace LW.Gates
open Complex

noncomputable def cComplex : GC ℂ where
  i := I
  s2 := (Real.sqrt 2 : ℝ)
  rh := (Real.sqrt 2 / 2 : ℝ)
  half := 1 / 2
  third := 1 / 3
  s3i := (Real.sqrt 3 / 3 : ℝ)
  q4i := (Real.sqrt (Real.sqrt 2 / 2) : ℝ)
  w := (Real.sqrt (3 * (Real.sqrt 2 / 2) - 2) : ℝ)
  s7 := (Real.sqrt 7 : ℝ)
  t8 := (Real.sqrt 2 / 2 : ℝ) * (1 + I)
  t8c := (Real.sqrt 2 / 2 : ℝ) * (1 - I)

theorem cComplex_valid : cComplex.Valid := by
  have h2 : Real.sqrt 2 * Real.sqrt 2 = 2 := Real.mul_self_sqrt (by norm_num)
  have h3 : Real.sqrt 3 * Real.sqrt 3 = 3 := Real.mul_self_sqrt (by norm_num)
  have h7 : Real.sqrt 7 * Real.sqrt 7 = 7 := Real.mul_self_sqrt (by norm_num)
  have hpos : (0 : ℝ) ≤ Real.sqrt 2 / 2 := by positivity
  have hq : Real.sqrt (Real.sqrt 2 / 2) * Real.sqrt (Real.sqrt 2 / 2) = Real.sqrt 2 / 2 :=
    Real.mul_self_sqrt hpos
  have h43 : (4 / 3 : ℝ) ≤ Real.sqrt 2 := by
    rw [Real.le_sqrt' (by norm_num)]; norm_num
  have hwpos : (0 : ℝ) ≤ 3 * (Real.sqrt 2 / 2) - 2 := by linarith
  have hw : Real.sqrt (3 * (Real.sqrt 2 / 2) - 2) * Real.sqrt (3 * (Real.sqrt 2 / 2) - 2) =
      3 * (Real.sqrt 2 / 2) - 2 := Real.mul_self_sqrt hwpos
  have h2c : ((Real.sqrt 2 : ℝ) : ℂ) * ((Real.sqrt 2 : ℝ) : ℂ) = 2 := by
    rw [← ofReal_mul, h2]; norm_num
  constructor
  · exact I_mul_I
  · exact h2c
  · show ((Real.sqrt 2 / 2 : ℝ) : ℂ) * ((Real.sqrt 2 : ℝ) : ℂ) = 1
    rw [← ofReal_mul]; norm_cast; linarith
  · show (1 / 2 : ℂ) * 2 = 1; norm_num
  · show (1 / 3 : ℂ) * 3 = 1; norm_num
  · show 3 * (((Real.sqrt 3 / 3 : ℝ) : ℂ) * ((Real.sqrt 3 / 3 : ℝ) : ℂ)) = 1
    rw [← ofReal_mul]; norm_cast; linear_combination (1 / 3 : ℝ) * h3
  · show ((Real.sqrt (Real.sqrt 2 / 2) : ℝ) : ℂ) * ((Real.sqrt (Real.sqrt 2 / 2) : ℝ) : ℂ) = ((Real.sqrt 2 / 2 : ℝ) : ℂ)
    rw [← ofReal_mul, hq]
  · show ((Real.sqrt (3 * (Real.sqrt 2 / 2) - 2) : ℝ) : ℂ) * ((Real.sqrt (3 * (Real.sqrt 2 / 2) - 2) : ℝ) : ℂ) = 3 * ((Real.sqrt 2 / 2 : ℝ) : ℂ) - 2
    rw [← ofReal_mul, hw]; push_cast; ring
  · show ((Real.sqrt 7 : ℝ) : ℂ) * ((Real.sqrt 7 : ℝ) : ℂ) = 7
    rw [← ofReal_mul, h7]; norm_num
  · show ((Real.sqrt 2 / 2 : ℝ) : ℂ) * (1 + I) * (((Real.sqrt 2 / 2 : ℝ) : ℂ) * (1 + I)) = I
    push_cast
    have : (1 + I) * (1 + I) = 2 * I := by ring_nf; rw [I_sq]; ring
    linear_combination (I / 2) * h2c + (((Real.sqrt 2 : ℝ) : ℂ) * ((Real.sqrt 2 : ℝ) : ℂ) / 4) * this
  · show ((Real.sqrt 2 / 2 : ℝ) : ℂ) * (1 + I) * (((Real.sqrt 2 / 2 : ℝ) : ℂ) * (1 - I)) = 1
    push_cast
    have : (1 + I) * (1 - I) = 2 := by ring_nf; rw [I_sq]; ring
    linear_combination (1 / 2 : ℂ) * h2c + (((Real.sqrt 2 : ℝ) : ℂ) * ((Real.sqrt 2 : ℝ) : ℂ) / 4) * this
end LW.Gates
