/-
  C06 — imperfect-source model: normalised mixture of distinguishable photon groups.
  Model: LW.Model.Source (on top of LW.Model.Dist / Fock / StateVal).

  Parameters of the model (`Params`): `nu` = brightness, `p2` = two-photon weight x
  (`1 - purity_to_prob(purity)`, `2x/(1+x)² = 1 - purity`), `pi` = √indistinguishability,
  `thr` = probability_threshold.  `mix d F = Σ_{(k,w)∈d} w·F k` is the mixture of an arbitrary
  observable `F` over a weighted dictionary.
-/
import LW.Proofs.C06Example
import LW.Proofs.C04Example
import LW.Proofs.C06Limits

namespace LW.C06

open LW.Src LW.SV LW.Proofs.C06

/-- the six outcome probabilities of one photon sum to one (any parameters) -/
theorem table_sums_to_one {Q : Type} [CommRing Q] (P : Params Q) :
    c0 P + c1 P + c1d P + c1dp P + c12d P + c1d2d P = 1 :=
  Proofs.C06.table_sums_to_one P

example : c0 (⟨1/2, 1/3, 3/5, 0⟩ : Params ℚ) + c1 ⟨1/2, 1/3, 3/5, 0⟩ + c1d ⟨1/2, 1/3, 3/5, 0⟩ +
    c1dp ⟨1/2, 1/3, 3/5, 0⟩ + c12d ⟨1/2, 1/3, 3/5, 0⟩ + c1d2d ⟨1/2, 1/3, 3/5, 0⟩ = 1 :=
  table_sums_to_one _

/-- every outcome probability is non-negative on the documented ranges
(brightness, two-photon weight, √indistinguishability in [0,1]) -/
theorem table_nonneg {Q : Type} [Field Q] [LinearOrder Q] [IsStrictOrderedRing Q] (P : Params Q)
    (hν0 : 0 ≤ P.nu) (hν1 : P.nu ≤ 1) (hx0 : 0 ≤ P.p2) (hx1 : P.p2 ≤ 1) (hq0 : 0 ≤ P.pi)
    (hq1 : P.pi ≤ 1) :
    0 ≤ c0 P ∧ 0 ≤ c1 P ∧ 0 ≤ c1d P ∧ 0 ≤ c1dp P ∧ 0 ≤ c12d P ∧ 0 ≤ c1d2d P :=
  Proofs.C06.table_nonneg P hν0 hν1 hx0 hx1 hq0 hq1

example : 0 ≤ c1dp (⟨1/2, 1/3, 3/5, 0⟩ : Params ℚ) :=
  (table_nonneg _ (by norm_num) (by norm_num) (by norm_num) (by norm_num) (by norm_num)
    (by norm_num)).2.2.2.1

/-- for purity in (1/2, 1) the two-photon weight computed by `purity_to_prob` (real square root)
lies in (0,1) and satisfies `2x = (1 - purity)(1+x)²` -/
theorem twoPhotonWeight_spec (purity : ℝ) (h0 : 1 / 2 < purity) (h1 : purity < 1) :
    0 < twoPhotonWeight purity ∧ twoPhotonWeight purity < 1 ∧
      2 * twoPhotonWeight purity =
        (1 - purity) * ((1 + twoPhotonWeight purity) * (1 + twoPhotonWeight purity)) :=
  Proofs.C06.twoPhotonWeight_spec purity h0 h1

example : 0 < twoPhotonWeight (9 / 10) := (twoPhotonWeight_spec (9 / 10) (by norm_num) (by norm_num)).1

/-- g2 = 1 − PURITY: the photon-number statistics of one emitter (P(1) = c1+c1d+c1dp,
P(2) = c12d+c1d2d) have `⟨n(n−1)⟩/⟨n⟩² = 1 − purity` for every brightness ≠ 0 and every
indistinguishability, with the two-photon weight obtained from the purity as the code does -/
theorem g2_eq_one_sub_purity (purity nu q thr : ℝ) (h0 : 1 / 2 < purity) (h1 : purity ≤ 1)
    (hν : nu ≠ 0) : g2 (⟨nu, twoPhotonWeight purity, q, thr⟩ : Params ℝ) = 1 - purity :=
  Proofs.C06.g2_eq_one_sub_purity purity nu q thr h0 h1 hν

example : g2 (⟨1 / 2, twoPhotonWeight (9 / 10), 3 / 5, 0⟩ : Params ℝ) = 1 - 9 / 10 :=
  g2_eq_one_sub_purity _ _ _ _ (by norm_num) (by norm_num) (by norm_num)

section Stats
variable {Q : Type} [Field Q] [LinearOrder Q] [IsStrictOrderedRing Q]

/-- every group `group_empty_modes` returns is a run of at least two empty modes that cannot be extended
to the right (`ts` = the groups' non-initial modes), which is what lets `_full_distribution` treat it as
one block -/
theorem groupEmptyModes_valid (s : FState) :
    ValidGrouping s (groupEmptyModes s).1 (groupEmptyModes s).2 :=
  Proofs.C06.groupEmptyModes_valid s

example : ValidGrouping [1, 0, 0, 0, 2, 0] (groupEmptyModes [1, 0, 0, 0, 2, 0]).1
    (groupEmptyModes [1, 0, 0, 0, 2, 0]).2 := groupEmptyModes_valid _

/-- Mixture over independent per-photon emission outcomes: for every observable `F` of annotated
states, `_full_distribution` (empty-mode grouping, per-mode merging of equal label lists, the
`p > 0` filter, the dictionary assignment `new_dist[s1 + s2] = p1 * p2`) gives the same mixture as
the specification `specFull`, which pairs — mode by mode, photon by photon, with fresh labels from
the running counter — all six outcomes of every photon, weights multiplied -/
theorem mix_fullDistribution (P : Params Q) (h : InRange P) (s : FState) (hs : s ≠ [])
    (F : AState → Q) : mix (fullDistribution P s) F = mix (specFull P s).1 F :=
  Proofs.C06.mix_fullDistribution P h s hs F

/-- … and its keys are distinct well-formed states on the state's modes, so no assignment ever
overwrites an entry -/
theorem fullDistribution_keys (P : Params Q) (h : InRange P) (s : FState) :
    ((fullDistribution P s).map (·.1)).Nodup ∧
      ∀ a ∈ (fullDistribution P s).map (·.1), a.WF ∧ a.nModes = s.length :=
  (fullDistribution_inv P h s).nodup_keys

/-- label canonicalisation evaluates every observable on the canonical form of each state and
merges equal canonical states without changing any mixture -/
theorem mix_buildStatisticsFull (P : Params Q) (h : InRange P) (s : FState) (hs : s ≠ [])
    (F : AState → Q) :
    mix (buildStatisticsFull P s) F = mix (specFull P s).1 (fun a => F (remapState a)) :=
  Proofs.C06.mix_buildStatisticsFull P h s hs F

/-- Input statistics are normalised: whatever `_build_statistics` returns sums to one (annotated
and brightness-only path, with or without probability threshold) -/
theorem input_stats_normalised (P : Params Q) (h : InRange P) (s : FState) (hs : s ≠ [])
    (st : Stats Q) (hok : buildStatistics P s = .ok st) : st.total = 1 :=
  Proofs.C06.input_stats_normalised P h s hs st hok

/-- without a threshold every state is accepted (the hypothesis `hok` above is satisfiable) -/
theorem buildStatistics_ok (P : Params Q) (h : InRange P) (hthr : ¬ 0 < P.thr) (s : FState)
    (hs : s ≠ []) : ∃ st, buildStatistics P s = .ok st :=
  Proofs.C06.buildStatistics_ok P h hthr s hs

end Stats

example : ∃ st, buildStatistics (⟨1/2, 1/3, 3/5, 0⟩ : Params ℚ) [2, 0, 0, 1] = .ok st ∧ st.total = 1 := by
  obtain ⟨st, hst⟩ := buildStatistics_ok _ inRange_ex (by norm_num) [2, 0, 0, 1] (by simp)
  exact ⟨st, hst, input_stats_normalised _ inRange_ex _ (by simp) st hst⟩

example (F : AState → ℚ) : mix (fullDistribution (⟨1/2, 1/3, 3/5, 0⟩ : Params ℚ) [2, 0, 0, 1]) F =
    mix (specFull (⟨1/2, 1/3, 3/5, 0⟩ : Params ℚ) [2, 0, 0, 1]).1 F :=
  mix_fullDistribution _ inRange_ex _ (by simp) F

example : ((fullDistribution (⟨1/2, 1/3, 3/5, 0⟩ : Params ℚ) [2, 0, 0, 1]).map (·.1)).Nodup :=
  (fullDistribution_keys _ inRange_ex _).1

example (F : AState → ℚ) : mix (buildStatisticsFull (⟨1/2, 1/3, 3/5, 0⟩ : Params ℚ) [2, 0, 0, 1]) F =
    mix (specFull (⟨1/2, 1/3, 3/5, 0⟩ : Params ℚ) [2, 0, 0, 1]).1 (fun a => F (remapState a)) :=
  mix_buildStatisticsFull _ inRange_ex _ (by simp) F

section Out
variable {K Q : Type}

/-- Output = mixture of the merged outputs of independent groups: for every observable `F` of output
patterns, `annotated_state_pdist_calc` gives the mixture over the source inputs of the
distribution of the merged (mode-wise added) outputs of the per-label groups, each group evolving
by its own boson-sampling distribution `fullDist` (C04) -/
theorem mix_annotatedPdist [CommRing K] [Field Q] [LinearOrder Q] [IsStrictOrderedRing Q]
    (b : BackendKind) (nsq : K → Q) (eps : Q) (U : M K) (nReal : Nat) (inputs : KD AState Q)
    (hne : ∀ x ∈ inputs, ∀ g ∈ groupsOf nReal x.1, fullDist b nsq eps U nReal g ≠ [])
    (F : FState → Q) :
    mix (annotatedPdist b nsq eps U nReal inputs) F =
      mix inputs (fun a => mixGroups ((groupsOf nReal a).map (fullDist b nsq eps U nReal)) F) :=
  Proofs.C06.mix_annotatedPdist b nsq eps U nReal inputs hne F

/-- Output distribution is normalised: unitary `U_full`, no backend truncation ⇒ the Sampler's
distribution with an imperfect source sums to exactly one (both backends, both statistics paths,
any accepted probability threshold) -/
theorem output_normalised [Field K] [StarRing K] [CharZero K] [Field Q] [LinearOrder Q]
    [IsStrictOrderedRing Q] (nsq : K → Q) (ι : Q →+* K) (hι : Function.Injective ι)
    (hnsq : ∀ z, ι (nsq z) = z * star z) (hn : ∀ z, 0 ≤ nsq z)
    (b : BackendKind) (U : M K) (hU : IsUnitary U) (nReal : Nat) (hle : nReal ≤ U.n)
    (hpos : 0 < nReal) (P : Params Q) (h : InRange P) (full : FState) (hlen : full.length = nReal)
    (pd : PDist Q) (hok : samplerDistSrc b nsq 0 U nReal P full = .ok pd) : pd.total = 1 :=
  Proofs.C06.output_normalised nsq ι hι hnsq hn b U hU nReal hle hpos P h full hlen pd hok

/-- Perfect settings reduce to the ideal source: brightness = purity = indistinguishability = 1 and
no threshold give the statistics `{state: 1}`, hence the ideal-source distribution of C04 -/
theorem perfect_reduces_to_ideal [Add K] [Mul K] [Zero K] [One K] [Field Q] [LinearOrder Q]
    [IsStrictOrderedRing Q] (b : BackendKind) (nsq : K → Q) (eps : Q) (U : M K) (nReal : Nat)
    (P : Params Q) (hν : P.nu = 1) (hx : P.p2 = 0) (hq : P.pi = 1) (hthr : ¬ 0 < P.thr)
    (full : FState) :
    samplerDistSrc b nsq eps U nReal P full =
      .ok (let pd := pdistCalc b nsq eps U nReal [(full, 1)]
           if pd.isEmpty then [(List.replicate nReal 0, 1)] else pd) :=
  Proofs.C06.perfect_reduces_to_ideal b nsq eps U nReal P hν hx hq hthr full

end Out

section Mixture
variable {K Q : Type} [CommRing K] [Field Q] [LinearOrder Q] [IsStrictOrderedRing Q]

/-- the photon groups of the canonical (relabelled) state are a permutation of the original groups -/
theorem groupsOf_remap_perm (n : Nat) (a : AState) :
    (groupsOf n (remapState a)).Perm (groupsOf n a) :=
  Proofs.C06.groupsOf_remap_perm n a

example : (groupsOf 2 (remapState (AState.new [[7], [0, 7]]))).Perm (groupsOf 2 (AState.new [[7], [0, 7]])) :=
  groupsOf_remap_perm 2 _

/-- the distribution of the merged output of independent groups does not depend on their order -/
theorem mixGroups_perm {ds ds' : List (PDist Q)} (hp : ds.Perm ds') (F : FState → Q) :
    mixGroups ds F = mixGroups ds' F :=
  Proofs.C06.mixGroups_perm hp F

/-- Remap preserves the mixture: `_remap_distribution` (label canonicalisation + merging of equal
canonical states) does not change the output distribution computed from the statistics -/
theorem remap_preserves_mixture (b : BackendKind) (nsq : K → Q) (eps : Q) (U : M K) (nReal : Nat)
    (d : KD AState Q) (hne : ∀ g : FState, g.length = nReal → fullDist b nsq eps U nReal g ≠ [])
    (F : FState → Q) :
    mix (annotatedPdist b nsq eps U nReal (remapDistribution d)) F =
      mix (annotatedPdist b nsq eps U nReal d) F :=
  Proofs.C06.remap_preserves_mixture b nsq eps U nReal d hne F

/-- The property's main statement: the sampler's distribution (annotated path) equals the mixture
over independent per-photon emission outcomes (`specFull`: six outcomes per photon with the
documented probabilities, fresh labels for distinguishable and noise photons) of the product
(merged outputs) of the independent boson-sampling distributions of the mutually distinguishable
photon groups — for every observable `F` of output patterns -/
theorem output_mixture (b : BackendKind) (nsq : K → Q) (eps : Q) (U : M K) (nReal : Nat)
    (P : Params Q) (h : InRange P) (s : FState) (hs : s ≠ [])
    (hne : ∀ g : FState, g.length = nReal → fullDist b nsq eps U nReal g ≠ []) (F : FState → Q) :
    mix (annotatedPdist b nsq eps U nReal (buildStatisticsFull P s)) F =
      mix (specFull P s).1
        (fun a => mixGroups ((groupsOf nReal a).map (fullDist b nsq eps U nReal)) F) :=
  Proofs.C06.output_mixture b nsq eps U nReal P h s hs hne F

/-- coincidences of two photons from a pure source: `⟨F⟩ = ν² (q² T_ind + (1 − q²) T_dis)` for an
observable vanishing on outputs of fewer than two photons -/
theorem hom_coincidence (b : BackendKind) (nsq : K → Q) (eps : Q) (U : M K) (P : Params Q)
    (h : InRange P) (hx : P.p2 = 0)
    (hne : ∀ g : FState, g.length = 2 → fullDist b nsq eps U 2 g ≠ []) (F : FState → Q)
    (h00 : mix (fullDist b nsq eps U 2 [0, 0]) F = 0)
    (h10 : mix (fullDist b nsq eps U 2 [1, 0]) F = 0)
    (h01 : mix (fullDist b nsq eps U 2 [0, 1]) F = 0) :
    mix (annotatedPdist b nsq eps U 2 (buildStatisticsFull P [1, 1])) F =
      P.nu * P.nu * (P.pi * P.pi * mix (fullDist b nsq eps U 2 [1, 1]) F +
        (1 - P.pi * P.pi) *
          mixGroups [fullDist b nsq eps U 2 [1, 0], fullDist b nsq eps U 2 [0, 1]] F) :=
  Proofs.C06.hom_coincidence b nsq eps U P h hx hne F h00 h10 h01

/-- Hong–Ou–Mandel visibility = indistinguishability (purity 1, brightness ≠ 0): on a circuit where
an indistinguishable pair never gives the observed coincidence and distinguishable photons do, the
visibility `1 − C(q)/C(0)` of the coincidence dip equals `q²`, the indistinguishability -/
theorem hom_visibility_eq_indist (b : BackendKind) (nsq : K → Q) (eps : Q) (U : M K) (P : Params Q)
    (h : InRange P) (hx : P.p2 = 0) (hν : P.nu ≠ 0)
    (hne : ∀ g : FState, g.length = 2 → fullDist b nsq eps U 2 g ≠ []) (F : FState → Q)
    (h00 : mix (fullDist b nsq eps U 2 [0, 0]) F = 0)
    (h10 : mix (fullDist b nsq eps U 2 [1, 0]) F = 0)
    (h01 : mix (fullDist b nsq eps U 2 [0, 1]) F = 0)
    (hind : mix (fullDist b nsq eps U 2 [1, 1]) F = 0)
    (hdis : mixGroups [fullDist b nsq eps U 2 [1, 0], fullDist b nsq eps U 2 [0, 1]] F ≠ 0) :
    1 - mix (annotatedPdist b nsq eps U 2 (buildStatisticsFull P [1, 1])) F /
        mix (annotatedPdist b nsq eps U 2 (buildStatisticsFull { P with pi := 0 } [1, 1])) F =
      P.pi * P.pi :=
  Proofs.C06.hom_visibility_eq_indist b nsq eps U P h hx hν hne F h00 h10 h01 hind hdis

end Mixture

/-- the balanced beam splitter (unnormalised Hadamard over ℤ, every pattern kept): brightness 1/2,
√indistinguishability 3/5 ⇒ visibility 9/25 -/
example : 1 - mix (annotatedPdist .permanent nsqInt (-1) hadamard 2
      (buildStatisticsFull (⟨1/2, 0, 3/5, 0⟩ : Params ℚ) [1, 1])) coincidence /
    mix (annotatedPdist .permanent nsqInt (-1) hadamard 2
      (buildStatisticsFull (⟨1/2, 0, 0, 0⟩ : Params ℚ) [1, 1])) coincidence = 9 / 25 := by
  have := hom_visibility_eq_indist .permanent nsqInt (-1) hadamard (⟨1/2, 0, 3/5, 0⟩ : Params ℚ)
    inRange_pure rfl (by norm_num) hadamard_ne_nil coincidence hadamard_00 hadamard_10 hadamard_01
    hadamard_11 hadamard_dis
  rw [this]; norm_num

example (F : FState → ℚ) : mix (annotatedPdist .permanent nsqInt (-1) hadamard 2
      (buildStatisticsFull (⟨1/2, 1/3, 3/5, 0⟩ : Params ℚ) [1, 1])) F =
    mix (specFull (⟨1/2, 1/3, 3/5, 0⟩ : Params ℚ) [1, 1]).1
      (fun a => mixGroups ((groupsOf 2 a).map (fullDist .permanent nsqInt (-1) hadamard 2)) F) :=
  output_mixture .permanent nsqInt (-1) hadamard 2 _ inRange_ex [1, 1] (by simp) hadamard_ne_nil F

/-- two inputs: a distinguishable and an indistinguishable photon pair -/
example (F : FState → ℚ) : mix (annotatedPdist .permanent nsqInt (-1) hadamard 2
      [(AState.new [[0], [3]], 1/2), (AState.new [[0], [0]], 1/2)]) F =
    mix [(AState.new [[0], [3]], (1/2 : ℚ)), (AState.new [[0], [0]], 1/2)]
      (fun a => mixGroups ((groupsOf 2 a).map (fullDist .permanent nsqInt (-1) hadamard 2)) F) :=
  mix_annotatedPdist .permanent nsqInt (-1) hadamard 2 _
    (fun x _ g hg => hadamard_ne_nil g (groupsOf_len 2 x.1 g hg)) F

example (F : FState → ℚ) :
    mixGroups [fullDist .permanent nsqInt (-1) hadamard 2 [1, 0], fullDist .permanent nsqInt (-1) hadamard 2 [0, 1]] F =
    mixGroups [fullDist .permanent nsqInt (-1) hadamard 2 [0, 1], fullDist .permanent nsqInt (-1) hadamard 2 [1, 0]] F :=
  mixGroups_perm (List.Perm.swap _ _ _) F

example (F : FState → ℚ) : mix (annotatedPdist .permanent nsqInt (-1) hadamard 2
      (remapDistribution (fullDistribution (⟨1/2, 1/3, 3/5, 0⟩ : Params ℚ) [1, 1]))) F =
    mix (annotatedPdist .permanent nsqInt (-1) hadamard 2
      (fullDistribution (⟨1/2, 1/3, 3/5, 0⟩ : Params ℚ) [1, 1])) F :=
  remap_preserves_mixture .permanent nsqInt (-1) hadamard 2 _ hadamard_ne_nil F

example : mix (annotatedPdist .permanent nsqInt (-1) hadamard 2
      (buildStatisticsFull (⟨1/2, 0, 3/5, 0⟩ : Params ℚ) [1, 1])) coincidence =
    1/2 * (1/2) * (3/5 * (3/5) * mix (fullDist .permanent nsqInt (-1) hadamard 2 [1, 1]) coincidence +
      (1 - 3/5 * (3/5)) * mixGroups [fullDist .permanent nsqInt (-1) hadamard 2 [1, 0],
        fullDist .permanent nsqInt (-1) hadamard 2 [0, 1]] coincidence) :=
  hom_coincidence .permanent nsqInt (-1) hadamard _ inRange_pure rfl hadamard_ne_nil coincidence
    hadamard_00 hadamard_10 hadamard_01

section TwoPhotons
variable {K Q : Type} [CommRing K] [Field Q] [LinearOrder Q] [IsStrictOrderedRing Q]

/-- two photons (one per mode) from a pure source: `⟨F⟩ = (1-ν)² V00 + (1-ν)ν (V10 + V01) +
ν² (q² V11 + (1-q²) T_dis)` -/
theorem two_photon_pure (b : BackendKind) (nsq : K → Q) (eps : Q) (U : M K) (P : Params Q)
    (h : InRange P) (hx : P.p2 = 0)
    (hne : ∀ g : FState, g.length = 2 → fullDist b nsq eps U 2 g ≠ []) (F : FState → Q) :
    mix (annotatedPdist b nsq eps U 2 (buildStatisticsFull P [1, 1])) F =
      (1 - P.nu) * (1 - P.nu) * mix (fullDist b nsq eps U 2 [0, 0]) F +
      (1 - P.nu) * P.nu * (mix (fullDist b nsq eps U 2 [1, 0]) F + mix (fullDist b nsq eps U 2 [0, 1]) F) +
      P.nu * P.nu * (P.pi * P.pi * mix (fullDist b nsq eps U 2 [1, 1]) F +
        (1 - P.pi * P.pi) *
          mixGroups [fullDist b nsq eps U 2 [1, 0], fullDist b nsq eps U 2 [0, 1]] F) :=
  Proofs.C06.two_photon_pure b nsq eps U P h hx hne F

/-- Zero indistinguishability gives classical particles, for every input state: the output is that
of independent particles, each emitted with probability ν and moving by its own single-photon
distribution (`classicalMix`). -/
def zero_indist_classical_statement : Prop := Proofs.C06.zero_indist_classical_statement

/-- proof in LW/Proofs/C06Limits.lean: both sides are the emission mixture over the photons of
`partitionIdx s`; a state whose labels are pairwise distinct has one single-photon group per photon
(`groupsP_distinct`) -/
theorem zero_indist_classical : zero_indist_classical_statement :=
  Proofs.C06.zero_indist_classical

/-- `zero_indist_classical` at one photon in each of two modes (an instance; nothing is left open) -/
theorem zero_indist_classical_partial (b : BackendKind) (nsq : K → Q) (eps : Q) (U : M K)
    (P : Params Q) (h : InRange P) (hx : P.p2 = 0) (hq : P.pi = 0)
    (hne : ∀ g : FState, g.length = 2 → fullDist b nsq eps U 2 g ≠ []) (F : FState → Q) :
    mix (annotatedPdist b nsq eps U 2 (buildStatisticsFull P [1, 1])) F =
      classicalMix (fullDist b nsq eps U 2) 2 P.nu (partitionIdx [1, 1]) none F :=
  zero_indist_classical K Q b nsq eps U 2 P h hx hq [1, 1] rfl (List.cons_ne_nil _ _) hne F

/-- `pdist_calc` (State variant) before its vacuum bookkeeping, as a mixture over the inputs -/
theorem mix_calcPd (b : BackendKind) (nsq : K → Q) (eps : Q) (U : M K) (nReal : Nat)
    (inputs : List (FState × Q)) (F : FState → Q) :
    mix (Proofs.C04a.calcPd b nsq eps U nReal inputs) F =
      mix inputs (fun s => mix (fullDist b nsq eps U nReal s) F) :=
  Proofs.C04a.mix_calcPd b nsq eps U nReal inputs F

/-- Brightness-only path = annotated path at purity = indistinguishability = 1, for every input
state. -/
def basic_path_eq_full_path_statement : Prop := Proofs.C06.basic_path_eq_full_path_statement

/-- proof in LW/Proofs/C06Limits.lean: the brightness-only statistics are the emission mixture of
the occupation vectors (`mix_buildStatisticsBasic`), and a state whose labels are all `0` is a
single group -/
theorem basic_path_eq_full_path : basic_path_eq_full_path_statement :=
  Proofs.C06.basic_path_eq_full_path

/-- `basic_path_eq_full_path` at one photon in each of two modes (an instance; nothing is left open) -/
theorem basic_path_eq_full_path_partial (b : BackendKind) (nsq : K → Q) (eps : Q) (U : M K)
    (P : Params Q) (h : InRange P) (hx : P.p2 = 0) (hq : P.pi = 1)
    (hne : ∀ g : FState, g.length = 2 → fullDist b nsq eps U 2 g ≠ []) (F : FState → Q) :
    mix (annotatedPdist b nsq eps U 2 (buildStatisticsFull P [1, 1])) F =
      mix (Proofs.C04a.calcPd b nsq eps U 2 (buildStatisticsBasic P [1, 1])) F :=
  basic_path_eq_full_path K Q b nsq eps U 2 P h hx hq [1, 1] rfl (List.cons_ne_nil _ _) hne F

end TwoPhotons

example (F : FState → ℚ) : mix (annotatedPdist .permanent nsqInt (-1) hadamard 2
      (buildStatisticsFull (⟨1/2, 0, 3/5, 0⟩ : Params ℚ) [1, 1])) F =
      (1 - 1/2) * (1 - 1/2) * mix (fullDist .permanent nsqInt (-1) hadamard 2 [0, 0]) F +
      (1 - 1/2) * (1/2) * (mix (fullDist .permanent nsqInt (-1) hadamard 2 [1, 0]) F +
        mix (fullDist .permanent nsqInt (-1) hadamard 2 [0, 1]) F) +
      1/2 * (1/2) * (3/5 * (3/5) * mix (fullDist .permanent nsqInt (-1) hadamard 2 [1, 1]) F +
        (1 - 3/5 * (3/5)) * mixGroups [fullDist .permanent nsqInt (-1) hadamard 2 [1, 0],
          fullDist .permanent nsqInt (-1) hadamard 2 [0, 1]] F) :=
  two_photon_pure .permanent nsqInt (-1) hadamard _ inRange_pure rfl hadamard_ne_nil F

example (F : FState → ℚ) : mix (annotatedPdist .permanent nsqInt (-1) hadamard 2
      (buildStatisticsFull (⟨1/2, 0, 0, 0⟩ : Params ℚ) [1, 1])) F =
    classicalMix (fullDist .permanent nsqInt (-1) hadamard 2) 2 (1/2) (partitionIdx [1, 1]) none F :=
  zero_indist_classical_partial .permanent nsqInt (-1) hadamard _ inRange_q0 rfl rfl hadamard_ne_nil F

example (F : FState → ℚ) : mix (annotatedPdist .permanent nsqInt (-1) hadamard 2
      (buildStatisticsFull (⟨1/2, 0, 1, 0⟩ : Params ℚ) [1, 1])) F =
    mix (Proofs.C04a.calcPd .permanent nsqInt (-1) hadamard 2
      (buildStatisticsBasic (⟨1/2, 0, 1, 0⟩ : Params ℚ) [1, 1])) F :=
  basic_path_eq_full_path_partial .permanent nsqInt (-1) hadamard _ inRange_q1 rfl rfl hadamard_ne_nil F

/-- the full statements on an input with a doubly occupied mode -/
example (F : FState → ℚ) : mix (annotatedPdist .permanent nsqInt (-1) hadamard 2
      (buildStatisticsFull (⟨1/2, 0, 0, 0⟩ : Params ℚ) [2, 1])) F =
    classicalMix (fullDist .permanent nsqInt (-1) hadamard 2) 2 (1/2) (partitionIdx [2, 1]) none F :=
  zero_indist_classical ℤ ℚ .permanent nsqInt (-1) hadamard 2 _ inRange_q0 rfl rfl [2, 1] rfl
    (by simp) hadamard_ne_nil F

example (F : FState → ℚ) : mix (annotatedPdist .permanent nsqInt (-1) hadamard 2
      (buildStatisticsFull (⟨1/2, 0, 1, 0⟩ : Params ℚ) [2, 1])) F =
    mix (Proofs.C04a.calcPd .permanent nsqInt (-1) hadamard 2
      (buildStatisticsBasic (⟨1/2, 0, 1, 0⟩ : Params ℚ) [2, 1])) F :=
  basic_path_eq_full_path ℤ ℚ .permanent nsqInt (-1) hadamard 2 _ inRange_q1 rfl rfl [2, 1] rfl
    (by simp) hadamard_ne_nil F

example (F : FState → ℚ) : mix (Proofs.C04a.calcPd .permanent nsqInt (-1) hadamard 2 [([1, 1], 1/2), ([0, 0], 1/2)]) F =
    mix [(([1, 1] : FState), (1/2 : ℚ)), ([0, 0], 1/2)]
      (fun s => mix (fullDist .permanent nsqInt (-1) hadamard 2 s) F) :=
  mix_calcPd .permanent nsqInt (-1) hadamard 2 _ F

section Examples
open LW.Proofs.FockIso (rot rot_unitary)

/-- a unitary 2-mode circuit over ℂ, photons in both modes, imperfect in all three parameters -/
example : ∃ pd, samplerDistSrc .slos Complex.normSq 0 rot 2 (⟨1/2, 1/3, 3/5, 0⟩ : Params ℝ) [1, 1] = .ok pd ∧
    pd.total = 1 := by
  obtain ⟨pd, hpd⟩ := samplerDistSrc_ok .slos Complex.normSq 0 rot 2 _ inRange_exR (by norm_num)
    [1, 1] (by simp)
  exact ⟨pd, hpd, output_normalised Complex.normSq Complex.ofRealHom Complex.ofReal_injective
    (fun z => (Complex.mul_conj z).symm) Complex.normSq_nonneg .slos rot rot_unitary 2 (by decide)
    (by decide) _ inRange_exR [1, 1] rfl pd hpd⟩

example : samplerDistSrc .permanent Complex.normSq 0 rot 2 (⟨1, 0, 1, 0⟩ : Params ℝ) [1, 1] =
    .ok (let pd := pdistCalc .permanent Complex.normSq 0 rot 2 [([1, 1], 1)]
         if pd.isEmpty then [([0, 0], 1)] else pd) :=
  perfect_reduces_to_ideal .permanent Complex.normSq 0 rot 2 _ rfl rfl rfl (by norm_num) [1, 1]

end Examples

end LW.C06
