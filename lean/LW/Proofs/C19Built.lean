/-
  LW.Proofs.C19Built — everything the construction API builds can be displayed.  `DeepOk n`: a spec
  entry and the leaves inside it are drawable on `n` modes; it is kept by the relabellings of
  `Circuit.add` and by the rewrites, so it is an `ApiStable`, and `Built` (`Circ.WF`, `DeepOk`
  throughout, and the rest of `Disp.WF`) is an invariant of the API.
-/
import LW.Proofs.C19Display
import LW.Proofs.C02AddShape
import LW.Proofs.ApiInv

namespace LW.Disp

open LW LW.Proofs

variable {K : Type}

/-! Under the relabellings of `add`: for a leaf the "modes below `n`" half of `CompOk` is C02's; what
is left is `ShapeOk`, and the ancilla-aware re-indexing of group boxes and of the heralds shown on
them (`bumpGroupHeralds`). -/

theorem primModes_eq (p : Prim K) : primModes p = p.modes := by
  cases p <;> rfl

theorem compOk_prim_of_modes {n : Nat} {p : Prim K} (hm : ∀ m ∈ p.modes, m < n)
    (hs : ShapeOk n (.prim p)) : CompOk n (.prim p) :=
  (compOk_prim_iff p).mpr ⟨by rwa [primModes_eq], hs⟩

theorem CompOk.modes_lt {n : Nat} {p : Prim K} (h : CompOk n (.prim p)) : ∀ m ∈ p.modes, m < n := by
  rw [← primModes_eq]
  exact ((compOk_prim_iff p).mp h).1

/-- `ShapeOk` of a leaf does not mention the number of modes -/
theorem CompOk.shape {n : Nat} {p : Prim K} (h : CompOk n (.prim p)) (n' : Nat) :
    ShapeOk n' (.prim p) := by
  have := ((compOk_prim_iff p).mp h).2
  cases p <;> exact this

theorem compOk_mono {n n' : Nat} (h : n ≤ n') : ∀ comp : Comp K, CompOk n comp → CompOk n' comp
  | .prim _, hc =>
    compOk_prim_of_modes (fun m hm => Nat.lt_of_lt_of_le (hc.modes_lt m hm) h) (hc.shape n')
  | .group .., hc => ⟨Nat.lt_of_lt_of_le hc.1 h, Nat.lt_of_lt_of_le hc.2.1 h,
      fun k hk => Nat.lt_of_lt_of_le (hc.2.2 k hk) h⟩

theorem bump_min (mode a b : Nat) : min (bump mode a) (bump mode b) = bump mode (min a b) := by
  rcases Nat.le_total a b with h | h
  · rw [Nat.min_eq_left h, Nat.min_eq_left (C02.bump_mono h)]
  · rw [Nat.min_eq_right h, Nat.min_eq_right (C02.bump_mono h)]

/-- the heralds shown on a group box keep their place on the enlarged circuit: the box starts at
`bump mode (min m1 m2)`; an offset grows only if `m1` lies below the new mode, and then the start
of the box stays where it was -/
theorem bumpGroupHeralds_keys_lt {n mode m1 m2 : Nat} {d : Dict}
    (hd : ∀ x ∈ d.keys, x + min m1 m2 < n) :
    ∀ x ∈ (bumpGroupHeralds mode (bump mode m1) d).keys,
      x + min (bump mode m1) (bump mode m2) < n + 1 := by
  intro x hx
  obtain ⟨_, hq', rfl⟩ := List.mem_map.mp (C02.mem_keys_ofPairs.mp hx)
  obtain ⟨q, hq, rfl⟩ := List.mem_map.mp hq'
  have := hd q.1 (List.mem_map.mpr ⟨q, hq, rfl⟩)
  rw [bump_min]
  dsimp only
  split
  · rename_i hc
    have h1m : m1 < mode := by
      rcases Nat.lt_or_ge m1 mode with h | h
      · exact h
      · have := C02.bump_of_ge h
        omega
    rw [C02.bump_of_lt (Nat.lt_of_le_of_lt (Nat.min_le_left m1 m2) h1m)]
    omega
  · have := C02.bump_le_succ mode (min m1 m2)
    omega

section
variable [Zero K] [One K]

/-- `add_empty_mode_to_circuit_spec` keeps a component drawable on the enlarged circuit -/
theorem compOk_addEmptyMode {n : Nat} (mode : Nat) (comp : Comp K) (h : CompOk n comp) :
    CompOk (n + 1) (comp.addEmptyMode mode) := by
  cases comp with
  | prim p =>
    refine compOk_prim_of_modes (C02.Prim.modes_addEmptyMode_lt mode n p h.modes_lt) ?_
    have hs := h.shape (n + 1)
    cases p with
    | bs m1 m2 c s cv => exact fun e => hs (C02.bump_inj e)
    | unitary m u =>
      simp only [Prim.addEmptyMode]
      split
      · exact Nat.succ_pos u.n
      · exact hs
    | _ => trivial
  | group cs m1 m2 hin hout =>
    obtain ⟨h1, h2, hh⟩ := h
    refine ⟨C02.bump_lt_succ h1, C02.bump_lt_succ h2, fun k hk => ?_⟩
    rcases List.mem_append.mp hk with hk | hk
    · exact bumpGroupHeralds_keys_lt (fun x hx => hh x (List.mem_append_left _ hx)) k hk
    · exact bumpGroupHeralds_keys_lt (fun x hx => hh x (List.mem_append_right _ hx)) k hk

end

/-- `add_modes_to_circuit_spec` keeps a component drawable on a circuit with `k` more modes -/
theorem compOk_shift {n : Nat} (k : Nat) (comp : Comp K) (h : CompOk n comp) :
    CompOk (n + k) (comp.shift k) := by
  cases comp with
  | prim p =>
    refine compOk_prim_of_modes (C02.Prim.modes_shift_lt k n p h.modes_lt) ?_
    have hs := h.shape (n + k)
    cases p with
    | bs m1 m2 c s cv => exact fun e => hs (Nat.add_right_cancel e)
    | unitary m u => exact hs
    | _ => trivial
  | group cs m1 m2 hin hout =>
    obtain ⟨h1, h2, hh⟩ := h
    refine ⟨Nat.add_lt_add_right h1 k, Nat.add_lt_add_right h2 k, fun x hx => ?_⟩
    show x + min (m1 + k) (m2 + k) < n + k
    rw [Nat.add_min_add_right, ← Nat.add_assoc]
    exact Nat.add_lt_add_right (hh x hx) k

/-- the leaves inside a group have to be drawable too: `unpack_groups` exposes them -/
def DeepOk (n : Nat) (comp : Comp K) : Prop :=
  CompOk n comp ∧ ∀ p ∈ comp.toPrims, CompOk n (Comp.prim p)

theorem deepOk_prim {n : Nat} {p : Prim K} (h : CompOk n (Comp.prim p)) : DeepOk n (Comp.prim p) :=
  ⟨h, fun _ hq => List.mem_singleton.mp hq ▸ h⟩

theorem DeepOk.leaf {n : Nat} {comp : Comp K} (h : DeepOk n comp) {p : Prim K}
    (hp : p ∈ comp.toPrims) : DeepOk n (Comp.prim p) :=
  deepOk_prim (h.2 p hp)

theorem DeepOk.map {n n' : Nat} {f : Comp K → Comp K} {g : Prim K → Prim K}
    (hf : ∀ c, (f c).toPrims = c.toPrims.map g) (hg : ∀ p, f (.prim p) = .prim (g p))
    (hok : ∀ c, CompOk n c → CompOk n' (f c)) {comp : Comp K} (h : DeepOk n comp) :
    DeepOk n' (f comp) := by
  refine ⟨hok comp h.1, fun q hq => ?_⟩
  rw [hf] at hq
  obtain ⟨p, hp, rfl⟩ := List.mem_map.mp hq
  rw [← hg]
  exact hok _ (h.2 p hp)

theorem DeepOk.mono {n n' : Nat} (hn : n ≤ n') {comp : Comp K} (h : DeepOk n comp) :
    DeepOk n' comp :=
  ⟨compOk_mono hn comp h.1, fun p hp => compOk_mono hn _ (h.2 p hp)⟩

theorem DeepOk.shift {n : Nat} (k : Nat) {comp : Comp K} (h : DeepOk n comp) :
    DeepOk (n + k) (comp.shift k) :=
  h.map (g := Prim.shift k) (fun c => by cases c <;> rfl) (fun _ => rfl) (compOk_shift k)

theorem DeepOk.addEmptyMode [Zero K] [One K] {n : Nat} (mode : Nat) {comp : Comp K}
    (h : DeepOk n comp) : DeepOk (n + 1) (comp.addEmptyMode mode) :=
  h.map (g := Prim.addEmptyMode mode) (fun c => by cases c <;> rfl) (fun _ => rfl)
    (compOk_addEmptyMode mode)

/-- `Disp.WF` on top of the bookkeeping invariant `Circ.WF` (which is what `add` needs to know of a
circuit it is given), with drawable leaves inside groups -/
structure Built (c : Circ K) : Prop where
  /-- a conjunction, because this is the invariant `ApiStable.apiInv` delivers for `DeepOk` (`apiStable_deep`) -/
  core : c.WF ∧ ∀ comp ∈ c.spec, DeepOk c.n comp
  pos : 0 < c.n
  extInLt : ∀ k ∈ c.extIn.keys, k < c.n
  extOutLt : ∀ k ∈ c.extOut.keys, k < c.n

theorem Built.wf {c : Circ K} (hb : Built c) : WF c :=
  { pos := hb.pos, intNodup := hb.core.1.intNodup, intLt := C02.WF.internal_lt hb.core.1,
    extInLt := hb.extInLt, extOutLt := hb.extOutLt, compOk := fun comp hc => (hb.core.2 comp hc).1 }

theorem wf_copy {c : Circ K} (hw : WF c) : WF c.copy := hw

theorem compOk_of_leaf {c : Circ K} {q : Prim K} (h : c.Leaf q) : CompOk c.n (.prim q) := by
  cases h with
  | bs x y cv ha hb hab => exact ⟨ha.1, hb.1, hab⟩
  | ps p ha => exact ha.1
  | loss x y ha => exact ha.1
  | barrier h => exact fun m hm => (h m hm).1
  | swaps _ _ h => exact fun m hm => (h m hm).1

/-! `DictLt n` (keys and values below `n`) is what `CompOk` asks of a swap; it is kept by the assignment
loops that build `nonAdjSwaps`' inverse and `combineSwapDicts`. -/

theorem DictLt.foldl_set {n : Nat} (ps : List (Nat × Nat)) {d : Dict} (hd : DictLt n d)
    (hps : DictLt n ps) : DictLt n (ps.foldl (fun d p => d.set p.1 p.2) d) :=
  fun q hq => (Assoc.mem_foldl_put hq).elim (hd q) (hps q)

theorem DictLt.ofPairs {n : Nat} {ps : List (Nat × Nat)} (hps : DictLt n ps) :
    DictLt n (Dict.ofPairs ps) :=
  DictLt.foldl_set ps (fun _ h => nomatch h) hps

theorem nonAdjSwaps_bound {lo hi n : Nat} (h : lo ≤ hi) (hn : hi < n) :
    DictLt n (nonAdjSwaps lo hi) := by
  -- all that matters of the middle mode is that it is not above `hi`: the first half of the
  -- dictionary stays in `lo … mid`, the second in `mid + 1 … hi`
  have hmid : (lo + hi - 1) / 2 ≤ hi := by omega
  intro p hp
  unfold nonAdjSwaps at hp
  generalize (lo + hi - 1) / 2 = mid at hp hmid
  rcases List.mem_append.mp hp with hp | hp
  · obtain ⟨k, hk, rfl⟩ := List.mem_map.mp hp
    have hi' : lo + k ≤ mid := by have := List.mem_range.mp hk; omega
    have hlt : ∀ x, x ≤ mid → x < n := fun x hx => Nat.lt_of_le_of_lt (Nat.le_trans hx hmid) hn
    refine ⟨hlt _ hi', ?_⟩
    dsimp only
    split
    · exact hlt _ (Nat.le_refl _)
    · exact hlt _ (Nat.le_trans (Nat.sub_le _ _) hi')
  · obtain ⟨k, hk, rfl⟩ := List.mem_map.mp hp
    have hi' : mid + 1 + k ≤ hi := by have := List.mem_range.mp hk; omega
    refine ⟨Nat.lt_of_le_of_lt hi' hn, ?_⟩
    dsimp only
    split
    · exact Nat.lt_of_le_of_lt (Nat.le_trans (Nat.le_add_right _ k) hi') hn
    · rename_i hne
      exact Nat.lt_of_le_of_lt (Nat.succ_le_of_lt (Nat.lt_of_le_of_ne hi' hne)) hn

theorem swap_bs_swap_ok {n : Nat} {σ : Dict} {a1 a2 : Nat} (hσ : DictLt n σ)
    (h1 : a1 < n) (h2 : a2 < n) (hne : a1 ≠ a2) (c s : K) (cv : Conv) :
    ∀ q ∈ [Prim.swaps σ, .bs a1 a2 c s cv, .swaps (Dict.ofPairs (σ.map fun p => (p.2, p.1)))],
      CompOk n (Comp.prim q) := by
  intro q hq
  simp only [List.mem_cons, List.not_mem_nil, or_false] at hq
  rcases hq with rfl | rfl | rfl
  · exact dictLt_iff.mp hσ
  · exact ⟨h1, h2, hne⟩
  · exact dictLt_iff.mp (DictLt.ofPairs fun q hq =>
      let ⟨p, hp, e⟩ := List.mem_map.mp hq
      e ▸ ⟨(hσ p hp).2, (hσ p hp).1⟩)

theorem convertNonAdj_prim_ok {n : Nat} (p : Prim K) (h : CompOk n (Comp.prim p)) :
    ∀ q ∈ p.convertNonAdj, CompOk n (Comp.prim q) := by
  rcases Prim.convertNonAdj_cases p with e | ⟨m1, m2, c, s, cv, rfl, hna⟩
  · rw [e]
    exact fun q hq => List.mem_singleton.mp hq ▸ h
  · obtain ⟨h1, h2, h12⟩ := h
    rw [Prim.convertNonAdj_bs_nonadj m1 m2 c s cv hna]
    have hhi : max m1 m2 < n := Nat.max_lt.mpr ⟨h1, h2⟩
    have hb := nonAdjSwaps_bound (min_le_max m1 m2) hhi
    -- the two modes differ, so the middle mode lies below the higher one
    have hmid : (min m1 m2 + max m1 m2 - 1) / 2 + 1 ≤ max m1 m2 := by
      have := min_lt_max h12
      omega
    have hlo := Nat.lt_of_lt_of_le (Nat.lt_succ_self _) (Nat.le_trans hmid (Nat.le_of_lt hhi))
    have hup := Nat.lt_of_le_of_lt hmid hhi
    split
    · exact swap_bs_swap_ok hb hup hlo (Nat.succ_ne_self _) c s cv
    · exact swap_bs_swap_ok hb hlo hup (Nat.succ_ne_self _).symm c s cv

theorem combineSwapDicts_lt {n : Nat} {s1 s2 : Dict} (h1 : DictLt n s1) (h2 : DictLt n s2) :
    DictLt n (combineSwapDicts s1 s2) := by
  unfold combineSwapDicts
  dsimp only
  have hpart : DictLt n (s1.map fun p => (p.1, if s2.contains p.2 then s2.getD p.2 p.2 else p.2)) := by
    intro q hq
    obtain ⟨p, hp, rfl⟩ := List.mem_map.mp hq
    refine ⟨(h1 p hp).1, ?_⟩
    dsimp only
    split
    · unfold Dict.getD
      cases hg : s2.get? p.2 with
      | none => exact (h1 p hp).2
      | some w => exact dictLt_iff.mp h2 w (List.mem_append_right _ (C02.get?_mem_vals hg))
    · exact (h1 p hp).2
  exact fun q hq => DictLt.foldl_set _ hpart (fun p hp => h2 p (List.mem_filter.mp hp).1) q
    (List.mem_filter.mp hq).1

/-! The steps of `add` are those of LW/Proofs/C02AddDefs.lean. -/

theorem bumpDict_keys {d : Dict} (mode : Nat) (h : d.keys.Nodup) :
    (bumpDict mode d).keys = d.keys.map (bump mode) := by
  rw [C02.bumpDict_of_nodup h, C02.keys_mapKeys]

theorem bumpDict_keys_lt {d : Dict} {n : Nat} (mode : Nat) (h : ∀ k ∈ d.keys, k < n) :
    ∀ k ∈ (bumpDict mode d).keys, k < n + 1 := by
  intro k hk
  obtain ⟨_, hq', rfl⟩ := List.mem_map.mp (C02.mem_keys_ofPairs.mp hk)
  obtain ⟨q, hq, rfl⟩ := List.mem_map.mp hq'
  exact C02.bump_lt_succ (h _ (List.mem_map.mpr ⟨q, hq, rfl⟩))

theorem insDict_keys_lt {d : Dict} {n : Nat} (ks : List Nat) (h : ∀ k ∈ d.keys, k < n) :
    ∀ k ∈ (C02.insDict ks d).keys, k < n + ks.length := by
  induction ks generalizing d n with
  | nil => exact h
  | cons k ks ih =>
    rw [List.length_cons, Nat.add_comm ks.length, ← Nat.add_assoc]
    exact ih (bumpDict_keys_lt k h)

section
variable [Zero K] [One K]

/-- `add` touches the dictionaries of the parent's visible heralds only by inserting the new
ancilla modes, and each insertion leaves room for the keys it moves -/
theorem addFinal_ext (self : Circ K) (st : Circ.AddSt K) (mode : Nat) (g : Bool)
    (hin : ∀ k ∈ self.extIn.keys, k < self.n) (hout : ∀ k ∈ self.extOut.keys, k < self.n) :
    (∀ k ∈ (C02.addFinal self st mode g).extIn.keys, k < (C02.addFinal self st mode g).n) ∧
      ∀ k ∈ (C02.addFinal self st mode g).extOut.keys, k < (C02.addFinal self st mode g).n := by
  rw [C02.addFinal_record, ← C02.ancPos_length mode]
  exact ⟨insDict_keys_lt _ hin, insDict_keys_lt _ hout⟩

theorem add_ext {self sub self' : Circ K} {m : Int} {g : Bool} (h : self.add sub m g = .ok self')
    (hpos : 0 < self.n) (hin : ∀ k ∈ self.extIn.keys, k < self.n)
    (hout : ∀ k ∈ self.extOut.keys, k < self.n) :
    0 < self'.n ∧ (∀ k ∈ self'.extIn.keys, k < self'.n) ∧ ∀ k ∈ self'.extOut.keys, k < self'.n := by
  obtain ⟨mode, _, -, -, -, rfl⟩ := C02.add_ok_ins h
  exact ⟨(C02.addFinal_shape self _ mode _).1 ▸ Nat.add_pos_left hpos _,
    addFinal_ext self _ mode _ hin hout⟩

end

/-- constructors that produce at least one mode (what the invariant needs of a history): the predicates
`(0 < ·)` and `BlockPos` of `apiInv_built`, read on the operations -/
def OpSane : CircOp K → Prop
  | .new _ n => 0 < n
  | .unitary _ u => 0 < u.n
  | _ => True

section
variable [Zero K] [One K]

/-- a unitary block is not 0×0 -/
def BlockPos : Prim K → Prop
  | .unitary _ u => 0 < u.n
  | _ => True

theorem apiStable_deep : ApiStable BlockPos (DeepOk (K := K)) where
  mono h hN := h.mono hN
  addEmptyMode h t := h.addEmptyMode t
  shift h k := h.shift k
  swaps {c} hwf := deepOk_prim (p := .swaps _) (C02.synthSwaps_zipHer_lt c hwf)
  leaf h _ hp := h.leaf hp
  group lo w _ _ hcs _ hlo hw hk :=
    ⟨⟨hlo, by omega, fun k hk' => by have := hk k hk'; omega⟩, fun p hp => (hcs p hp).1⟩
  modes_lt {n x} h := by
    cases x with
    | prim p => exact CompOk.modes_lt h.1
    | group cs _ _ _ _ =>
      exact fun m hm =>
        let ⟨p, hp, hm⟩ := List.mem_flatMap.mp hm
        CompOk.modes_lt (h.2 p hp) m hm
  checked hq _ := deepOk_prim (compOk_of_leaf hq)
  block u hu := deepOk_prim (p := .unitary 0 u) ⟨hu, Nat.le_of_eq (Nat.zero_add _)⟩
  combine hσ hτ := deepOk_prim (p := .swaps _) (dictLt_iff.mp
    (combineSwapDicts_lt (dictLt_iff.mpr hσ.1) (dictLt_iff.mpr hτ.1)))
  nonadj h q hq := deepOk_prim (convertNonAdj_prim_ok _ h.1 q hq)
  nonadjGroup h := ⟨h.1, fun r hr =>
    let ⟨q, hq, hrq⟩ := List.mem_flatMap.mp hr
    convertNonAdj_prim_ok q (h.2 q hq) r hrq⟩

theorem apiInv_built : ApiInv BlockPos (0 < ·) (Built (K := K)) :=
  have core := apiStable_deep (K := K).apiInv
  { new := fun n hn => ⟨core.new n trivial, hn, nofun, nofun⟩
    unitary := fun u hu => ⟨core.unitary u hu, hu, nofun, nofun⟩
    prims := fun hc hps => ⟨core.prims hc.core hps, hc.pos, hc.extInLt, hc.extOutLt⟩
    herald := fun {c c' k i o} hc h => by
      have hcore := core.herald hc.core h
      obtain ⟨a, ha, b, hb, -, -, rfl⟩ := Circ.herald_ok.mp h
      exact ⟨hcore, hc.pos, C02.keys_set_lt hc.extInLt (Circ.modeInRange_lt ha),
        C02.keys_set_lt hc.extOutLt (Circ.modeInRange_lt hb)⟩
    add := fun hc hs h =>
      let ⟨h0, h1, h2⟩ := add_ext h hc.pos hc.extInLt hc.extOutLt
      ⟨core.add hc.core hs.core h, h0, h1, h2⟩
    plus := fun {a b c'} ha hb h => by
      have hcore := core.plus ha.core hb.core h
      obtain ⟨-, -, rfl⟩ := Circ.plus_ok.mp h
      exact ⟨hcore, ha.pos, nofun, nofun⟩
    unpack := fun hc => ⟨core.unpack hc.core, hc.pos, hc.core.1.inLt, hc.core.1.outLt⟩
    compress := fun hc => ⟨core.compress hc.core, hc.pos, hc.extInLt, hc.extOutLt⟩
    nonadj := fun hc => ⟨core.nonadj hc.core, hc.pos, hc.extInLt, hc.extOutLt⟩ }

theorem heapRun_built {ops : List (CircOp K)} {h h' : Heap K} (hh : Heap.All Built h)
    (hc : ∀ op ∈ ops, OpSane op) {rs : List Outcome} (hr : heapRun h ops = some (h', rs)) :
    Heap.All Built h' :=
  apiInv_built.heapRun (fun _ _ hq => by cases hq <;> trivial) hh (fun _ _ ho => hc _ ho)
    (fun _ _ ho => hc _ ho) hr

end

end LW.Disp
