/-
  LW.Proofs.C02SemClosed — the canonical closed form of a circuit on its own modes (`closedOf`: free
  modes ascending, heralds in declaration order, loss), and `View i c x anc`: the optic `x` presents
  the circuit `c` with its ancillas in the order `anc`. A presentation has the closed form `closedOf`
  whatever the order (`View.closed`); the abstraction `toOptic` is one (`view_toOptic`, hence
  `closed_toOptic`).
-/
import LW.Proofs.C02SemAbs

open scoped BigOperators

namespace LW.Proofs.C02Sem

open LW LW.Proofs.C01Aux LW.Proofs.C02

variable {K : Type}

/-- `colIdx`, `rowIdx`: the index maps through which `Optic.closed` reads `W` (`closed_eq`, by
`rfl`): free ports, then heralds, then loss -/
def colIdx (x : Optic K) (y : Nat) : Nat :=
  if y < x.freeIn.length then x.freeIn.getD y 0
  else if y < x.freeIn.length + x.her.length then (x.her.getD (y - x.freeIn.length) ⟨0, 0, 0⟩).i
  else x.p + x.a + (y - x.freeIn.length - x.her.length)

def rowIdx (x : Optic K) (y : Nat) : Nat :=
  if y < x.freeIn.length then x.freeOut.getD y 0
  else if y < x.freeIn.length + x.her.length then (x.her.getD (y - x.freeIn.length) ⟨0, 0, 0⟩).o
  else x.p + x.a + (y - x.freeIn.length - x.her.length)

theorem closed_eq [Zero K] (x : Optic K) :
    x.closed = ⟨x.freeIn.length, x.her.map (·.n), x.l,
      M.ofFn (x.freeIn.length + x.her.length + x.l) fun r c => x.W.get (rowIdx x r) (colIdx x c)⟩ := rfl

theorem colIdx_eq_sel (x : Optic K) (y : Nat) :
    colIdx x y = sel (x.freeIn ++ x.her.map (·.i)) (x.p + x.a) y := by
  rw [sel_append, List.length_map]
  unfold colIdx
  congr 2
  exact (List.getD_map x.her ⟨0, 0, 0⟩ (fun h : Her => h.i)).symm

theorem rowIdx_eq_sel (x : Optic K) (h : x.freeOut.length = x.freeIn.length) (y : Nat) :
    rowIdx x y = sel (x.freeOut ++ x.her.map (·.o)) (x.p + x.a) y := by
  rw [sel_append, List.length_map, h]
  unfold rowIdx
  congr 2
  exact (List.getD_map x.her ⟨0, 0, 0⟩ (fun h : Her => h.o)).symm

section
variable [CommRing K]

/-- the heralds of the abstraction pair the input with the output heralds: a projection of them is
a map over one of the two dictionaries -/
theorem her_map {β : Type} (i : K) (c : Circ K) (π : Her → β) (f : (Nat × Nat) × (Nat × Nat) → β)
    (h : ∀ p, π ⟨c.optIndex p.1.1, c.optIndex p.2.1, p.1.2⟩ = f p) :
    (c.toOptic i).her.map π = (c.inHer.zip c.outHer).map f := by
  rw [toOptic_her, List.map_map]
  exact List.map_congr_left fun p _ => h p

theorem her_map_i (i : K) (c : Circ K) (hwf : c.WF) :
    (c.toOptic i).her.map (·.i) = c.inHer.keys.map c.optIndex := by
  rw [her_map i c _ ((fun x : Nat × Nat => c.optIndex x.1) ∘ Prod.fst) (fun _ => rfl), ← List.map_map,
    List.map_fst_zip (by rw [hwf.lenEq]), Dict.keys, List.map_map]
  rfl

theorem her_map_o (i : K) (c : Circ K) (hwf : c.WF) :
    (c.toOptic i).her.map (·.o) = c.outHer.keys.map c.optIndex := by
  rw [her_map i c _ ((fun x : Nat × Nat => c.optIndex x.1) ∘ Prod.snd) (fun _ => rfl), ← List.map_map,
    List.map_snd_zip (by rw [hwf.lenEq]), Dict.keys, List.map_map]
  rfl

theorem her_map_n (i : K) (c : Circ K) (hwf : c.WF) :
    (c.toOptic i).her.map (·.n) = c.inHer.map (·.2) := by
  rw [her_map i c _ ((fun x : Nat × Nat => x.2) ∘ Prod.fst) (fun _ => rfl), ← List.map_map,
    List.map_fst_zip (by rw [hwf.lenEq])]

theorem her_length (i : K) (c : Circ K) (hwf : c.WF) : (c.toOptic i).her.length = c.inHer.length := by
  have := congrArg List.length (her_map_n i c hwf)
  simpa using this

theorem mem_filter_lt_map (H : List Her) (π : Her → Nat) (p r : Nat) :
    r ∈ (H.filter fun h => decide (π h < p)).map π ↔ r < p ∧ r ∈ H.map π := by
  simp only [List.mem_map, List.mem_filter, decide_eq_true_eq]
  constructor
  · rintro ⟨h, ⟨hm, hlt⟩, rfl⟩; exact ⟨hlt, h, hm, rfl⟩
  · rintro ⟨hlt, h, hm, rfl⟩; exact ⟨h, ⟨hm, hlt⟩, rfl⟩

theorem mem_extIn (i : K) (c : Circ K) (hwf : c.WF) (r : Nat) :
    r ∈ (c.toOptic i).extIn ↔ r < c.portModes.length ∧ ∃ k ∈ c.inHer.keys, c.optIndex k = r := by
  unfold Optic.extIn
  rw [mem_filter_lt_map, her_map_i i c hwf, List.mem_map]
  rfl

theorem mem_extOut (i : K) (c : Circ K) (hwf : c.WF) (r : Nat) :
    r ∈ (c.toOptic i).extOut ↔ r < c.portModes.length ∧ ∃ k ∈ c.outHer.keys, c.optIndex k = r := by
  unfold Optic.extOut
  rw [mem_filter_lt_map, her_map_o i c hwf, List.mem_map]
  rfl

omit [CommRing K] in
theorem internal_sub_in (c : Circ K) (hwf : c.WF) : ∀ a ∈ c.internal, a ∈ c.inHer.keys :=
  fun a ha => get?_isSome_iff.mp (hwf.intHer a ha).1

omit [CommRing K] in
theorem internal_sub_out (c : Circ K) (hwf : c.WF) : ∀ a ∈ c.internal, a ∈ c.outHer.keys := by
  intro a ha
  obtain ⟨h1, h2⟩ := hwf.intHer a ha
  rw [h2] at h1
  exact get?_isSome_iff.mp h1

omit [CommRing K] in
/-- the free ports of an optic are determined by its heralds -/
theorem free_map_of_her (c : Circ K) (t : Nat → Nat) {p : Nat} (hp : p = c.portModes.length)
    (hport : ∀ r (hr : r < c.portModes.length), t r = c.portModes[r]) (hinj : ∀ a b, t a = t b → a = b)
    (H : List Her) (π : Her → Nat) {keys : List Nat} (hk : (H.map π).map t = keys)
    (hint : ∀ a ∈ c.internal, a ∈ keys) :
    (freeOf p ((H.filter fun h => decide (π h < p)).map π)).map t = freeOf c.n keys := by
  subst hp
  refine map_freeOf (fun a b hab hb => ?_) fun y => ?_
  · rw [hport a (Nat.lt_trans hab hb), hport b hb]
    exact List.pairwise_iff_getElem.mp (portModes_sorted c) a b _ hb hab
  · simp only [mem_filter_lt_map]
    constructor
    · rintro ⟨hy, hny⟩
      obtain ⟨r, hr, e⟩ := List.mem_iff_getElem.mp ((mem_portModes c).mpr ⟨hy, fun h => hny (hint y h)⟩)
      exact ⟨r, ⟨hr, fun h => hny (by rw [← hk, ← e, ← hport r hr]; exact List.mem_map_of_mem h.2)⟩,
        (hport r hr).trans e⟩
    · rintro ⟨r, ⟨hr, hne⟩, rfl⟩
      rw [hport r hr]
      refine ⟨((mem_portModes c).mp (List.getElem_mem hr)).1, fun hin => hne ⟨hr, ?_⟩⟩
      rw [← hk, ← hport r hr] at hin
      obtain ⟨z, hz, e⟩ := List.mem_map.mp hin
      exact hinj _ _ e ▸ hz

/-- the canonical closed form of a circuit on its own modes: free modes ascending, heralds in
declaration order, loss -/
abbrev closedOf (i : K) (c : Circ K) : Closed K :=
  ⟨c.n - c.inHer.length, c.inHer.map (·.2), lossCount c.spec,
    M.ofFn (c.n - c.inHer.length + c.inHer.length + lossCount c.spec)
      fun r k => (c.Ufull i).get (rowM c r) (colM c k)⟩

/-- The optic `x` presents the circuit `c` with its ancillas in the order `anc`: index `R` of `x`
stands for the mode (or loss index) `arr c anc R`. The relation is indexed by this order because the
abstraction of the result of `add` and the composed optic differ by it and by nothing else:
`c.toOptic i` presents `c` in the order of `internal` (`view_toOptic`); if `x` presents the parent in
the order `anc` then `x.compose …` presents the result of `add` in the order `ancAdd … anc`
(`View.add`); the closed form does not depend on the order (`View.closed`). The free ports are
determined by the heralds (`View.freeIn`, `View.freeOut`). -/
structure View (i : K) (c : Circ K) (x : Optic K) (anc : List Nat) : Prop where
  /-- `anc` lists the ancillas of `c`, each once -/
  perm : anc.Perm c.internal
  /-- the ports of `x` are the port modes of `c` -/
  p_eq : x.p = c.portModes.length
  /-- the ancilla indices of `x` are the positions of `anc` -/
  a_eq : x.a = anc.length
  /-- one loss index per loss component -/
  l : x.l = lossCount c.spec
  /-- the matrix of `x` is `U_full` read along the arrangement -/
  W : x.W = Optic.embedVia (c.n + lossCount c.spec) (c.Ufull i) (fun R => some (arr c anc R))
  /-- the input indices of the heralds of `x` stand for the input herald modes, in declaration order -/
  herI : (x.her.map (·.i)).map (arr c anc) = c.inHer.keys
  /-- the output indices stand for the output herald modes -/
  herO : (x.her.map (·.o)).map (arr c anc) = c.outHer.keys
  /-- with the declared photon numbers -/
  herN : x.her.map (·.n) = c.inHer.map (·.2)

namespace View
variable {i : K} {c : Circ K} {x : Optic K} {anc : List Nat}

theorem dim (v : View i c x anc) (hwf : c.WF) : x.p + x.a = c.n := by
  rw [v.p_eq, v.a_eq, ← List.length_append, perm_range_length (perm_ports hwf v.perm)]

theorem lt_of (v : View i c x anc) (hwf : c.WF) {R : Nat} (h : arr c anc R < c.n) : R < c.n := by
  by_contra hc
  rw [arr_ge hwf v.perm (Nat.le_of_not_lt hc)] at h
  exact hc h

theorem freeIn (v : View i c x anc) (hwf : c.WF) : x.freeIn.map (arr c anc) = freeOf c.n c.inHer.keys :=
  free_map_of_her c _ v.p_eq (fun _ hr => arr_port hr) (fun _ _ e => arr_inj hwf v.perm e) x.her (·.i)
    v.herI (internal_sub_in c hwf)

theorem freeOut (v : View i c x anc) (hwf : c.WF) : x.freeOut.map (arr c anc) = freeOf c.n c.outHer.keys :=
  free_map_of_her c _ v.p_eq (fun _ hr => arr_port hr) (fun _ _ e => arr_inj hwf v.perm e) x.her (·.o)
    v.herO (internal_sub_out c hwf)

theorem map_sel (v : View i c x anc) (hwf : c.WF) (L : List Nat) (hL : ∀ r ∈ L, r < c.n) {y l : Nat}
    (hy : y < L.length + l) :
    arr c anc (sel L (x.p + x.a) y) = sel (L.map (arr c anc)) c.n y ∧ sel L (x.p + x.a) y < c.n + l := by
  rw [v.dim hwf]
  refine ⟨(sel_map _ L (fun k => arr_ge hwf v.perm (Nat.le_add_right _ k)) y).symm,
    sel_lt (fun r hr => ?_) ?_⟩
  · have := hL r hr; omega
  · intro; omega

theorem closed (v : View i c x anc) (hwf : c.WF) : x.closed = closedOf i c := by
  have hfi := length_freeOf c.n _ hwf.inNodup hwf.inLt
  have hfo := length_freeOf c.n _ hwf.outNodup hwf.outLt
  rw [keys_length] at hfi
  rw [keys_length, ← hwf.lenEq] at hfo
  have hq : x.freeIn.length = c.n - c.inHer.length := by
    rw [← hfi, ← v.freeIn hwf, List.length_map]
  have hqo : x.freeOut.length = x.freeIn.length := by
    rw [hq, ← hfo, ← v.freeOut hwf, List.length_map]
  have hh : x.her.length = c.inHer.length := by
    have := congrArg List.length v.herN
    rwa [List.length_map, List.length_map] at this
  have hdim := v.dim hwf
  have hsub : ∀ (fr idx keys : List Nat), (∀ r ∈ fr, r < x.p) → idx.map (arr c anc) = keys →
      (∀ k ∈ keys, k < c.n) → ∀ z ∈ fr ++ idx, z < c.n := by
    intro fr idx keys hfr e hk z hz
    rcases List.mem_append.mp hz with h | h
    · have := hfr z h; omega
    · exact v.lt_of hwf (hk _ (e ▸ List.mem_map_of_mem h))
  have hfr : ∀ p : Nat → Bool, ∀ r ∈ (List.range x.p).filter p, r < x.p :=
    fun p r hr => List.mem_range.mp (List.mem_filter.mp hr).1
  rw [closed_eq, hq, hh, v.herN, v.l]
  refine congrArg (Closed.mk _ _ _) (M.ofFn_congr ?_)
  intro r k hr hk
  obtain ⟨r1, r2⟩ := v.map_sel hwf (x.freeOut ++ x.her.map (·.o)) (l := lossCount c.spec)
    (hsub _ _ _ (hfr _) v.herO hwf.outLt) (y := r)
    (by rw [List.length_append, List.length_map, hqo, hq, hh]; exact hr)
  obtain ⟨k1, k2⟩ := v.map_sel hwf (x.freeIn ++ x.her.map (·.i)) (l := lossCount c.spec)
    (hsub _ _ _ (hfr _) v.herI hwf.inLt) (y := k)
    (by rw [List.length_append, List.length_map, hq, hh]; exact hk)
  rw [rowIdx_eq_sel x hqo, colIdx_eq_sel, v.W, get_embedVia _ _ _ r2 k2, r1, k1, List.map_append,
    List.map_append, v.freeOut hwf, v.herO, v.freeIn hwf, v.herI]
  rfl

end View

theorem view_toOptic (i : K) (c : Circ K) (hwf : c.WF) : View i c (c.toOptic i) c.internal := by
  have hid : ∀ keys : List Nat, (∀ k ∈ keys, k < c.n) →
      (keys.map c.optIndex).map (arr c c.internal) = keys := by
    intro keys hk
    rw [← optMode_eq_arr, List.map_map]
    conv_rhs => rw [← List.map_id keys]
    apply List.map_congr_left
    intro k hkm
    show c.optMode (c.optIndex k) = k
    rw [optIndex_eq_optIdx c (hk k hkm), optMode_optIdx c hwf]
  refine ⟨.refl _, rfl, rfl, toOptic_l i c, by rw [toOptic_W i c hwf, optMode_eq_arr], ?_, ?_,
    her_map_n i c hwf⟩
  · rw [her_map_i i c hwf]; exact hid _ hwf.inLt
  · rw [her_map_o i c hwf]; exact hid _ hwf.outLt

theorem closed_toOptic (i : K) (c : Circ K) (hwf : c.WF) : (c.toOptic i).closed = closedOf i c :=
  (view_toOptic i c hwf).closed hwf

theorem closed_q (i : K) (c : Circ K) (hwf : c.WF) :
    (c.toOptic i).closed.q = c.n - c.inHer.length := by
  rw [closed_toOptic i c hwf]

end

end LW.Proofs.C02Sem
