/-
  LW.Proofs.C05Sums — `sumQ` is `List.sum`; sums over duplicate-free lists; a fold that appends
  conditionally is `filter` then `map`.
-/
import Mathlib.Algebra.Order.Field.Basic
import Mathlib.Algebra.BigOperators.Group.List.Basic
import Mathlib.Algebra.BigOperators.Ring.List
import Mathlib.Algebra.Order.BigOperators.Group.List
import Mathlib.Data.List.Nodup
import Mathlib.Data.List.Perm.Lattice
import LW.Model.Analysis
import LW.Proofs.ListSum

namespace LW.Proofs.C05
open LW

theorem sumQ_eq_sum {Q : Type} [AddCommMonoid Q] (l : List Q) : sumQ l = l.sum :=
  List.sum_eq_foldl.symm

theorem sum_eq_of_nodup_of_mem_iff {Q α : Type} [AddCommMonoid Q] (f : α → Q) (l₁ l₂ : List α)
    (h₁ : l₁.Nodup) (h₂ : l₂.Nodup) (h : ∀ x, x ∈ l₁ ↔ x ∈ l₂) :
    (l₁.map f).sum = (l₂.map f).sum :=
  ((List.perm_ext_iff_of_nodup h₁ h₂).2 h).map f |>.sum_eq

theorem sum_filter_eq_single {Q α : Type} [AddCommMonoid Q] [DecidableEq α] (f : α → Q)
    (l : List α) (hl : l.Nodup) (a : α) (ha : a ∈ l) (c : α → Prop) [DecidablePred c] (hc : c a) :
    ((l.filter fun o => o = a ∧ c o).map f).sum = f a := by
  rw [sum_filter_ite, ← if_pos ha (t := f a) (e := 0), ← sum_map_ite_eq_of_nodup hl a f]
  congr 1
  apply List.map_congr_left
  intro o _
  by_cases h : o = a
  · rw [if_pos h, if_pos ⟨h, h ▸ hc⟩]
  · rw [if_neg h, if_neg fun h' => h h'.1]

theorem sum_filter_and_pos {Q α : Type} [Field Q] [LinearOrder Q] (f : α → Q) (l : List α)
    (c : α → Prop) [DecidablePred c] (hf : ∀ x ∈ l, 0 ≤ f x) :
    ((l.filter fun o => c o ∧ 0 < f o).map f).sum = ((l.filter fun o => c o).map f).sum := by
  rw [← sum_filter_pos f (l.filter fun o => c o) (fun x hx => hf x (List.mem_of_mem_filter hx)),
    List.filter_filter]
  congr 2
  apply List.filter_congr
  intro o _
  simp only [Bool.decide_and]
  exact Bool.and_comm _ _

theorem foldl_append_if {α β : Type} (c : α → Prop) [DecidablePred c] (g : α → β) (l : List α)
    (init : List β) :
    l.foldl (fun pd o => if c o then pd ++ [g o] else pd) init =
      init ++ (l.filter fun o => c o).map g := by
  induction l generalizing init with
  | nil => simp
  | cons x l ih =>
    rw [List.foldl_cons, ih]
    by_cases hc : c x
    · simp [hc]
    · simp [hc]

end LW.Proofs.C05
