/-
  LW.Proofs.C02AddStable — what one insertion of an empty mode preserves of the components, `add`
  preserves (`AddStable`, `add_forall`).
-/
import LW.Proofs.C02AddShape

namespace LW.Proofs.C02
variable {K : Type}

/-- A predicate on components, indexed by the number of modes, that the bookkeeping of
`Circuit.add` respects; `add` then preserves `∀ c ∈ spec, P n c` (`add_forall`).  The group built
by `add` spans the window `[lo, lo + w)` of the added circuit and shows its heralds. -/
structure AddStable [Zero K] [One K] (P : Nat → Comp K → Prop) : Prop where
  mono : ∀ {n N : Nat} {c : Comp K}, P n c → n ≤ N → P N c
  addEmptyMode : ∀ {n : Nat} {c : Comp K}, P n c → ∀ t, P (n + 1) (c.addEmptyMode t)
  shift : ∀ {n : Nat} {c : Comp K}, P n c → ∀ k, P (n + k) (c.shift k)
  swaps : ∀ {c : Circ K}, c.WF →
    P c.n (.prim (.swaps (Circ.synthSwaps c.n (c.outHer.keys.zip c.inHer.keys))))
  leaf : ∀ {n : Nat} {c : Comp K}, P n c → ∀ p ∈ c.toPrims, P n (.prim p)
  group : ∀ {n : Nat} {cs : List (Prim K)} (lo w : Nat) (hin hout : Dict),
    (∀ p ∈ cs, P n (.prim p)) → (∀ p ∈ cs, ∀ m ∈ p.modes, lo ≤ m ∧ m ≤ lo + w - 1) →
    lo < n → lo + w ≤ n → (∀ k ∈ hin.keys ++ hout.keys, k < w) →
    P n (.group cs lo (lo + w - 1) hin hout)

section
variable [Zero K] [One K] {P : Nat → Comp K → Prop}

theorem AddStable.added (hP : AddStable P) {h : Nat} (st : Circ.AddSt K) (inv : SubInv h st)
    (hs : ∀ c ∈ st.spec, P st.sub.n c) (mode : Nat) (grouped : Bool) {N : Nat} (hm : mode < N)
    (hN : mode + st.sub.n ≤ N) : ∀ c ∈ addedComps st mode grouped, P N c := by
  have hsh : ∀ x ∈ st.spec.map (Comp.shift mode), P N x := by
    intro x hx
    obtain ⟨c, hc, rfl⟩ := List.mem_map.mp hx
    exact hP.mono (hP.shift (hs c hc) mode) (by omega)
  have hlt := addedComps_modes st inv mode grouped
  unfold addedComps at hlt ⊢
  split
  · exact hsh
  · rename_i hgr
    rw [if_neg hgr] at hlt
    intro x hx
    rw [List.mem_singleton.mp hx]
    refine hP.group _ _ _ _ ?_ ?_ hm hN ?_
    · intro p hp
      obtain ⟨c, hc, hp⟩ := List.mem_flatMap.mp hp
      exact hP.leaf (hsh c hc) p hp
    · intro p hp m hm
      have := hlt _ (List.mem_singleton.mpr rfl) m (List.mem_flatMap.mpr ⟨p, hp, hm⟩)
      omega
    · intro k hk
      exact inv.lt k ((List.mem_append.mp hk).elim id id)

theorem add_forall (hP : AddStable P) (self sub self' : Circ K) (hsub : sub.WF)
    (hs : ∀ c ∈ self.spec, P self.n c) (hsb : ∀ c ∈ sub.spec, P sub.n c)
    (m : Int) (g : Bool) (h : self.add sub m g = .ok self') : ∀ c ∈ self'.spec, P self'.n c := by
  obtain ⟨mode, ts, hlt, -, hn, hfit, hsp⟩ := add_shape_wf hsub h
  obtain ⟨pn, -, -⟩ := pick_props sub g
  have inv := subInv_subIns hsub g ts
  have hw := subIns_n sub g ts
  have hsw : ∀ c ∈ swapSpec (pick sub g).1, P sub.n c := by
    have hwf := pick_WF sub g hsub
    rw [← pn]
    exact swapSpec_forall _ hwf (hP.swaps hwf) (pn ▸ pick_forall (fun _ => hP.leaf) sub g hsb)
  rw [hsp]
  intro c hc
  rcases List.mem_append.mp hc with hc | hc
  · have := forall_map_ins hP.addEmptyMode _ hs c hc
    rwa [ancPos_length, inv.len, ← hn] at this
  · exact hP.added _ inv (hw ▸ forall_map_ins hP.addEmptyMode ts hsw) mode _ (by omega)
      (by rw [hw]; exact hfit) c hc

theorem AddStable.of_leaf {Q : Nat → Prim K → Prop}
    (mono : ∀ {n N : Nat} {p : Prim K}, Q n p → n ≤ N → Q N p)
    (addEmptyMode : ∀ {n : Nat} {p : Prim K}, Q n p → ∀ t, Q (n + 1) (p.addEmptyMode t))
    (shift : ∀ {n : Nat} {p : Prim K}, Q n p → ∀ k, Q (n + k) (p.shift k))
    (swaps : ∀ {c : Circ K}, c.WF →
      Q c.n (.swaps (Circ.synthSwaps c.n (c.outHer.keys.zip c.inHer.keys)))) :
    AddStable (fun n (c : Comp K) => ∀ p ∈ c.toPrims, Q n p) where
  mono h hN p hp := mono (h p hp) hN
  addEmptyMode h t p hp := by
    rw [Comp.toPrims_addEmptyMode] at hp
    obtain ⟨p0, hp0, rfl⟩ := List.mem_map.mp hp
    exact addEmptyMode (h p0 hp0) t
  shift h k p hp := by
    rw [Comp.toPrims_shift] at hp
    obtain ⟨p0, hp0, rfl⟩ := List.mem_map.mp hp
    exact shift (h p0 hp0) k
  swaps h p hp := by rw [List.mem_singleton.mp hp]; exact swaps h
  leaf h p hp q hq := by rw [List.mem_singleton.mp hq]; exact h p hp
  group _ _ _ _ h _ _ _ _ p hp := h p hp p (List.mem_singleton.mpr rfl)

end

end LW.Proofs.C02
