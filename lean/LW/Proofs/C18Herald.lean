/-
  LW.Proofs.C18Herald — add_heralds_to_state / remove_heralds_from_state.  A state with herald
  modes is determined by two projections: the values at the herald modes and the remaining
  entries in order (`dropKeys`); insertion is characterised by them, removal computes the second.
-/
import Mathlib.Data.List.Nodup
import Mathlib.Data.List.Perm.Basic
import Mathlib.Data.List.Range
import LW.Proofs.C18Annot
import LW.Proofs.AssocList

namespace LW.SV

def isKey (h : HDict) (j : Nat) : Bool := (h.get? (j : Int)).isSome

/-- the entries at positions `i, i+1, …` that are not selected by `P` -/
def dropKeys (P : Nat → Bool) : Nat → List Int → List Int
  | _, [] => []
  | i, x :: t => if P i then dropKeys P (i + 1) t else x :: dropKeys P (i + 1) t

/-- `t`, standing at positions `i, i+1, …`, holds at every herald mode the herald's value -/
def HoldsHeralds (h : HDict) (i : Nat) (t : List Int) : Prop :=
  ∀ j v, h.get? ((i + j : Nat) : Int) = some v → j < t.length → t[j]? = some v

def keyCount (P : Nat → Bool) (i k : Nat) : Nat := (List.range' i k).countP P

theorem isKey_of_some {h : HDict} {i : Nat} {v : Int} (hg : h.get? (i : Int) = some v) :
    isKey h i = true := by
  rw [isKey, hg]; rfl

theorem isKey_of_none {h : HDict} {i : Nat} (hg : h.get? (i : Int) = none) : isKey h i = false := by
  rw [isKey, hg]; rfl

theorem holdsHeralds_cons {h : HDict} {i : Nat} {x : Int} {t : List Int} :
    HoldsHeralds h i (x :: t) ↔ (∀ v, h.get? (i : Int) = some v → x = v) ∧ HoldsHeralds h (i + 1) t := by
  constructor
  · intro H
    refine ⟨fun v hv => ?_, fun j v hv hj => ?_⟩
    · exact Option.some.inj (H 0 v hv (Nat.succ_pos _))
    · rw [Nat.add_right_comm] at hv
      exact H (j + 1) v hv (Nat.succ_lt_succ hj)
  · rintro ⟨h0, H⟩ j v hv hj
    cases j with
    | zero => rw [h0 v hv]; rfl
    | succ j =>
      rw [← Nat.add_assoc, Nat.add_right_comm] at hv
      exact H j v hv (Nat.lt_of_succ_lt_succ hj)

theorem keyCount_succ (P : Nat → Bool) (i k : Nat) :
    keyCount P i (k + 1) = (if P i then 1 else 0) + keyCount P (i + 1) k := by
  rw [keyCount, List.range'_succ, List.countP_cons, Nat.add_comm]
  rfl

theorem keyCount_le_self (P : Nat → Bool) (i k : Nat) : keyCount P i k ≤ k :=
  List.countP_le_length.trans (List.length_range' ..).le

theorem dropKeys_length (P : Nat → Bool) : ∀ (t : List Int) (i : Nat),
    (dropKeys P i t).length + keyCount P i t.length = t.length
  | [], _ => rfl
  | x :: t, i => by
    have ih := dropKeys_length P t (i + 1)
    rw [dropKeys, List.length_cons, keyCount_succ]
    split
    · omega
    · rw [List.length_cons]; omega

theorem dropKeys_congr {P Q : Nat → Bool} : ∀ (t : List Int) (i : Nat),
    (∀ j, i ≤ j → P j = Q j) → dropKeys P i t = dropKeys Q i t
  | [], _, _ => rfl
  | x :: t, i, h => by
    rw [dropKeys, dropKeys, h i (Nat.le_refl i),
      dropKeys_congr t (i + 1) fun j hj => h j (Nat.le_of_succ_le hj)]

theorem dropKeys_none {P : Nat → Bool} : ∀ (t : List Int) (i : Nat),
    (∀ j, i ≤ j → P j = false) → dropKeys P i t = t
  | [], _, _ => rfl
  | x :: t, i, h => by
    rw [dropKeys, h i (Nat.le_refl i), dropKeys_none t (i + 1) fun j hj => h j (Nat.le_of_succ_le hj)]
    rfl

theorem addGo_key {h : HDict} {i : Nat} {v : Int} (hg : h.get? (i : Int) = some v) (k : Nat)
    (st : List Int) : addGo h i (k + 1) st = (addGo h (i + 1) k st).map (v :: ·) := by
  rw [addGo.eq_def]
  simp only [hg]
  cases addGo h (i + 1) k st <;> rfl

theorem addGo_free {h : HDict} {i : Nat} (hg : h.get? (i : Int) = none) (k : Nat) (x : Int)
    (st : List Int) : addGo h i (k + 1) (x :: st) = (addGo h (i + 1) k st).map (x :: ·) := by
  rw [addGo, hg]
  cases addGo h (i + 1) k st <;> rfl

theorem addGo_free_nil {h : HDict} {i : Nat} (hg : h.get? (i : Int) = none) (k : Nat) :
    addGo h i (k + 1) [] = .error .other := by
  rw [addGo, hg]

theorem addGo_eq_ok_iff (h : HDict) : ∀ (k i : Nat) (st t : List Int), addGo h i k st = .ok t ↔
    t.length = k ∧ dropKeys (isKey h) i t <+: st ∧ HoldsHeralds h i t := by
  intro k
  induction k with
  | zero =>
    intro i st t
    constructor
    · intro e
      cases e
      exact ⟨rfl, List.nil_prefix, fun _ _ _ hj => absurd hj (Nat.not_lt_zero _)⟩
    · rintro ⟨h0, -, -⟩
      rw [List.length_eq_zero_iff.mp h0]; rfl
  | succ k ih =>
    intro i st t
    cases hg : h.get? (i : Int) with
    | some v =>
      rw [addGo_key hg, Except.map_eq_ok]
      constructor
      · rintro ⟨t', ht', rfl⟩
        obtain ⟨h1, h2, h3⟩ := (ih (i + 1) st t').mp ht'
        refine ⟨congrArg (· + 1) h1, ?_, holdsHeralds_cons.mpr ⟨fun w hw => Option.some.inj (hg.symm.trans hw), h3⟩⟩
        rwa [dropKeys, isKey_of_some hg, if_pos rfl]
      · rintro ⟨h1, h2, h3⟩
        obtain ⟨x, t', rfl⟩ := List.exists_cons_of_length_eq_add_one h1
        obtain ⟨hx, h3⟩ := holdsHeralds_cons.mp h3
        rw [dropKeys, isKey_of_some hg, if_pos rfl] at h2
        exact ⟨t', (ih (i + 1) st t').mpr ⟨Nat.succ.inj h1, h2, h3⟩, by rw [hx v hg]⟩
    | none =>
      have hx : ∀ (x : Int) v, h.get? (i : Int) = some v → x = v := fun _ _ hv => nomatch hg.symm.trans hv
      cases st with
      | nil =>
        rw [addGo_free_nil hg]
        refine ⟨fun e => (nomatch e), ?_⟩
        rintro ⟨h1, h2, -⟩
        obtain ⟨x, t', rfl⟩ := List.exists_cons_of_length_eq_add_one h1
        rw [dropKeys, isKey_of_none hg, if_neg Bool.false_ne_true] at h2
        exact nomatch List.prefix_nil.mp h2
      | cons y st' =>
        rw [addGo_free hg, Except.map_eq_ok]
        constructor
        · rintro ⟨t', ht', rfl⟩
          obtain ⟨h1, h2, h3⟩ := (ih (i + 1) st' t').mp ht'
          refine ⟨congrArg (· + 1) h1, ?_, holdsHeralds_cons.mpr ⟨hx y, h3⟩⟩
          rw [dropKeys, isKey_of_none hg, if_neg Bool.false_ne_true]
          exact List.cons_prefix_cons.mpr ⟨rfl, h2⟩
        · rintro ⟨h1, h2, h3⟩
          obtain ⟨x, t', rfl⟩ := List.exists_cons_of_length_eq_add_one h1
          rw [dropKeys, isKey_of_none hg, if_neg Bool.false_ne_true, List.cons_prefix_cons] at h2
          exact ⟨t', (ih (i + 1) st' t').mpr ⟨Nat.succ.inj h1, h2.2, (holdsHeralds_cons.mp h3).2⟩, by rw [h2.1]⟩

theorem addGo_ok_of_le (h : HDict) : ∀ (k i : Nat) (st : List Int),
    k ≤ st.length + keyCount (isKey h) i k → ∃ t, addGo h i k st = .ok t := by
  intro k
  induction k with
  | zero => intro i st _; exact ⟨[], rfl⟩
  | succ k ih =>
    intro i st hle
    rw [keyCount_succ] at hle
    cases hg : h.get? (i : Int) with
    | some v =>
      rw [isKey_of_some hg, if_pos rfl] at hle
      obtain ⟨t', ht'⟩ := ih (i + 1) st (by omega)
      exact ⟨v :: t', by rw [addGo_key hg, ht']; rfl⟩
    | none =>
      rw [isKey_of_none hg, if_neg Bool.false_ne_true] at hle
      cases st with
      | nil =>
        have := keyCount_le_self (isKey h) (i + 1) k
        rw [List.length_nil] at hle
        omega
      | cons x st' =>
        obtain ⟨t', ht'⟩ := ih (i + 1) st' (by rw [List.length_cons] at hle; omega)
        exact ⟨x :: t', by rw [addGo_free hg, ht']; rfl⟩

theorem addGo_congr {h h' : HDict} (hh : ∀ k, h.get? k = h'.get? k) : ∀ (k i : Nat) (st : List Int),
    addGo h i k st = addGo h' i k st := by
  intro k
  induction k with
  | zero => intro i st; rfl
  | succ k ih =>
    intro i st
    cases hg : h'.get? (i : Int) with
    | some v => rw [addGo_key hg, addGo_key ((hh _).trans hg), ih]
    | none =>
      cases st with
      | nil => rw [addGo_free_nil hg, addGo_free_nil ((hh _).trans hg)]
      | cons x st' => rw [addGo_free hg, addGo_free ((hh _).trans hg), ih]

/-- the empty dictionary needs no case of its own -/
theorem addHeralds_eq_addGo (s : List Int) (h : HDict) :
    addHeralds s h = addGo h 0 (s.length + h.length) s := by
  cases h with
  | cons p ps => rfl
  | nil =>
    refine ((addGo_eq_ok_iff [] _ 0 s s).mpr ⟨rfl, ?_, fun _ _ hv => nomatch hv⟩).symm
    rw [dropKeys_none (P := isKey []) s 0 fun _ _ => rfl]
    exact List.prefix_refl s

theorem addHeralds_empty (s : List Int) : addHeralds s [] = .ok s := rfl

def HDict.keys (h : HDict) : List Int := h.map (·.1)

theorem HDict.get?_isSome_iff (h : HDict) (k : Int) : (h.get? k).isSome ↔ k ∈ h.keys := by
  simp only [HDict.get?, Option.isSome_map, List.find?_isSome, HDict.keys, List.mem_map, beq_iff_eq]

theorem HDict.get?_eq_some_iff (h : HDict) (hn : h.keys.Nodup) (k v : Int) :
    h.get? k = some v ↔ (k, v) ∈ h :=
  ⟨Assoc.mem_of_find, Assoc.find_of_mem hn⟩

theorem HDict.get?_perm {h h' : HDict} (hp : h.Perm h') (hn : h.keys.Nodup) (k : Int) :
    h.get? k = h'.get? k := by
  have hn' : h'.keys.Nodup := (hp.map _).nodup_iff.mp hn
  apply Option.ext
  intro v
  rw [HDict.get?_eq_some_iff h hn, HDict.get?_eq_some_iff h' hn', hp.mem_iff]

theorem keyCount_eq (h : HDict) (hn : h.keys.Nodup) (n : Nat) :
    keyCount (isKey h) 0 n = (h.keys.filter fun a => decide (0 ≤ a ∧ a < (n : Int))).length := by
  rw [keyCount, List.countP_eq_length_filter, ← List.length_map (fun j : Nat => (j : Int))]
  refine List.Perm.length_eq ((List.perm_ext_iff_of_nodup ?_ (hn.filter _)).mpr fun a => ?_)
  · exact ((List.nodup_range' 1).filter _).map fun _ _ e => Int.ofNat_inj.mp e
  simp only [List.mem_map, List.mem_filter, List.mem_range', isKey, HDict.get?_isSome_iff,
    decide_eq_true_eq]
  constructor
  · rintro ⟨j, ⟨⟨_, hj⟩, hk⟩, rfl⟩
    exact ⟨hk, by omega, by omega⟩
  · rintro ⟨hk, h0, h1⟩
    exact ⟨a.toNat, ⟨⟨a.toNat, by omega⟩, by rwa [Int.toNat_of_nonneg h0]⟩, Int.toNat_of_nonneg h0⟩

theorem keyCount_le (h : HDict) (hn : h.keys.Nodup) (n : Nat) : keyCount (isKey h) 0 n ≤ h.length := by
  rw [keyCount_eq h hn, ← List.length_map (f := (·.1)) (as := h)]
  exact List.length_filter_le _ _

theorem keyCount_eq_length_iff (h : HDict) (hn : h.keys.Nodup) (n : Nat) :
    keyCount (isKey h) 0 n = h.length ↔ ∀ k ∈ h.keys, 0 ≤ k ∧ k < (n : Int) := by
  rw [keyCount_eq h hn, ← List.length_map (f := (·.1)) (as := h)]
  exact List.length_filter_eq_length_iff.trans (by simp only [decide_eq_true_eq])

theorem addHeralds_ok_iff (s : List Int) (h : HDict) (hn : h.keys.Nodup) :
    (∃ t, addHeralds s h = .ok t) ↔ ∀ k ∈ h.keys, 0 ≤ k ∧ k < ((s.length + h.length : Nat) : Int) := by
  rw [addHeralds_eq_addGo, ← keyCount_eq_length_iff h hn]
  have hle := keyCount_le h hn (s.length + h.length)
  constructor
  · rintro ⟨t, ht⟩
    obtain ⟨h1, h2, -⟩ := (addGo_eq_ok_iff h _ 0 s t).mp ht
    have := dropKeys_length (isKey h) t 0
    have := h2.length_le
    rw [h1] at *
    omega
  · intro hk
    exact addGo_ok_of_le h _ 0 s (by omega)

theorem addHeralds_eq_ok_iff (s : List Int) (h : HDict) (hn : h.keys.Nodup) (t : List Int) :
    addHeralds s h = .ok t ↔
      t.length = s.length + h.length ∧ dropKeys (isKey h) 0 t = s ∧ HoldsHeralds h 0 t := by
  rw [addHeralds_eq_addGo, addGo_eq_ok_iff]
  refine and_congr_right fun h1 => and_congr_left fun _ => ⟨fun h2 => ?_, fun h2 => h2 ▸ List.prefix_refl _⟩
  have := dropKeys_length (isKey h) t 0
  have := keyCount_le h hn t.length
  exact h2.eq_of_length_le (by omega)

theorem addHeralds_keys_lt (s : List Int) (h : HDict) (hn : h.keys.Nodup) (t : List Int)
    (ht : addHeralds s h = .ok t) : ∀ k ∈ h.keys, 0 ≤ k ∧ k < (t.length : Int) := by
  rw [((addHeralds_eq_ok_iff s h hn t).mp ht).1]
  exact (addHeralds_ok_iff s h hn).mp ⟨t, ht⟩

/-- popping the topmost selected position `i + m` leaves the positions below it where they were -/
theorem dropKeys_eraseIdx (P P' : Nat → Bool) : ∀ (t : List Int) (m i : Nat), m < t.length →
    (∀ j, i + m ≤ j → P j = false) → (∀ j, P' j = (P j || decide (j = i + m))) →
    dropKeys P i (t.eraseIdx m) = dropKeys P' i t
  | [], _, _, hm, _, _ => absurd hm (Nat.not_lt_zero _)
  | x :: t, 0, i, _, hP, hP' => by
    rw [List.eraseIdx_cons_zero, dropKeys, hP' i, decide_eq_true (Nat.add_zero i).symm, Bool.or_true,
      if_pos rfl, dropKeys_none t i hP, dropKeys_none t (i + 1)]
    intro j hj
    rw [hP' j, hP j (Nat.le_of_succ_le hj), Bool.false_or, decide_eq_false (by omega)]
  | x :: t, m + 1, i, hm, hP, hP' => by
    rw [List.eraseIdx_cons_succ, dropKeys, dropKeys, hP' i, decide_eq_false (by omega), Bool.or_false,
      dropKeys_eraseIdx P P' t m (i + 1) (Nat.lt_of_succ_lt_succ hm) (fun j hj => hP j (by omega))
        (fun j => by rw [hP' j, Nat.add_right_comm, Nat.add_assoc])]

theorem popAt_nonneg (t : List Int) (m : Int) (h0 : 0 ≤ m) (h1 : m < t.length) :
    popAt t m = .ok (t.eraseIdx m.toNat) := by
  rw [popAt, pyIndex_nonneg h0 h1]

theorem foldlM_popAt_desc : ∀ (ms : List Int) (t : List Int), ms.Pairwise (· > ·) →
    (∀ m ∈ ms, 0 ≤ m ∧ m < (t.length : Int)) →
    ms.foldlM popAt t = .ok (dropKeys (fun j => decide ((j : Int) ∈ ms)) 0 t)
  | [], t, _, _ => congrArg Except.ok (dropKeys_none t 0 fun _ _ => rfl).symm
  | m :: ms, t, hp, hr => by
    obtain ⟨hm0, hm1⟩ := hr m List.mem_cons_self
    obtain ⟨m, rfl⟩ := Int.eq_ofNat_of_zero_le hm0
    rw [List.pairwise_cons] at hp
    have hm : m < t.length := Int.ofNat_lt.mp hm1
    rw [List.foldlM_cons, popAt_nonneg t m hm0 hm1, Int.toNat_natCast]
    refine (foldlM_popAt_desc ms (t.eraseIdx m) hp.2 fun m' hm' => ?_).trans (congrArg _ ?_)
    · have := hp.1 m' hm'
      rw [List.length_eraseIdx_of_lt hm]
      exact ⟨(hr m' (List.mem_cons_of_mem _ hm')).1, by omega⟩
    · apply dropKeys_eraseIdx _ _ t m 0 hm
      · intro j hj
        exact decide_eq_false fun hmem => by have := hp.1 _ hmem; omega
      · intro j
        rw [Bool.or_comm, ← Bool.decide_or, Nat.zero_add]
        exact decide_eq_decide.mpr (List.mem_cons.trans (or_congr_left Int.ofNat_inj))

theorem sortDesc_pairwise (l : List Int) (hn : l.Nodup) : (sortDesc l).Pairwise (· > ·) := by
  rw [sortDesc, List.pairwise_reverse]
  have h2 : (sortInt l).Nodup := (sortInt_perm l).nodup_iff.mpr hn
  exact ((sortInt_sorted l).and h2).imp fun ⟨hle, hne⟩ => lt_of_le_of_ne hle hne

theorem mem_sortDesc (l : List Int) (a : Int) : a ∈ sortDesc l ↔ a ∈ l :=
  List.mem_reverse.trans (sortInt_perm l).mem_iff

theorem removeHeralds_perm (t : List Int) {m₁ m₂ : List Int} (hp : m₁.Perm m₂) :
    removeHeralds t m₁ = removeHeralds t m₂ := by
  rw [removeHeralds, removeHeralds, sortDesc, sortDesc, (sortInt_eq_iff_perm m₁ m₂).mpr hp]

theorem isKey_eq_decide_mem (h : HDict) : isKey h = fun (j : Nat) => decide ((j : Int) ∈ h.keys) :=
  funext fun j => Bool.eq_iff_iff.mpr ((HDict.get?_isSome_iff h j).trans decide_eq_true_iff.symm)

def heraldsAt (t : List Int) (modes : List Int) : HDict := modes.map fun m => (m, t.getD m.toNat 0)

theorem heraldsAt_keys (t modes : List Int) : (heraldsAt t modes).keys = modes := by
  rw [heraldsAt, HDict.keys, List.map_map]
  exact List.map_id'' (fun _ => rfl) modes

theorem isKey_heraldsAt (t modes : List Int) :
    isKey (heraldsAt t modes) = fun (j : Nat) => decide ((j : Int) ∈ modes) := by
  rw [isKey_eq_decide_mem, heraldsAt_keys]

/-- the values of `heraldsAt` are a function of the mode: no `Nodup` needed -/
theorem heraldsAt_get? (t modes : List Int) (k : Int) :
    (heraldsAt t modes).get? k = if k ∈ modes then some (t.getD k.toNat 0) else none :=
  Assoc.find_map_pair modes (fun m => t.getD m.toNat 0) k

theorem holdsHeralds_heraldsAt (t modes : List Int) : HoldsHeralds (heraldsAt t modes) 0 t := by
  intro j v hv hj
  rw [heraldsAt_get?] at hv
  split at hv
  · rw [← Option.some.inj hv, Nat.zero_add, Int.toNat_natCast, List.getElem?_eq_getElem hj,
      List.getElem_eq_getD 0]
  · cases hv

end LW.SV
