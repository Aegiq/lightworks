/-
  C07Cdf — inverse-CDF selection (`Generator.choice(p=…)`) and the composite `sampleOne`.

  The recursions `inverseCdf.go` and `sampleOne.go` are studied through their defining equations
  (`IsGo`, `IsPick`) over an arbitrary linearly ordered field, so that the model functions over `Rat`
  and their real-valued twins (C07CdfReal) are instances of the same lemmas.
-/
import Mathlib.Algebra.Order.Field.Basic
import Mathlib.Algebra.Order.Field.Rat
import Mathlib.Algebra.BigOperators.Group.List.Basic
import Mathlib.Algebra.Order.BigOperators.Group.List
import Mathlib.Data.List.GetD
import Mathlib.Tactic.NormNum
import LW.Model.Sampling

namespace LW.Proofs.C07

def cum (ps : List Rat) (k : Nat) : Rat := (ps.take k).sum

theorem clip_lt {α : Type} (l : List α) (hne : l ≠ []) (a : ℕ) : min a (l.length - 1) < l.length := by
  have := List.length_pos_iff.mpr hne
  omega

theorem sum_take_succ_getD {K : Type} [AddMonoid K] (l : List K) (k : ℕ) (hk : k < l.length) :
    (l.take (k + 1)).sum = (l.take k).sum + l.getD k 0 := by
  rw [List.sum_take_succ l k hk, List.getD_eq_getElem l 0 hk]

section field
variable {K : Type} [Field K] [LinearOrder K]

structure IsGo (u tot : K) (g : List K → K → ℕ → ℕ) : Prop where
  nil : ∀ acc i, g [] acc i = i
  cons : ∀ p rest acc i,
    g (p :: rest) acc i = if u < (acc + p) / tot then i else g rest (acc + p) (i + 1)

variable {u tot : K} {g : List K → K → ℕ → ℕ}

namespace IsGo

theorem ge (hg : IsGo u tot g) (l : List K) (acc : K) (i : ℕ) : i ≤ g l acc i := by
  induction l generalizing acc i with
  | nil => rw [hg.nil]
  | cons p rest ih =>
    rw [hg.cons]
    split
    · exact Nat.le_refl _
    · exact Nat.le_trans (Nat.le_succ i) (ih _ _)

theorem le (hg : IsGo u tot g) (l : List K) (acc : K) (i : ℕ) : g l acc i ≤ i + l.length := by
  induction l generalizing acc i with
  | nil => rw [hg.nil]; exact Nat.le_refl _
  | cons p rest ih =>
    rw [hg.cons, List.length_cons]
    split
    · omega
    · have := ih (acc + p) (i + 1); omega

theorem shift (hg : IsGo u tot g) (l : List K) (acc : K) (i : ℕ) :
    g l acc i = i + g l acc 0 := by
  induction l generalizing acc i with
  | nil => rw [hg.nil, hg.nil]; rfl
  | cons p rest ih =>
    rw [hg.cons, hg.cons]
    split
    · rfl
    · rw [ih (acc + p) (i + 1), ih (acc + p) (0 + 1)]; omega

theorem lt (hg : IsGo u tot g) (l : List K) (acc : K) (i : ℕ)
    (hacc : acc / tot ≤ u) (hu : u < (acc + l.sum) / tot) : g l acc i < i + l.length := by
  induction l generalizing acc i with
  | nil => simp at hu; exact absurd hu (not_lt.mpr hacc)
  | cons p rest ih =>
    rw [hg.cons, List.length_cons]
    split
    · omega
    · rename_i h
      have := ih (acc + p) (i + 1) (not_lt.mp h) (by rwa [List.sum_cons, ← add_assoc] at hu)
      omega

end IsGo

structure IsPick {σ : Type} (u tot : K) (h : List (σ × K) → K → σ → σ) : Prop where
  nil : ∀ acc last, h [] acc last = last
  cons : ∀ s p rest acc last,
    h ((s, p) :: rest) acc last = if u < (acc + p) / tot then s else h rest (acc + p) s

namespace IsPick

theorem eq_getD {σ : Type} {h : List (σ × K) → K → σ → σ} (hh : IsPick u tot h)
    (hg : IsGo u tot g) (l : List (σ × K)) (acc : K) (last : σ) :
    h l acc last = (l.getD (min (g (l.map (·.2)) acc 0) (l.length - 1)) (last, 0)).1 := by
  induction l generalizing acc last with
  | nil => rw [hh.nil]; rfl
  | cons x rest ih =>
    obtain ⟨s, p⟩ := x
    rw [List.map_cons, hh.cons, hg.cons]
    by_cases hu : u < (acc + p) / tot
    · rw [if_pos hu, if_pos hu, Nat.zero_min]; rfl
    · rw [if_neg hu, if_neg hu, ih (acc + p) s, hg.shift _ (acc + p) (0 + 1)]
      cases rest with
      | nil =>
        show _ = (List.getD [(s, p)] (min _ 0) (last, 0)).1
        rw [Nat.min_zero]
        rfl
      | cons y rest' =>
        have e : min (0 + 1 + g (List.map (·.2) (y :: rest')) (acc + p) 0)
              (((s, p) :: y :: rest').length - 1) =
            (min (g (List.map (·.2) (y :: rest')) (acc + p) 0) ((y :: rest').length - 1)) + 1 := by
          simp only [List.length_cons]; omega
        have hlt : min (g (List.map (·.2) (y :: rest')) (acc + p) 0)
            ((y :: rest').length - 1) < (y :: rest').length := by
          simp only [List.length_cons]; omega
        rw [e, List.getD_cons_succ, List.getD_eq_getElem _ _ hlt, List.getD_eq_getElem _ _ hlt]

end IsPick

variable [IsStrictOrderedRing K]

theorem sum_take_nonneg (l : List K) (hnn : ∀ p ∈ l, 0 ≤ p) (k : ℕ) : 0 ≤ (l.take k).sum :=
  List.sum_nonneg fun p hp => hnn p (List.mem_of_mem_take hp)

theorem sum_take_le_sum (l : List K) (hnn : ∀ p ∈ l, 0 ≤ p) (k : ℕ) : (l.take k).sum ≤ l.sum := by
  have h2 : 0 ≤ (l.drop k).sum := List.sum_nonneg fun p hp => hnn p (List.mem_of_mem_drop hp)
  exact (le_add_of_nonneg_right h2).trans (List.sum_take_add_sum_drop l k).le

namespace IsGo

theorem eq_iff (hg : IsGo u tot g) (htot : 0 < tot) (l : List K) (hnn : ∀ p ∈ l, 0 ≤ p)
    (acc : K) (i k : ℕ) (hk : k < l.length) (hacc : acc / tot ≤ u) :
    g l acc i = i + k ↔
      (acc + (l.take k).sum) / tot ≤ u ∧ u < (acc + (l.take (k + 1)).sum) / tot := by
  induction l generalizing acc i k with
  | nil => simp at hk
  | cons p rest ih =>
    have hrest : ∀ q ∈ rest, 0 ≤ q := fun q hq => hnn q (by simp [hq])
    rw [hg.cons]
    cases k with
    | zero =>
      simp only [List.take_zero, List.sum_nil, add_zero, zero_add, List.take_succ_cons,
        List.sum_cons]
      split
      · rename_i h; exact ⟨fun _ => ⟨hacc, h⟩, fun _ => rfl⟩
      · rename_i h
        have := hg.ge rest (acc + p) (i + 1)
        constructor
        · intro e; omega
        · intro e; exact absurd e.2 h
    | succ k =>
      simp only [List.take_succ_cons, List.sum_cons]
      split
      · rename_i h
        constructor
        · intro e; omega
        · intro e
          exfalso
          have : (acc + p) / tot ≤ (acc + (p + (rest.take k).sum)) / tot :=
            div_le_div_of_nonneg_right
              (by rw [← add_assoc]; exact le_add_of_nonneg_right (sum_take_nonneg rest hrest k))
              htot.le
          exact lt_irrefl _ ((this.trans e.1).trans_lt h)
      · rename_i h
        have hk' : k < rest.length := by simpa using hk
        rw [show i + (k + 1) = i + 1 + k by omega, ih hrest (acc + p) (i + 1) k hk' (not_lt.mp h)]
        simp only [add_assoc]

/-- for non-negative weights of positive total and `u ∈ [0,1)` the clipping to the last
index never acts, and index `k` is selected exactly on `[cum k / Σ, cum (k+1) / Σ)` (empty when
`p_k = 0`) -/
theorem clip_eq_iff {l : List K} (hg : IsGo u l.sum g) (hnn : ∀ p ∈ l, 0 ≤ p)
    (htot : 0 < l.sum) (hu0 : 0 ≤ u) (hu1 : u < 1) (k : ℕ) (hk : k < l.length) :
    min (g l 0 0) (l.length - 1) = k ↔
      (l.take k).sum / l.sum ≤ u ∧ u < (l.take (k + 1)).sum / l.sum := by
  have hacc : (0 : K) / l.sum ≤ u := by rw [zero_div]; exact hu0
  have hlt : g l 0 0 < 0 + l.length :=
    hg.lt l 0 0 hacc (by rw [zero_add, div_self htot.ne']; exact hu1)
  rw [Nat.min_eq_left (by omega)]
  have h := hg.eq_iff htot l hnn 0 0 k hk hacc
  rw [zero_add, zero_add, zero_add] at h
  exact h

end IsGo

end field

theorem isGo (u tot : Rat) : IsGo u tot (inverseCdf.go u tot) := ⟨fun _ _ => rfl, fun _ _ _ _ => rfl⟩

theorem isPick (u tot : Rat) : IsPick u tot (sampleOne.go u tot) :=
  ⟨fun _ _ => rfl, fun _ _ _ _ _ => rfl⟩

theorem go_le (u tot : Rat) (l : List Rat) (acc : Rat) (i : Nat) :
    inverseCdf.go u tot l acc i ≤ i + l.length :=
  (isGo u tot).le l acc i

theorem inverseCdf_eq (ps : List Rat) (u : Rat) :
    inverseCdf ps u = min (inverseCdf.go u ps.sum ps 0 0) (ps.length - 1) := by
  rw [List.sum_eq_foldl]; rfl

theorem inverseCdf_eq_iff (ps : List Rat) (hnn : ∀ p ∈ ps, 0 ≤ p) (htot : 0 < ps.sum)
    (u : Rat) (hu0 : 0 ≤ u) (hu1 : u < 1) (k : Nat) (hk : k < ps.length) :
    inverseCdf ps u = k ↔ cum ps k / ps.sum ≤ u ∧ u < cum ps (k + 1) / ps.sum := by
  rw [inverseCdf_eq]
  exact (isGo u ps.sum).clip_eq_iff hnn htot hu0 hu1 k hk

/-- `inverseCdf_eq_iff` under the additional hypothesis `0 < p_k`, which it does not need -/
theorem inverseCdf_interval (ps : List Rat) (hnn : ∀ p ∈ ps, 0 ≤ p) (htot : 0 < ps.sum)
    (u : Rat) (hu0 : 0 ≤ u) (hu1 : u < 1) (k : Nat) (hk : k < ps.length) (_hpk : 0 < ps.getD k 0) :
    inverseCdf ps u = k ↔ cum ps k / ps.sum ≤ u ∧ u < cum ps (k + 1) / ps.sum :=
  inverseCdf_eq_iff ps hnn htot u hu0 hu1 k hk

theorem inverseCdf_lt (ps : List Rat) (hne : ps ≠ []) (u : Rat) : inverseCdf ps u < ps.length :=
  clip_lt ps hne _

theorem sampleOne_eq (dist : List (FState × ℚ)) (u : ℚ) :
    sampleOne dist u = (dist.getD (inverseCdf (dist.map (·.2)) u) ([], 0)).1 := by
  unfold sampleOne inverseCdf
  rw [(isPick u _).eq_getD (isGo u _), List.length_map]

/-- non-vacuity: weights 1/4, 1/2, 1/4; the variate 1/2 selects index 1 and lies in
`[1/4, 3/4)` -/
example : inverseCdf [1/4, 1/2, 1/4] (1/2) = 1 ∧
    cum [1/4, 1/2, 1/4] 1 / ([1/4, 1/2, 1/4] : List Rat).sum ≤ 1/2 ∧
    (1/2 : Rat) < cum [1/4, 1/2, 1/4] 2 / ([1/4, 1/2, 1/4] : List Rat).sum := by
  refine ⟨by decide +kernel, ?_, ?_⟩ <;> norm_num [cum]

end LW.Proofs.C07
