/-
  LW.Proofs.C12FullMainDefs — shared definitions for the main induction of `convert_correct`:
  the interface `SubOk` of the explicit sub-circuits, the index maps of an instruction
  (`fwdQ` / `invQ`: sub-circuit ports ↦ the modes of the instruction's qubits, sub-circuit heralds
  ↦ fresh modes from `P` on), the substitution homomorphism of one qiskit instruction
  (`instrHom`) and of an instruction list (`listHom`), herald patterns, scalars, and the
  per-qubit photon-number configuration of a state.
-/
import LW.Proofs.C12FullPlanDefs
import LW.Proofs.FockLayout
import LW.Proofs.C12FullSpecOk

open MvPolynomial

namespace LW.C12F

open LW LW.QC LW.Gates LW.QF

/-! ### what the main proof needs to know about a sub-circuit -/

/-- a loss-free sub-circuit with `q` ports whose heralds (equal on input and output, listed in
increasing mode order) carry the photon numbers `H` -/
structure SubOk {K : Type} [CommRing K] [StarRing K] (sub : Circ K) (q : Nat) (H : List Nat) :
    Prop where
  wf : sub.WF
  ok : SpecOk sub.n sub.spec
  io : sub.outHer = sub.inHer
  sorted : sub.inHer.keys.Pairwise (· < ·)
  loss : lossCount sub.spec = 0
  ports : sub.n - sub.inHer.length = q
  her : sub.inHer.map (·.2) = H

/-! ### index maps of an instruction -/

/-- closed index of the sub-circuit ↦ global mode: port `2j + e` ↦ mode `2·Q[j] + e`, herald `k`
↦ mode `P + k` -/
def fwdQ (Q : List Nat) (P : Nat) (y : Nat) : Nat :=
  if y < 2 * Q.length then 2 * Q.getD (y / 2) 0 + y % 2 else P + (y - 2 * Q.length)

/-- partial inverse of `fwdQ` -/
def invQ (Q : List Nat) (P : Nat) (z : Nat) : Option Nat :=
  if z < P then (if z / 2 ∈ Q then some (2 * Q.idxOf (z / 2) + z % 2) else none)
  else some (2 * Q.length + (z - P))

/-- exchange of the two modes of qubit `a` with those of qubit `b` -/
def qswap (a b : Nat) (z : Nat) : Nat :=
  if z / 2 = a then 2 * b + z % 2 else if z / 2 = b then 2 * a + z % 2 else z

/-! ### one instruction -/

/-- the instruction is a `swap` on two qubits -/
def isSwap (g : Instr) : Bool := g.qubits.length == 2 && g.name == "swap"

/-- the qubits of the instruction in the port order of its sub-circuit -/
def instrQ (g : Instr) : List Nat :=
  match g.qubits with
  | [q] => [q]
  | [a, b] => [min a b, max a b]
  | [a, b, t] => [min a (min b t), min a (min b t) + 1, min a (min b t) + 2]
  | _ => []

/-- herald photon numbers of the sub-circuit of the instruction (`f` = post-selected variant) -/
def instrHer (g : Instr) (f : Bool) : List Nat :=
  match g.qubits with
  | [_, _] => if g.name = "swap" then [] else if f then [0, 0] else [0, 1, 1, 0]
  | [_, _, _] => [0, 0, 0, 0]
  | _ => []

section
variable {K : Type} [Add K] [Mul K] [Neg K] [Zero K] [One K]

/-- the sub-circuit of a non-swap instruction -/
def instrSub (c : GC K) (par : Nat → K × K) (idx : Nat) (g : Instr) (f : Bool) : Circ K :=
  match g.qubits with
  | [a, b] => twoCirc c (g.name = "cx") f (if g.name = "cx" then (if a < b then 1 else 0) else 0)
  | [a, b, t] => threeCirc c (g.name = "ccx") (if g.name = "ccx" then t - min a (min b t) else 0)
  | _ => sqCirc c (sqOfName g.name (par idx))

/-- the common scalar contributed by the instruction -/
def instrK (c : GC K) (g : Instr) (f : Bool) : K :=
  match g.qubits with
  | [_, _] => if g.name = "swap" then 1 else if f then -c.third else c.half * c.half
  | [_, _, _] => c.i * (c.rh * (c.half * c.third))
  | _ => 1

end

section
variable {R : Type} [CommRing R]

/-- substitution homomorphism of one converted instruction whose heralds start at mode `P` -/
noncomputable def instrHom (c : GC R) (par : Nat → R × R) (idx : Nat) (g : Instr) (f : Bool)
    (P : Nat) : Hom R :=
  if isSwap g then rename (qswap (g.qubits.getD 0 0) (g.qubits.getD 1 0))
  else placeHomG (circHom c.i (instrSub c par idx g f)) (fwdQ (instrQ g) P) (invQ (instrQ g) P)
    (P + (instrHer g f).length)

/-- substitution homomorphism of a converted instruction list (first instruction innermost) -/
noncomputable def listHom (c : GC R) (par : Nat → R × R) :
    Nat → List Instr → List Bool → Nat → Hom R
  | _, [], _, _ => AlgHom.id R _
  | idx, g :: rest, fs, P =>
    (listHom c par (idx + 1) rest fs.tail (P + (instrHer g (fs.headD false)).length)).comp
      (instrHom c par idx g (fs.headD false) P)

/-- product of the scalars of the instructions -/
def listK (c : GC R) : List Instr → List Bool → R
  | [], _ => 1
  | g :: rest, fs => instrK c g (fs.headD false) * listK c rest fs.tail

end

/-- herald photon numbers of an instruction list, in order -/
def listHer : List Instr → List Bool → List Nat
  | [], _ => []
  | g :: rest, fs => instrHer g (fs.headD false) ++ listHer rest fs.tail

/-! ### photon-number configurations -/

/-- photons in the two modes of each qubit -/
def cfg (s : ℕ →₀ ℕ) : Config := fun q => s (2 * q) + s (2 * q + 1)

end LW.C12F
