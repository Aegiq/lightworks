/-
  LW.Proofs.C13Cnot — the CNOT-type tables over a field with valid constants, for every target: the
  CZ-type tables of LW/Proofs/C13Field.lean conjugated by Hadamards (`HasTable.conjH`).
-/
import LW.Proofs.C13Field
import LW.Proofs.C13Conj

namespace LW.Gates

open LW.QF

section Tables
variable {R : Type} [Field R] (c : GC R)

theorem CNOT_table (hv : c.Valid) {t : Nat} (ht : t < 2) :
    HasTable Eq c.i (CNOT c t) 2 (-c.third) (namedCNOT t) false := by
  have h := CZ_table_field c hv
  rw [CZ_struct] at h
  rw [CNOT_struct c ht]
  exact h.conjH c hv.rh_sq c.i 6 herCZ (by decide) (by decide) 0 _ 2 t _ ht
    ((by decide : ∀ t < 2, C12F.layout herCZ 6 (2 * t) = 1 + 2 * t) t ht)
    ((by decide : ∀ t < 2, C12F.layout herCZ 6 (2 * t + 1) = 1 + 2 * t + 1) t ht) _ false
    (fun h => Bool.noConfusion h)

/-- `CNOT_Heralded(t)`; the accepted outputs carry at most two photons per mode -/
theorem CNOTH_table (hv : c.Valid) {t : Nat} (ht : t < 2) :
    HasTable Eq c.i (CNOTH c t) 2 (c.half * c.half) (namedCNOT t) true := by
  have h := CZH_table_field c hv
  rw [CZH_struct] at h
  rw [CNOTH_struct c ht]
  refine h.conjH c hv.rh_sq c.i 8 herCZH (by decide) (by decide) 0 _ 2 t _ ht
    ((by decide : ∀ t < 2, C12F.layout herCZH 8 (2 * t) = 2 + 2 * t) t ht)
    ((by decide : ∀ t < 2, C12F.layout herCZH 8 (2 * t + 1) = 2 + 2 * t + 1) t ht) _ true
    (fun _ => ?_)
  have e : Nat.factorial 2 * C12F.factProd (herCZH.map (·.2)) = 2 := by decide
  rw [e]
  exact_mod_cast hv.two_ne

theorem CCNOT_table (hv : c.Valid) {t : Nat} (ht : t < 3) :
    HasTable Eq c.i (CCNOT c t) 3 (kCCZf c) (namedCNOT t) false := by
  have h := CCZ_table_field c hv
  rw [CCZ_struct] at h
  rw [CCNOT_struct c ht]
  exact h.conjH c hv.rh_sq c.i 10 herCCZ (by decide) (by decide) 0 _ 3 t _ ht
    ((by decide : ∀ t < 3, C12F.layout herCCZ 10 (2 * t) = 2 + 2 * t) t ht)
    ((by decide : ∀ t < 3, C12F.layout herCCZ 10 (2 * t + 1) = 2 + 2 * t + 1) t ht) _ false
    (fun h => Bool.noConfusion h)

end Tables

end LW.Gates
