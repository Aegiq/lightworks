/-
  C07StrongLaw — strong laws of large numbers, all instances of the strong law for the frequency of
  an event of pairwise independent, identically distributed outcomes (`event_frequency_converges`:
  Mathlib's `strong_law_ae` for the indicator of the event): inverse-CDF selection and `sampleOne` on
  variates uniform on `[0,1)`, and the rejection loop of `sample_N_inputs`.  For the latter, that the
  passes (`iterOutcome`, C07Sample) of a loop consuming ONE i.i.d. tape in order are themselves i.i.d.
  is ASSUMED (DESIGN 13.8), not proved.
-/
import Mathlib.Probability.StrongLaw
import LW.Proofs.C07CdfReal
import LW.Proofs.RangeSum
import LW.Proofs.ListSum

namespace LW.Proofs.C07

open MeasureTheory ProbabilityTheory Filter Topology

section events
variable {Ω : Type*} [MeasurableSpace Ω] {μ : Measure Ω}
variable {α : Type*} [MeasurableSpace α]

theorem event_frequency_converges [IsFiniteMeasure μ] (Y : ℕ → Ω → α)
    (hindep : Pairwise fun i j => IndepFun (Y i) (Y j) μ)
    (hident : ∀ i, IdentDistrib (Y i) (Y 0) μ μ) (P : α → Prop) [DecidablePred P]
    (hP : MeasurableSet {a | P a}) :
    ∀ᵐ ω ∂μ, Tendsto
      (fun n : ℕ => (((Finset.range n).filter fun i => P (Y i ω)).card : ℝ) / n)
      atTop (𝓝 ((μ.map (Y 0)).real {a | P a})) := by
  set g : α → ℝ := Set.indicator {a | P a} 1 with hg
  have hgm : Measurable g := measurable_one.indicator hP
  have haem : AEMeasurable (Y 0) μ := (hident 0).aemeasurable_fst
  have hint : Integrable (g ∘ Y 0) μ :=
    (integrable_map_measure hgm.aestronglyMeasurable haem).mp
      ((integrable_const (1 : ℝ)).indicator hP)
  have hind : Pairwise fun i j => IndepFun (g ∘ Y i) (g ∘ Y j) μ :=
    fun i j hij => (hindep hij).comp hgm hgm
  have hid : ∀ i, IdentDistrib (g ∘ Y i) (g ∘ Y 0) μ μ := fun i => (hident i).comp hgm
  have hmean : μ[g ∘ Y 0] = (μ.map (Y 0)).real {a | P a} := by
    rw [← integral_indicator_one hP]
    exact (integral_map haem hgm.aestronglyMeasurable).symm
  have hslln := strong_law_ae (fun i => g ∘ Y i) hint hind hid
  rw [hmean] at hslln
  filter_upwards [hslln] with ω hω
  refine hω.congr fun n => ?_
  simp only [Function.comp_apply, hg, Set.indicator_apply, Set.mem_ofPred_eq, Pi.one_apply,
    Finset.sum_boole, smul_eq_mul]
  rw [div_eq_inv_mul]

variable [IsProbabilityMeasure μ]

/-- accepted fraction and conditional frequencies of the rejection loop, for pass outcomes
`Y i : Option β` (`none` = rejected) -/
theorem rejection_loop_frequencies {β : Type*} [MeasurableSpace (Option β)]
    [MeasurableSingletonClass (Option β)] [DecidableEq β]
    (Y : ℕ → Ω → Option β) (hmeas : ∀ i, Measurable (Y i))
    (hindep : Pairwise fun i j => IndepFun (Y i) (Y j) μ)
    (hident : ∀ i, IdentDistrib (Y i) (Y 0) μ μ) (s : β)
    (hpos : 0 < μ.real (Y 0 ⁻¹' {o | o.isSome})) :
    ∀ᵐ ω ∂μ,
      Tendsto (fun n : ℕ => (((Finset.range n).filter fun i => (Y i ω).isSome).card : ℝ) / n)
        atTop (𝓝 (μ.real (Y 0 ⁻¹' {o | o.isSome}))) ∧
      Tendsto (fun n : ℕ =>
          (((Finset.range n).filter fun i => Y i ω = some s).card : ℝ)
            / ((Finset.range n).filter fun i => (Y i ω).isSome).card)
        atTop (𝓝 (μ.real (Y 0 ⁻¹' {some s}) / μ.real (Y 0 ⁻¹' {o | o.isSome}))) := by
  have hA : MeasurableSet {o : Option β | o.isSome} := by
    have : {o : Option β | o.isSome} = {none}ᶜ := by
      ext o; cases o <;> simp
    rw [this]
    exact (measurableSet_singleton _).compl
  have h1 := event_frequency_converges Y hindep hident (fun o => o.isSome) hA
  have h2 := event_frequency_converges Y hindep hident (· = some s) (measurableSet_singleton _)
  rw [map_measureReal_apply (hmeas 0) hA] at h1
  rw [Set.ofPred_eq_eq_singleton, map_measureReal_apply (hmeas 0) (measurableSet_singleton _)] at h2
  filter_upwards [h1, h2] with ω hω1 hω2
  refine ⟨hω1, ?_⟩
  have hdiv := hω2.div hω1 hpos.ne'
  refine hdiv.congr' ?_
  filter_upwards [eventually_gt_atTop 0] with n hn
  have hn' : (n : ℝ) ≠ 0 := by positivity
  simp only [Pi.div_apply]
  rw [div_div_div_cancel_right₀ hn']

end events

theorem measure_eq_sum_fibres {Ω ι : Type*} [MeasurableSpace Ω] {μ : Measure Ω} (X : Ω → ι)
    (T : Finset ι) (hT : ∀ ω, X ω ∈ T) (hm : ∀ k ∈ T, NullMeasurableSet {ω | X ω = k} μ)
    (P : ι → Prop) [DecidablePred P] :
    μ {ω | P (X ω)} = ∑ k ∈ T.filter P, μ {ω | X ω = k} := by
  have hset : {ω | P (X ω)} = ⋃ k ∈ T.filter P, {ω | X ω = k} := by
    ext ω
    simp only [Set.mem_ofPred_eq, Set.mem_iUnion, Finset.mem_filter, exists_prop]
    exact ⟨fun h => ⟨_, ⟨hT ω, h⟩, rfl⟩, fun ⟨k, ⟨_, hk⟩, e⟩ => e ▸ hk⟩
  rw [hset, measure_biUnion_finset₀
    (fun i _ j _ hij => (Set.disjoint_left.mpr fun ω hi hj => hij (hi.symm.trans hj)).aedisjoint)
    fun k hk => hm k (Finset.mem_filter.mp hk).1]

theorem uniform_frequency_converges {Ω : Type*} [MeasurableSpace Ω] {μ : Measure Ω}
    (U : ℕ → Ω → ℝ)
    (hindep : Pairwise fun i j => IndepFun (U i) (U j) μ)
    (hlaw : ∀ i, Measure.map (U i) μ = uniform01)
    (P : ℝ → Prop) [DecidablePred P] (hP : MeasurableSet {u | P u}) :
    ∀ᵐ ω ∂μ, Tendsto
      (fun n : ℕ => (((Finset.range n).filter fun i => P (U i ω)).card : ℝ) / n)
      atTop (𝓝 (uniform01.real {u | P u})) := by
  have haem : ∀ i, AEMeasurable (U i) μ := fun i => aemeasurable_of_map_eq_uniform (U i) (hlaw i)
  have := isProbabilityMeasure_of_map_eq_uniform (U 0) (hlaw 0)
  have h := event_frequency_converges U hindep
    (fun i => IdentDistrib.mk (haem i) (haem 0) (by rw [hlaw i, hlaw 0])) P hP
  rwa [hlaw 0] at h

theorem sampling_frequencies_converge {Ω : Type*} [MeasurableSpace Ω] {μ : Measure Ω}
    (U : ℕ → Ω → ℝ)
    (hindep : Pairwise fun i j => IndepFun (U i) (U j) μ)
    (hlaw : ∀ i, Measure.map (U i) μ = volume.restrict (Set.Ico (0 : ℝ) 1))
    (ps : List ℝ) (hnn : ∀ p ∈ ps, 0 ≤ p) (htot : 0 < ps.sum) (k : ℕ) (hk : k < ps.length) :
    ∀ᵐ ω ∂μ, Tendsto
      (fun n : ℕ =>
        (((Finset.range n).filter fun i => inverseCdfR ps (U i ω) = k).card : ℝ) / n)
      atTop (𝓝 (ps.getD k 0 / ps.sum)) := by
  rw [← uniform01_real_inverseCdfR ps hnn htot k hk]
  exact uniform_frequency_converges U hindep hlaw (fun u => inverseCdfR ps u = k)
    (measurableSet_inverseCdfR_eq ps k)

theorem sampling_frequencies_converge_iIndep {Ω : Type*} [MeasurableSpace Ω] {μ : Measure Ω}
    (U : ℕ → Ω → ℝ) (hindep : iIndepFun U μ)
    (hlaw : ∀ i, Measure.map (U i) μ = volume.restrict (Set.Ico (0 : ℝ) 1))
    (ps : List ℝ) (hnn : ∀ p ∈ ps, 0 ≤ p) (htot : 0 < ps.sum) (k : ℕ) (hk : k < ps.length) :
    ∀ᵐ ω ∂μ, Tendsto
      (fun n : ℕ =>
        (((Finset.range n).filter fun i => inverseCdfR ps (U i ω) = k).card : ℝ) / n)
      atTop (𝓝 (ps.getD k 0 / ps.sum)) :=
  sampling_frequencies_converge U (fun _ _ hij => hindep.indepFun hij) hlaw ps hnn htot k hk

theorem uniform01_real_sampleOneR (dist : List (FState × ℝ)) (hnn : ∀ x ∈ dist, 0 ≤ x.2)
    (htot : 0 < (dist.map (·.2)).sum) (s : FState) :
    uniform01.real {u : ℝ | sampleOneR dist u = s} =
      ((dist.filter fun x => decide (x.1 = s)).map (·.2)).sum / (dist.map (·.2)).sum := by
  have hnn' : ∀ p ∈ dist.map (·.2), 0 ≤ p := by
    intro p hp
    obtain ⟨x, hx, rfl⟩ := List.mem_map.mp hp
    exact hnn x hx
  have hne : dist.map (·.2) ≠ [] := by
    intro h; rw [h] at htot; simp at htot
  have hlen : (dist.map (·.2)).length = dist.length := List.length_map _
  -- the state returned is a function of the selected index, which takes finitely many values
  simp only [sampleOneR_eq]
  rw [Measure.real, measure_eq_sum_fibres (inverseCdfR (dist.map (·.2))) (Finset.range dist.length)
    (fun u => Finset.mem_range.mpr (hlen ▸ inverseCdfR_lt _ hne u))
    (fun k _ => (measurableSet_inverseCdfR_eq _ k).nullMeasurableSet)
    (fun k => (dist.getD k ([], 0)).1 = s),
    ENNReal.toReal_sum fun _ _ => measure_ne_top _ _,
    sum_filter_ite dist (fun x => x.1 = s) (·.2),
    ← sum_range_getD dist ([], 0) (fun x => if x.1 = s then x.2 else 0), Finset.sum_filter,
    Finset.sum_div]
  refine Finset.sum_congr rfl fun k hk => ?_
  have hk' : k < (dist.map (·.2)).length := hlen ▸ Finset.mem_range.mp hk
  have e : (dist.map (·.2)).getD k 0 = (dist.getD k ([], 0)).2 :=
    List.getD_map dist (([], 0) : FState × ℝ) (·.2)
  rw [← Measure.real, uniform01_real_inverseCdfR _ hnn' htot k hk', e]
  split <;> simp

theorem sampleOne_frequencies_converge {Ω : Type*} [MeasurableSpace Ω] {μ : Measure Ω}
    (U : ℕ → Ω → ℝ)
    (hindep : Pairwise fun i j => IndepFun (U i) (U j) μ)
    (hlaw : ∀ i, Measure.map (U i) μ = volume.restrict (Set.Ico (0 : ℝ) 1))
    (dist : List (FState × ℝ)) (hnn : ∀ x ∈ dist, 0 ≤ x.2) (htot : 0 < (dist.map (·.2)).sum)
    (s : FState) :
    ∀ᵐ ω ∂μ, Tendsto
      (fun n : ℕ => (((Finset.range n).filter fun i => sampleOneR dist (U i ω) = s).card : ℝ) / n)
      atTop (𝓝 (((dist.filter fun x => decide (x.1 = s)).map (·.2)).sum / (dist.map (·.2)).sum)) := by
  rw [← uniform01_real_sampleOneR dist hnn htot s]
  exact uniform_frequency_converges U hindep hlaw (fun u => sampleOneR dist u = s)
    (measurableSet_sampleOneR_eq dist s)

end LW.Proofs.C07
