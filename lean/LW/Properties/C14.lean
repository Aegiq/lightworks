/-
  C14 — Reck mapping reproduces any unitary; noise enters only through the error model.

  Only the property theorems and their non-vacuity examples live here; helper lemmas are in
  LW/Proofs/C14*.lean.  Model: LW.Model.Reck (`reckDecomposition`, `bsMatrix`, `Reck.map` through the
  Circuit construction API of LW.Model.Circuit, specification `mapSpec`), LW.Model.ReckNoise
  (distributions as tape functions, `setRandomSeed`, `program`).

  The float operations of the code are the fields of `Reck.Num K`; `NumOk` / `ChecksOk` state
  what the real functions they approximate satisfy, and `real_functions_satisfy_contracts` proves
  it for arctan / cos / sin / exp / arg over ℂ written exactly as in the code, so that
  `map_U_eq_complex` has no hypothesis on them.  All statements are for every number of modes,
  every unitary, every pair of herald dictionaries satisfying `HeraldsOk` (an assumption: it says
  what the dictionaries of a circuit satisfy, and no theorem derives it from a circuit); nothing is
  bounded.
  Not covered by proof (trusted, exercised by the check): IEEE rounding (F16: `(-tiny) % 2π`
  rounds to `2π`), the numerical thresholds 1e-20 / 1e-10, numpy's generators.
-/
import LW.Proofs.C14
import LW.Proofs.C14Noise

open Matrix

namespace LW.C14

open LW.Reck LW.Proofs.C14

variable {K : Type} [CommRing K] [StarRing K]

/-- **Unit cell** (`Reck.map`: barrier, ps(φ) on mode+1, bs(½), ps(θ) on mode, bs(½)): the ordered
product of the five components on `n` modes is `bs_matrix(j, j+1, θ, φ)` of the decomposition read
in flipped mode order (`mode = n-j-2`).  `h = √½`, `x = (cos θ/2, sin θ/2, e^{iθ/2}, e^{iφ})`. -/
theorem unit_cell_identity {n j : Nat} (hj : j + 1 < n) {i h : K} (hi : IsImagUnit i)
    (hh : 2 * (h * h) = 1) {x : Cell K} (hx : CellOk i x) (a : Nat) (r k : Nat) (hr : r < n)
    (hk : k < n) :
    (orderedProd i n (flattenSpec (cellSpec (EM.ideal h) n x a j))).get r k =
      (bsMatrix i n j (j + 1) x).get (n - 1 - r) (n - 1 - k) :=
  Proofs.C14.unit_cell_identity hj hi hh hx a r k hr hk

example : CellOk Complex.I exCell := exCell_ok

/-- **Nulling step** (`unitary @ conj(tr_ij.T)`): with settings that satisfy
`cos(θ/2)·u_{ij+1} = e^{-iφ}·sin(θ/2)·u_{ij}` the entry `(loc, j)` becomes zero. -/
theorem null_step_zeroes_entry {n loc j : Nat} {i : K} (U : M K) (hU : U.n = n) (hloc : loc < n)
    (hj : j < loc) {x : Cell K} (hx : CellOk i x)
    (hnull : x.c * U.get loc (j + 1) = star x.p * x.s * U.get loc j) :
    (nullStep i U j x).get loc j = 0 :=
  Proofs.C14.null_step_zeroes_entry U hU hloc hj hx hnull

/-- both branches of the code (`abs(u_ij) < 1e-20` → `(π, 0)`, else arctan / angle) choose settings
that satisfy the nulling relation for the entries they were computed from. -/
theorem chosen_settings_null {i : K} {N : Num K} (hN : NumOk i N) (U : M K) (a j : Nat) :
    (stepCell N i U a j).c * U.get (U.n - 1 - a) (j + 1) =
      star (stepCell N i U a j).p * (stepCell N i U a j).s * U.get (U.n - 1 - a) j :=
  stepCell_nulls hN U a j

/-- after the double loop of `reck_decomposition` every entry below the diagonal is zero
(each step zeroes its entry and keeps the entries nulled before; no unitarity needed). -/
theorem nulling_loop_lower_zero {i : K} (hi : IsImagUnit i) {N : Num K} (hN : NumOk i N)
    (U : M K) (r c : Nat) (hr : r < U.n) (hcr : c < r) :
    (decompLoop N i U).U.get r c = 0 := by
  unfold decompLoop
  rw [foldl_decompStep]
  exact lower_zero hN U rfl ⟨r, hr⟩ ⟨c, by omega⟩ hcr

/-- **A triangular unitary is diagonal**, with unimodular diagonal entries (the residual phases). -/
theorem nulled_unitary_diagonal {n : Nat} (X : Matrix (Fin n) (Fin n) K)
    (hX : X ∈ Matrix.unitaryGroup (Fin n) K) (hlow : ∀ r c : Fin n, c < r → X r c = 0) :
    (∀ r c : Fin n, r ≠ c → X r c = 0) ∧ ∀ r, X r r * star (X r r) = 1 :=
  Proofs.C14.nulled_unitary_diagonal X hX hlow

/-- **Mapping with the default error model reproduces the unitary and the heralds.**
For every circuit (`src` = its `n_modes`, `U`, `heralds`) whose `U` is unitary, `Reck().map` is
accepted by every Circuit API call it makes and returns a circuit on the same modes with the same
heralds whose `U` equals the original entry by entry. -/
theorem map_U_eq {i h : K} (hi : IsImagUnit i) (hh : 2 * (h * h) = 1) (hhr : star h = h)
    {N : Num K} (hN : NumOk i N) (hC : ChecksOk N) (src : Src K) (hn : src.U.n = src.n)
    (hU : src.U.toMatN src.n ∈ Matrix.unitaryGroup (Fin src.n) K)
    (hH : HeraldsOk src.n src.inHer src.outHer) :
    ∃ c', Reck.map N (EM.ideal h) i src = .ok c' ∧ c'.n = src.n ∧ c'.inHer = src.inHer ∧
      c'.outHer = src.outHer ∧
      ∀ r k, r < src.n → k < src.n → (c'.U i).get r k = src.U.get r k :=
  Proofs.C14.map_U_eq hi hh hhr hN hC src hn hU hH

/-- the same over ℂ with the real functions the code calls (`2*arctan(|u1|/|u0|)`,
`angle(u0)-angle(u1)`, `cos`, `sin`, `exp(1j·)`): no hypothesis on the numerics is left. -/
theorem map_U_eq_complex (src : Src ℂ) (hn : src.U.n = src.n)
    (hU : src.U.toMatN src.n ∈ Matrix.unitaryGroup (Fin src.n) ℂ)
    (hH : HeraldsOk src.n src.inHer src.outHer) :
    ∃ c', Reck.map complexNum (EM.ideal rtHalfC) Complex.I src = .ok c' ∧ c'.n = src.n ∧
      c'.inHer = src.inHer ∧ c'.outHer = src.outHer ∧
      ∀ r k, r < src.n → k < src.n → (c'.U Complex.I).get r k = src.U.get r k :=
  Proofs.C14.map_U_eq_complex src hn hU hH

/-- non-vacuity: a heralded 2-mode unitary (herald in ≠ out) meets every hypothesis -/
example : ∃ c', Reck.map complexNum (EM.ideal rtHalfC) Complex.I exSrc = .ok c' ∧ c'.n = 2 ∧
    c'.inHer = [(0, 1)] ∧ c'.outHer = [(1, 1)] ∧
    ∀ r k, r < 2 → k < 2 → (c'.U Complex.I).get r k = exU.get r k :=
  map_U_eq_complex exSrc rfl exSrc_unitary exSrc_heralds

/-- the real functions satisfy the algebraic contracts the model assumes of the float calls -/
theorem real_functions_satisfy_contracts : NumOk Complex.I complexNum ∧ ChecksOk complexNum :=
  ⟨Proofs.C14.complexNum_ok, Proofs.C14.complexNum_checks⟩

/-- the mapped circuit is exactly the Reck mesh: unit cells of adjacent-mode beam splitters and
phase shifters in loop order, a barrier, the residual phases — for every valid error model. -/
theorem map_builds_mesh {i : K} (hi : IsImagUnit i) {N : Num K} (hN : NumOk i N) (hC : ChecksOk N)
    {em : EM K} (hem : EMOk em) (src : Src K) (hn : src.U.n = src.n)
    (hU : src.U.toMatN src.n ∈ Matrix.unitaryGroup (Fin src.n) K)
    (hH : HeraldsOk src.n src.inHer src.outHer) :
    ∃ c', Reck.map N em i src = .ok c' ∧ c'.n = src.n ∧ c'.internal = [] ∧
      c'.inHer = src.inHer ∧ c'.outHer = src.outHer ∧
      c'.spec = mapSpec em src.n ((steps src.n).zip (cellsGo N i (steps src.n) (flip src.U)))
        ((List.range src.n).map fun k =>
          N.ang ((finalGo N i (steps src.n) (flip src.U)).get k k)) := by
  obtain ⟨c', h1, h2, h3, h4, h5, h6, _⟩ := Proofs.C14.map_ok hi hN hC hem src hn hU hH
  exact ⟨c', h1, h2, h3, h4, h5, h6⟩

/-- **Noise enters only through the error model, and the result is still a valid circuit**: for
every error model whose values are valid component parameters the mapping is accepted, keeps the
heralds, every component is in its documented range and `U_full` is unitary (so `U` is a
sub-unitary block of it). -/
theorem map_valid_any_error_model {i : K} (hi : IsImagUnit i) {N : Num K} (hN : NumOk i N)
    (hC : ChecksOk N) {em : EM K} (hem : EMOk em) (src : Src K) (hn : src.U.n = src.n)
    (hU : src.U.toMatN src.n ∈ Matrix.unitaryGroup (Fin src.n) K)
    (hH : HeraldsOk src.n src.inHer src.outHer) :
    ∃ c', Reck.map N em i src = .ok c' ∧ c'.n = src.n ∧ c'.inHer = src.inHer ∧
      c'.outHer = src.outHer ∧ SpecWf c'.n c'.spec ∧ IsUnitary (c'.Ufull i) := by
  obtain ⟨c', h1, h2, _, h4, h5, _, hwf⟩ := map_ok hi hN hC hem src hn hU hH
  exact ⟨c', h1, h2, h4, h5, hwf, LW.Proofs.C01.Ufull_unitary i hi c'.n c'.spec hwf⟩

example : EMOk (EM.ideal rtHalfC) := EMOk_ideal rtHalfC_sq rtHalfC_real

/-- a circuit whose `U` fails `check_unitary` (a lossy circuit) is rejected with `ValueError`. -/
theorem map_rejects_nonunitary {N : Num K} (em : EM K) (i : K) (src : Src K)
    (h : N.isUnitary (flip src.U) = false) : Reck.map N em i src = .error .value := by
  unfold Reck.map reckDecomposition
  simp [h, bind, Except.bind]

/-- every programmed phase `(v + offset) % 2π` lies in `[0, 2π)` (exact arithmetic; the float
operation can round a tiny negative input up to `2π` — finding F16, caught by the check). -/
theorem phase_in_range (x y : Rat) (hy : 0 < y) : 0 ≤ pmod x y ∧ pmod x y < y :=
  Proofs.C14.pmod_range x y hy

/-- **Every drawn value lies within the distribution's declared bounds** (Constant: the value,
TopHat: `[min, max]`, Gaussian: the resampling loop's exit condition), and drawing only advances
the generator. -/
theorem draws_within_bounds (d : Dist) (t t' : Tape) (v : Rat) (ht : TapeOk d t)
    (h : d.value t = some (v, t')) : d.within v ∧ t' <:+ t :=
  Proofs.C14.value_within d t t' v ht h

example : (Dist.topHat (2 / 5) (3 / 5)).value [1 / 2, 1 / 4] = some (1 / 2, [1 / 4]) := by
  decide +kernel

example : (Dist.gaussian 0 (1 / 10) (some (-1 / 5)) (some (1 / 5))).value [3 / 10, 1 / 10] =
    some (1 / 10, []) := by decide +kernel

/-- `TopHat(min, max)` / `Gaussian(…, min, max)` with `max < min` raise `ValueError`. -/
theorem distribution_rejects_inverted_bounds (c dv lo hi : Rat) (h : hi < lo) :
    mkTopHat lo hi = .error .value ∧ mkGaussian c dv (some lo) (some hi) = .error .value := by
  simp [mkTopHat, mkGaussian, h]

/-- everything `Reck.map` programs from an error model: phases in `[0, 2π)`, reflectivities and
losses inside the declared bounds, one parameter set per unit cell. -/
theorem programmed_bounds (twoPi : Rat) (h2 : 0 < twoPi) (e e' : EMS) (A : Angles) (P : Programmed)
    (hb : TapeOk e.bs e.tBs) (hl : TapeOk e.loss e.tLoss)
    (h : program twoPi e A = some (P, e')) :
    (∀ c ∈ P.cells, (0 ≤ c.phi ∧ c.phi < twoPi) ∧ (0 ≤ c.theta ∧ c.theta < twoPi) ∧
      e.bs.within c.r1 ∧ e.bs.within c.r2 ∧ e.loss.within c.loss) ∧
    (∀ p ∈ P.ends, 0 ≤ p ∧ p < twoPi) ∧ P.cells.length = A.cells.length := by
  simp only [program, Option.bind_eq_bind, Option.bind_eq_some_iff, Option.some.injEq,
    Prod.mk.injEq, Prod.exists] at h
  obtain ⟨cells, t1, h1, ends, t3, h3, cps, t4, t5, h4, rfl, -⟩ := h
  obtain ⟨o1, o2⟩ := offsetCells_range twoPi h2 e.off A.cells e.tOff t1 cells h1
  have o3 := offsetEnds_range twoPi h2 e.off A.ends t1 t3 ends h3
  obtain ⟨d1, d2⟩ := drawCells_within e.bs e.loss cells e.tBs e.tLoss t4 t5 cps hb hl h4
  refine ⟨?_, o3, ?_⟩
  · intro c hc
    have hmem : (c.theta, c.phi) ∈ cells := by
      rw [← d2]; exact List.mem_map.mpr ⟨c, hc, rfl⟩
    have := o1 _ hmem
    exact ⟨this.2, this.1, d1 c hc⟩
  · rw [← o2, ← d2, List.length_map]

example : ((program (44 / 7) exEMS ⟨[(1, 2)], [3]⟩).map fun r => r.1.cells.length) = some 1 := by
  decide +kernel

/-- **The same seed gives the same mapped circuit**: two error models with equal distributions,
whatever their generators did before, program the same parameters when mapped with the same
integer seed (`_set_random_seed` re-seeds every distribution that has a generator, Constant has
none and reads none). -/
theorem seed_determinism (gen : Nat → Dist → Tape) (seedInts : Nat → List Nat) (twoPi : Rat)
    (e1 e2 : EMS) (hbs : e1.bs = e2.bs) (hloss : e1.loss = e2.loss) (hoff : e1.off = e2.off)
    (seed : Nat) (A : Angles) :
    (mapParams gen seedInts twoPi e1 seed A).map Prod.fst =
      (mapParams gen seedInts twoPi e2 seed A).map Prod.fst :=
  Proofs.C14.seed_determinism gen seedInts twoPi e1 e2 hbs hloss hoff seed A

end LW.C14
