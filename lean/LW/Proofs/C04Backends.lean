/-
  LW.Proofs.C04Backends — the SLOS amplitudes are the permanents divided by `t!`; hence the SLOS
  dictionary is the same image measure over the Fock basis as the permanent one (`mix_slosPd`), the
  two backends agree away from the vacuum, and without truncation the distribution of a unitary
  circuit sums to one (`amplitudes_unit_vector`, LW.Proofs.FockFunctor).
-/
import LW.Proofs.C04Slos
import LW.Proofs.FockFunctor
import Mathlib.Algebra.Order.BigOperators.Group.List
import Mathlib.Algebra.Order.BigOperators.GroupWithZero.List
import Mathlib.Algebra.BigOperators.Ring.List

open Finset

namespace LW.Proofs.C04b

open LW LW.Proofs.C04a LW.Proofs.C03

variable {K Q : Type}

/-- both sides are the coefficients of the image of the input monomial -/
theorem ampNum_eq_slos [CommRing K] (U : M K) (s t : FState)
    (hs : s.length = U.n) (ht : t.length = U.n) (hp : photons t = photons s) :
    ampNum U s t = ((factProd t : Nat) : K) * slosGet (slosPhi U s) t := by
  rw [FockIso.ampNum_eq_amp U s t hs ht hp, slosGet_slosPhi U s t hs ht]

/-- the statement that DESIGN.md §5 (C04, T) names: `ampNum_eq_slos` with a hypothesis `hN` that
is not needed -/
theorem slos_eq_permanent [CommRing K] (U : M K) (hN : 0 < U.n) (s t : FState)
    (hs : s.length = U.n) (ht : t.length = U.n) (hp : photons t = photons s) :
    ampNum U s t = ((factProd t : Nat) : K) * slosGet (slosPhi U s) t :=
  have _ := hN
  ampNum_eq_slos U s t hs ht hp

theorem table_sum_eq {A : Type} [AddCommMonoid A] [AddCommMonoid K] (d : List (FState × K))
    (hd : (d.map (·.1)).Nodup) (B : List FState) (hB : B.Nodup) (hsub : ∀ k ∈ d.map (·.1), k ∈ B)
    (g : FState → K → A) (hg : ∀ t, g t 0 = 0) :
    (d.map fun x => g x.1 x.2).sum = (B.map fun t => g t (slosGet d t)).sum := by
  have h1 : d.map (fun x => g x.1 x.2) = (d.map (·.1)).map (fun t => g t (slosGet d t)) := by
    rw [List.map_map]
    apply List.map_congr_left
    intro x hx
    simp only [Function.comp_apply, slosGet_of_mem d hd x hx]
  rw [h1, ← List.sum_toFinset _ hd, ← List.sum_toFinset _ hB]
  apply Finset.sum_subset
  · intro k hk
    rw [List.mem_toFinset] at hk ⊢
    exact hsub k hk
  · intro t _ ht
    rw [List.mem_toFinset] at ht
    rw [slosGet_of_not_mem d t ht, hg]

theorem slosPhi_sub_basis [CommRing K] (U : M K) (hN : 0 < U.n) (s : FState) :
    ∀ k ∈ (slosPhi U s).map (·.1), k ∈ fockBasis U.n (photons s) := by
  intro k hk
  rw [C03.fockBasis_complete _ _ hN]
  exact slosPhi_keys U s k hk

theorem transProb_eq_slos [CommRing K] [Field Q] [LinearOrder Q] [IsStrictOrderedRing Q]
    (nsq : K → Q) (hmul : ∀ a b, nsq (a * b) = nsq a * nsq b)
    (hnat : ∀ n : Nat, nsq (n : K) = (n : Q) * (n : Q)) (U : M K) (s o : FState)
    (hs : s.length = U.n) (ho : o.length = U.n) (hp : photons o = photons s) :
    transProb nsq U s o =
      nsq (slosGet (slosPhi U s) o) * ((factProd o : Nat) : Q) / ((factProd s : Nat) : Q) := by
  unfold transProb ampNormSq
  rw [ampNum_eq_slos U s o hs ho hp, hmul, hnat, Nat.cast_mul]
  have h1 : ((factProd o : Nat) : Q) ≠ 0 := Nat.cast_ne_zero.2 (FockIso.factProd_pos o).ne'
  rw [mul_assoc, mul_comm ((factProd s : Nat) : Q), mul_div_mul_left _ _ h1, mul_comm]

theorem mix_slosPd [CommRing K] [Field Q] [LinearOrder Q] [IsStrictOrderedRing Q] (nsq : K → Q)
    (hmul : ∀ a b, nsq (a * b) = nsq a * nsq b) (hnat : ∀ n : Nat, nsq (n : K) = (n : Q) * (n : Q))
    (eps : Q) (U : M K) (hN : 0 < U.n) (nReal : Nat) (inS : FState) (hinS : inS.length = U.n)
    (F : FState → Q) :
    C06.mix (slosPd nsq eps U nReal inS) F =
      (((fockBasis U.n (photons inS)).filter fun o => eps < transProb nsq U inS o).map fun o =>
        transProb nsq U inS o * F (o.take nReal)).sum := by
  have h0 : nsq 0 = 0 := by
    have := hnat 0
    rwa [Nat.cast_zero, Nat.cast_zero, mul_zero] at this
  rw [slosPd_eq_ofPairs, C06.mix_ofPairs, C06.mix_map, sum_filter_ite, sum_filter_ite]
  refine Eq.trans (table_sum_eq _ (slosPhi_nodup U _) _ (C03.fockBasis_nodup U.n _)
    (slosPhi_sub_basis U hN _)
    (fun t a => if eps < slosP nsq inS t a then slosP nsq inS t a * F (t.take nReal) else 0)
    (fun t => by rw [slosP, h0, zero_mul, zero_div, zero_mul]; exact ite_self 0)) ?_
  congr 1
  apply List.map_congr_left
  intro o ho
  obtain ⟨ho1, ho2⟩ := (C03.fockBasis_complete _ _ hN o).1 ho
  rw [transProb_eq_slos nsq hmul hnat U _ o hinS ho1 ho2]

section Norm
variable [Field K] [StarRing K] [CharZero K] [Field Q] [LinearOrder Q] [IsStrictOrderedRing Q]

omit [CharZero K] [LinearOrder Q] [IsStrictOrderedRing Q] in
theorem nsq_mul (nsq : K → Q) (ι : Q →+* K) (hι : Function.Injective ι)
    (hnsq : ∀ z, ι (nsq z) = z * star z) (a b : K) : nsq (a * b) = nsq a * nsq b := by
  apply hι
  rw [map_mul, hnsq, hnsq, hnsq, star_mul']
  ring

omit [CharZero K] [LinearOrder Q] [IsStrictOrderedRing Q] in
theorem nsq_natCast (nsq : K → Q) (ι : Q →+* K) (hι : Function.Injective ι)
    (hnsq : ∀ z, ι (nsq z) = z * star z) (n : Nat) : nsq (n : K) = (n : Q) * (n : Q) := by
  apply hι
  rw [hnsq, map_mul, map_natCast, star_natCast]

omit [LinearOrder Q] [IsStrictOrderedRing Q] in
theorem transProb_sum_one (nsq : K → Q) (ι : Q →+* K) (hι : Function.Injective ι)
    (hnsq : ∀ z, ι (nsq z) = z * star z) (U : M K) (hU : IsUnitary U) (hN : 0 < U.n)
    (s : FState) (hs : s.length = U.n) :
    ((fockBasis U.n (photons s)).map (transProb nsq U s)).sum = 1 := by
  apply hι
  rw [map_list_sum, List.map_map, map_one, ← FockIso.amplitudes_unit_vector U hU hN s hs]
  congr 1
  apply List.map_congr_left
  intro t _
  simp only [Function.comp_apply, transProb, map_div₀, hnsq, map_natCast]

theorem permPd_total_le_one (nsq : K → Q) (ι : Q →+* K) (hι : Function.Injective ι)
    (hnsq : ∀ z, ι (nsq z) = z * star z) (hn : ∀ z, 0 ≤ nsq z) (U : M K) (hU : IsUnitary U)
    (hN : 0 < U.n) (nReal : Nat) (inS : FState) (hinS : inS.length = U.n) :
    (permPd nsq 0 U nReal inS).total ≤ 1 := by
  rw [permPd_total, hinS, ← transProb_sum_one nsq ι hι hnsq U hU hN inS hinS]
  refine (List.filter_sublist.map _).sum_le_sum fun a ha => ?_
  obtain ⟨o, _, rfl⟩ := List.mem_map.1 ha
  exact transProb_nonneg nsq hn U inS o

/-- without loss modes no pattern is skipped, and dropping the zero terms keeps the sum -/
theorem permPd_total_lossless (nsq : K → Q) (ι : Q →+* K) (hι : Function.Injective ι)
    (hnsq : ∀ z, ι (nsq z) = z * star z) (hn : ∀ z, 0 ≤ nsq z) (U : M K) (hU : IsUnitary U)
    (hN : 0 < U.n) (nReal : Nat) (hnR : U.n ≤ nReal) (inS : FState) (hinS : inS.length = U.n)
    (h0 : photons inS ≠ 0) : (permPd nsq 0 U nReal inS).total = 1 := by
  rw [permPd_total, hinS, ← transProb_sum_one nsq ι hι hnsq U hU hN inS hinS,
    ← sum_filter_pos _ (fockBasis U.n (photons inS))
      (fun o _ => transProb_nonneg nsq hn U inS o)]
  congr 2
  apply List.filter_congr
  intro o ho
  obtain ⟨ho1, ho2⟩ := (C03.fockBasis_complete _ _ hN o).1 ho
  have hto : photons (o.take nReal) ≠ 0 := by
    rw [List.take_of_length_le (by omega), ho2]
    exact h0
  simp only [hto, ne_eq, not_false_eq_true, true_and]

theorem slosPd_total_one (nsq : K → Q) (ι : Q →+* K) (hι : Function.Injective ι)
    (hnsq : ∀ z, ι (nsq z) = z * star z) (hn : ∀ z, 0 ≤ nsq z) (U : M K) (hU : IsUnitary U)
    (hN : 0 < U.n) (nReal : Nat) (inS : FState) (hinS : inS.length = U.n) :
    (slosPd nsq 0 U nReal inS).total = 1 := by
  rw [C06.pdist_total, C06.total_eq_mix, mix_slosPd nsq (nsq_mul nsq ι hι hnsq)
    (nsq_natCast nsq ι hι hnsq) 0 U hN nReal inS hinS]
  simp only [mul_one]
  exact (sum_filter_pos _ _ (fun o _ => transProb_nonneg nsq hn U inS o)).trans
    (transProb_sum_one nsq ι hι hnsq U hU hN inS hinS)

theorem fullDist_total_one (nsq : K → Q) (ι : Q →+* K) (hι : Function.Injective ι)
    (hnsq : ∀ z, ι (nsq z) = z * star z) (hn : ∀ z, 0 ≤ nsq z)
    (b : BackendKind) (U : M K) (hU : IsUnitary U) (nReal : Nat) (input : FState)
    (hlen : input.length = nReal) (hle : nReal ≤ U.n) (hN : 0 < U.n) :
    (fullDist b nsq 0 U nReal input).total = 1 := by
  have hinS := inS_length U nReal input hlen hle
  by_cases h0 : photons input = 0
  · rw [fullDist_of_vacuum b nsq 0 U nReal input h0]
    exact zero_add 1
  · cases b with
    | permanent =>
      show (fullDistPermanent nsq 0 U nReal input).total = 1
      rw [fullDistPermanent_of_ne nsq 0 U nReal input h0, total_append_permTail]
      have hle1 := permPd_total_le_one nsq ι hι hnsq hn U hU hN nReal _ hinS
      by_cases ht : (permPd nsq 0 U nReal (input ++ List.replicate (U.n - nReal) 0)).total < 1 ∧
          U.n - nReal > 0
      · exact if_pos ht
      · rw [if_neg ht]
        rcases not_and_or.1 ht with h | h
        · exact le_antisymm hle1 (not_lt.1 h)
        · exact permPd_total_lossless nsq ι hι hnsq hn U hU hN nReal (by omega) _ hinS
            (by rw [photons_append_zeros]; exact h0)
    | slos =>
      show (fullDistSlos nsq 0 U nReal input).total = 1
      rw [fullDistSlos_of_ne nsq 0 U nReal input h0]
      exact slosPd_total_one nsq ι hι hnsq hn U hU hN nReal _ hinS

end Norm

/-- the backends differ only in how the all-lost pattern is booked, hence `hF` -/
theorem backends_agree_mix [CommRing K] [Field Q] [LinearOrder Q] [IsStrictOrderedRing Q]
    (nsq : K → Q) (hmul : ∀ a b, nsq (a * b) = nsq a * nsq b)
    (hnat : ∀ n : Nat, nsq (n : K) = (n : Q) * (n : Q))
    (eps : Q) (U : M K) (nReal : Nat) (input : FState) (hlen : input.length = nReal)
    (hU : nReal ≤ U.n) (hN : 0 < U.n) (F : FState → Q) (hF : F (List.replicate nReal 0) = 0) :
    C06.mix (fullDistSlos nsq eps U nReal input) F =
      C06.mix (fullDistPermanent nsq eps U nReal input) F := by
  have hinS := inS_length U nReal input hlen hU
  by_cases h0 : photons input = 0
  · exact congrArg (fun d : PDist Q => C06.mix d F)
      ((fullDist_of_vacuum .slos nsq eps U nReal input h0).trans
        (fullDist_of_vacuum .permanent nsq eps U nReal input h0).symm)
  · rw [fullDistSlos_of_ne nsq eps U nReal input h0, fullDistPermanent_of_ne nsq eps U nReal input h0,
      C06.mix_append, mix_permTail _ _ _ F hF, add_zero,
      mix_slosPd nsq hmul hnat eps U hN nReal _ hinS, mix_permPd, hinS, sum_filter_ite,
      sum_filter_ite]
    congr 1
    apply List.map_congr_left
    intro o ho
    obtain ⟨ho1, _⟩ := (C03.fockBasis_complete _ _ hN o).1 ho
    by_cases hv : photons (o.take nReal) = 0
    · have hvac : o.take nReal = List.replicate nReal 0 := by
        have := C03.eq_replicate_of_photons_eq_zero _ hv
        rwa [List.length_take, ho1, Nat.min_eq_left hU] at this
      have hn : ¬ (photons (o.take nReal) ≠ 0 ∧
          eps < transProb nsq U (input ++ List.replicate (U.n - nReal) 0) o) := fun h => h.1 hv
      rw [if_neg hn, hvac, hF, mul_zero, ite_self]
    · simp only [hv, ne_eq, not_false_eq_true, true_and]

theorem backends_agree [CommRing K] [Field Q] [LinearOrder Q] [IsStrictOrderedRing Q]
    (nsq : K → Q) (hmul : ∀ a b, nsq (a * b) = nsq a * nsq b)
    (hnat : ∀ n : Nat, nsq (n : K) = (n : Q) * (n : Q))
    (eps : Q) (U : M K) (nReal : Nat) (input : FState) (hlen : input.length = nReal)
    (hU : nReal ≤ U.n) (hN : 0 < U.n) (r : FState) (hr : photons r ≠ 0) :
    ((fullDistSlos nsq eps U nReal input).get? r).getD 0 =
      ((fullDistPermanent nsq eps U nReal input).get? r).getD 0 := by
  refine (C06.getD_eq_mix (fullDistSlos nsq eps U nReal input)
    (fullDist_nodup .slos nsq eps U nReal input) r).trans (Eq.trans ?_
    (C06.getD_eq_mix (fullDistPermanent nsq eps U nReal input)
      (fullDist_nodup .permanent nsq eps U nReal input) r).symm)
  refine backends_agree_mix nsq hmul hnat eps U nReal input hlen hU hN _ (if_neg fun h => hr ?_)
  rw [← h, photons_replicate_zero]

theorem pdistCalc_total_one [Field K] [StarRing K] [CharZero K] [Field Q] [LinearOrder Q]
    [IsStrictOrderedRing Q] (nsq : K → Q) (ι : Q →+* K) (hι : Function.Injective ι)
    (hnsq : ∀ z, ι (nsq z) = z * star z) (hn : ∀ z, 0 ≤ nsq z)
    (b : BackendKind) (U : M K) (hU : IsUnitary U) (nReal : Nat) (hle : nReal ≤ U.n)
    (hN : 0 < U.n) (inputs : List (FState × Q))
    (hin : ∀ x ∈ inputs, x.1.length = nReal) (hw : (inputs.map (·.2)).sum = 1) :
    (pdistCalc b nsq 0 U nReal inputs).total = 1 := by
  have hc : (calcPd b nsq 0 U nReal inputs).total = 1 :=
    calcPd_total_one b nsq 0 U nReal inputs
      (fun x hx => fullDist_total_one nsq ι hι hnsq hn b U hU nReal x.1 (hin x hx) hle hN) hw
  rw [pdistCalc_eq, hc, if_neg (fun h => lt_irrefl _ h.1)]
  exact hc

/-! Non-vacuity (a small instance; the unitary instance over ℂ is in `LW.Proofs.C04Example`):
`K = ℤ`, `Q = ℚ`, unnormalised Hadamard, `|z|² := z²`, negative truncation threshold: the output
`[1, 1]` has amplitude `0` (Hong–Ou–Mandel), so its key exists in one backend only. -/

section NonVacuity

private def Uex : M Int := ⟨2, #[#[1, 1], #[1, -1]]⟩
private def nsqex : Int → Rat := fun z => ((z * z : Int) : Rat)

example : ((fullDistSlos nsqex (-1) Uex 2 [1, 1]).get? [1, 1]).getD 0 =
    ((fullDistPermanent nsqex (-1) Uex 2 [1, 1]).get? [1, 1]).getD 0 :=
  backends_agree nsqex (by intro a b; simp only [nsqex]; push_cast; ring)
    (by intro n; simp [nsqex]) (-1) Uex 2 [1, 1] rfl (by decide) (by decide) [1, 1] (by decide)

example : ampNum Uex [1, 1] [0, 2] = ((factProd [0, 2] : Nat) : Int) * slosGet (slosPhi Uex [1, 1]) [0, 2] :=
  slos_eq_permanent Uex (by decide) [1, 1] [0, 2] rfl rfl rfl

end NonVacuity

end LW.Proofs.C04b
