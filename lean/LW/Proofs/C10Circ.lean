/-
  LW.Proofs.C10Circ — parametrised circuits: listing of parameters, frozen copies, validity of the
  current values, and dependence of `U` on the listed parameters only (C10).
-/
import LW.Proofs.C10Map
import LW.Proofs.ListLemmas

namespace LW

variable {α K K' K'' : Type}

namespace Sym

theorem fix01_eval [Zero K] [One K] (ν : Views α K) (σ : Store α) :
    Fix01 (Sym.eval ν σ : Sym α K → K) := ⟨rfl, rfl⟩

theorem fix01_freeze [Zero K] [One K] (σ : Store α) :
    Fix01 (Sym.freeze σ : Sym α K → Sym α K) := ⟨rfl, rfl⟩

theorem mem_ids {s : Sym α K} {id : Nat} : id ∈ s.ids ↔ ∃ r, s = .view r (.param id) := by
  cases s with
  | lit k => exact ⟨fun h => (nomatch h), fun ⟨_, h⟩ => (nomatch h)⟩
  | view r src =>
    cases src with
    | const v => exact ⟨fun h => (nomatch h), fun ⟨_, h⟩ => (nomatch h)⟩
    | param id' =>
      exact ⟨fun h => ⟨r, by rw [List.mem_singleton.mp h]⟩, fun ⟨_, h⟩ => by cases h; exact List.mem_singleton.mpr rfl⟩

theorem ids_freeze (σ : Store α) (s : Sym α K) : (s.freeze σ).ids = [] := by
  cases s with
  | lit k => rfl
  | view r src => cases src <;> rfl

theorem eval_freeze [Zero K] (ν : Views α K) (σ σ' : Store α) (s : Sym α K) :
    (s.freeze σ).eval ν σ' = s.eval ν σ := by
  cases s with
  | lit k => rfl
  | view r src => cases src <;> rfl

theorem valid_freeze (ν : Views α K) (σ σ' : Store α) (s : Sym α K) :
    (s.freeze σ).valid ν σ' = s.valid ν σ := by
  cases s with
  | lit k => rfl
  | view r src => cases src <;> rfl

theorem eval_congr [Zero K] (ν : Views α K) (σ σ' : Store α) (s : Sym α K)
    (h : ∀ id ∈ s.ids, σ.val id = σ'.val id) : s.eval ν σ = s.eval ν σ' := by
  cases s with
  | lit k => rfl
  | view r src =>
    cases src with
    | const v => rfl
    | param id =>
      have := h id (by simp [Sym.ids])
      simp only [Sym.eval, PF.val, this]

theorem valid_congr (ν : Views α K) (σ σ' : Store α) (s : Sym α K)
    (h : ∀ id ∈ s.ids, σ.val id = σ'.val id) : s.valid ν σ = s.valid ν σ' := by
  cases s with
  | lit k => rfl
  | view r src =>
    cases src with
    | const v => rfl
    | param id =>
      have := h id (by simp [Sym.ids])
      simp only [Sym.valid, PF.val, this]

end Sym

namespace PCirc

theorem mem_foldl_addNew (l acc : List Nat) (x : Nat) :
    x ∈ l.foldl addNew acc ↔ x ∈ acc ∨ x ∈ l :=
  mem_foldl_insertNew l acc x

theorem nodup_foldl_addNew (l acc : List Nat) (h : acc.Nodup) : (l.foldl addNew acc).Nodup :=
  nodup_foldl_insertNew l h

theorem getAllParams_nodup (c : PCirc α K) : c.getAllParams.Nodup :=
  nodup_foldl_addNew _ [] List.nodup_nil

theorem mem_getAllParams (c : PCirc α K) (id : Nat) :
    id ∈ c.getAllParams ↔ ∃ s ∈ c.syms, id ∈ s.ids := by
  unfold getAllParams
  rw [mem_foldl_addNew]
  simp [List.mem_flatMap]

/-- a unitary block never holds a `Parameter` (`UnitaryMatrix` validates a numeric array) -/
def _root_.LW.Prim.LitU : Prim (Sym α K) → Prop
  | .unitary _ u => ∀ x ∈ u.entries, ∃ k, x = Sym.lit k
  | _ => True

/-- all leaves of the circuit, those inside groups too, have literal blocks -/
def LitU (c : PCirc α K) : Prop := ∀ p ∈ primsOf c.spec, p.LitU

theorem litU_iff_block (p : Prim (Sym α K)) :
    p.LitU ↔ ∀ x ∈ p.blockEntries, ∃ k, x = Sym.lit k := by
  cases p <;> simp [Prim.LitU, Prim.blockEntries]

section
variable [Add K] [Mul K] [Neg K] [Zero K] [One K]

theorem readU_congr (ν : Views α K) (i : K) (σ σ' : Store α) (c : PCirc α K) (hL : c.LitU)
    (h : ∀ id ∈ c.getAllParams, σ.val id = σ'.val id) : c.readU ν i σ = c.readU ν i σ' := by
  have hs : ∀ s ∈ Circ.syms c, ∀ id ∈ s.ids, σ.val id = σ'.val id := by
    intro s hs id hid
    exact h id ((mem_getAllParams c id).mpr ⟨s, hs, hid⟩)
  have hv : c.fieldsValid ν σ = c.fieldsValid ν σ' := by
    unfold fieldsValid
    apply all_congr_mem
    intro s hs'
    exact Sym.valid_congr ν σ σ' s (hs s hs')
  have hr : c.resolve ν σ = c.resolve ν σ' := by
    refine Circ.map_congr c fun p hp => ⟨fun x hx => ?_, fun x hx => ?_⟩
    · exact Sym.eval_congr ν σ σ' x (hs x (List.mem_flatMap.mpr ⟨p, hp, hx⟩))
    · obtain ⟨k, rfl⟩ := (litU_iff_block p).mp (hL p hp) x hx
      rfl
  unfold readU
  rw [hv, hr]

theorem freeze_readU (ν : Views α K) (i : K) (σ σ' : Store α) (c : PCirc α K) :
    (freeze σ c).readU ν i σ' = c.readU ν i σ := by
  have hv : (freeze σ c).fieldsValid ν σ' = c.fieldsValid ν σ := by
    unfold fieldsValid freeze
    rw [Circ.syms_map, List.all_map]
    apply all_congr_mem
    intro s _
    exact Sym.valid_freeze ν σ σ' s
  have hr : (freeze σ c).resolve ν σ' = c.resolve ν σ := by
    unfold resolve freeze
    rw [Circ.map_map]
    congr 1
    funext s
    exact Sym.eval_freeze ν σ σ' s
  unfold readU
  rw [hv, hr]

theorem readU_error_iff (ν : Views α K) (i : K) (σ : Store α) (c : PCirc α K) (e : Err) :
    c.readU ν i σ = .error e ↔ e = .compilation ∧ ∃ s ∈ Circ.syms c, s.valid ν σ = false := by
  unfold readU fieldsValid
  cases h : (Circ.syms c).all (Sym.valid ν σ) with
  | true =>
    rw [if_pos rfl]
    exact ⟨fun h' => (nomatch h'), fun ⟨_, s, hs, hv⟩ => by rw [List.all_eq_true.mp h s hs] at hv; cases hv⟩
  | false =>
    rw [if_neg Bool.false_ne_true]
    obtain ⟨s, hs, hv⟩ := List.all_eq_false.mp h
    exact ⟨fun h' => ⟨(Except.error.inj h').symm, s, hs, Bool.not_eq_true _ ▸ hv⟩, fun ⟨he, _⟩ => he ▸ rfl⟩

theorem readU_ok_iff (ν : Views α K) (i : K) (σ : Store α) (c : PCirc α K) :
    (∀ s ∈ Circ.syms c, s.valid ν σ = true) ↔ c.readU ν i σ = .ok ((c.resolve ν σ).U i) := by
  unfold readU fieldsValid
  cases h : (Circ.syms c).all (Sym.valid ν σ) with
  | true => rw [if_pos rfl]; exact ⟨fun _ => rfl, fun _ => List.all_eq_true.mp h⟩
  | false =>
    rw [if_neg Bool.false_ne_true]
    exact ⟨fun h' => absurd (List.all_eq_true.mpr h') (h ▸ Bool.false_ne_true), fun h' => (nomatch h')⟩

/-- `hbad`: the current value is invalid for a component that holds it — non-numeric anywhere,
outside [0,1] as a reflectivity or a loss -/
theorem readU_invalid_param (ν : Views α K) (i : K) (σ : Store α) (c : PCirc α K) (r : Role) (id : Nat)
    (hmem : Sym.view r (.param id) ∈ Circ.syms c)
    (hbad : (∃ t, σ.val id = .other t) ∨ (∃ x, σ.val id = .num x ∧ r ≠ .expi ∧ ν.unit x = false)) :
    c.readU ν i σ = .error .compilation := by
  rw [readU_error_iff]
  refine ⟨rfl, _, hmem, ?_⟩
  rcases hbad with ⟨t, ht⟩ | ⟨x, hx, hr, hu⟩
  · simp [Sym.valid, PF.val, ht]
  · cases r with
    | expi => exact absurd rfl hr
    | rt => simp [Sym.valid, PF.val, hx, hu]
    | rt1 => simp [Sym.valid, PF.val, hx, hu]

end

theorem freeze_params (σ : Store α) (c : PCirc α K) : (freeze σ c).getAllParams = [] := by
  unfold getAllParams freeze
  rw [Circ.syms_map, List.flatMap_map]
  have : (Circ.syms c).flatMap (fun s => (Sym.freeze σ s).ids) = [] := by
    rw [List.flatMap_eq_nil_iff]
    intro s _
    exact Sym.ids_freeze σ s
  rw [this]
  rfl

end PCirc

end LW
