/-
  LW.Proofs.ApiInv — what a property of circuit objects must supply to hold of everything the
  construction API builds (`ApiInv`), with the pool of live circuits as its driver; and the
  properties that speak of the components one by one (`ApiStable`): a predicate on components that
  every relabelling and rewrite respects gives, together with `Circ.WF`, an `ApiInv`.
-/
import LW.Proofs.C02Final
import LW.Proofs.C02AddStable
import LW.Proofs.RewriteShape

namespace LW

variable {K : Type} [Zero K] [One K]

/-- `S` is what the caller promises of the payload of a leaf (scalars, unitary blocks), `N` of the
mode count of a new circuit; the positional conditions come from the range checks (`Circ.Leaf`). -/
structure ApiInv (S : Prim K → Prop) (N : Nat → Prop) (P : Circ K → Prop) : Prop where
  new : ∀ n, N n → P (Circ.new n)
  unitary : ∀ u : M K, S (.unitary 0 u) → P { n := u.n, spec := [.prim (.unitary 0 u)] }
  prims : ∀ {c : Circ K} {ps : List (Prim K)}, P c → (∀ q ∈ ps, c.Leaf q ∧ S q) → P (c.addPrims ps)
  herald : ∀ {c c' : Circ K} {k : Nat} {i o : Int}, P c → c.herald k i o = .ok c' → P c'
  add : ∀ {c s c' : Circ K} {m : Int} {g : Bool}, P c → P s → c.add s m g = .ok c' → P c'
  plus : ∀ {a b c' : Circ K}, P a → P b → a.plus b = .ok c' → P c'
  unpack : ∀ {c : Circ K}, P c → P c.unpackGroups
  compress : ∀ {c : Circ K}, P c → P c.compress
  nonadj : ∀ {c : Circ K}, P c → P c.removeNonAdj

namespace ApiInv

variable {S : Prim K → Prop} {N : Nat → Prop} {P : Circ K → Prop}

theorem bs (hP : ApiInv S N P) {c c' : Circ K} {m1 m2 : Int} {cs : K × K} {cv : Conv}
    {l : Option (K × K)} {rv lv : Bool} (hc : P c)
    (hS : ∀ a b, ∀ q ∈ Circ.bsPrims a b cs cv l, c.Leaf q → S q)
    (h : c.bs m1 m2 cs cv l rv lv = .ok c') : P c' := by
  obtain ⟨a, b, hl, rfl⟩ := Circ.bs_leaf h
  exact hP.prims hc fun q hq => ⟨hl q hq, hS a b q hq (hl q hq)⟩

theorem ps (hP : ApiInv S N P) {c c' : Circ K} {m : Int} {p : K} {l : Option (K × K)} {lv : Bool}
    (hc : P c) (hS : ∀ a, ∀ q ∈ Circ.psPrims a p l, c.Leaf q → S q) (h : c.ps m p l lv = .ok c') :
    P c' := by
  obtain ⟨a, hl, rfl⟩ := Circ.ps_leaf h
  exact hP.prims hc fun q hq => ⟨hl q hq, hS a q hq (hl q hq)⟩

theorem loss (hP : ApiInv S N P) {c c' : Circ K} {m : Int} {ab : K × K} {lv : Bool}
    (hc : P c) (hS : ∀ a, c.Leaf (.loss a ab.1 ab.2) → S (.loss a ab.1 ab.2))
    (h : c.loss m ab lv = .ok c') : P c' := by
  obtain ⟨a, hl, rfl⟩ := Circ.loss_leaf h
  exact hP.prims hc fun q hq => ⟨hl q hq, List.mem_singleton.mp hq ▸ hS a (hl _ (.head _))⟩

theorem barrier (hP : ApiInv S N P) {c c' : Circ K} {ms : Option (List Int)} (hc : P c)
    (hS : ∀ ms', c.Leaf (.barrier ms') → S (.barrier ms')) (h : c.barrier ms = .ok c') : P c' := by
  obtain ⟨ms', hl, rfl⟩ := Circ.barrier_leaf h
  exact hP.prims hc fun q hq => ⟨hl q hq, List.mem_singleton.mp hq ▸ hS ms' (hl _ (.head _))⟩

theorem modeSwaps (hP : ApiInv S N P) {c c' : Circ K} {sw : List (Int × Int)} (hc : P c)
    (hS : ∀ σ, c.Leaf (.swaps σ) → S (.swaps σ)) (h : c.modeSwaps sw = .ok c') : P c' := by
  obtain ⟨σ, hl, rfl⟩ := Circ.modeSwaps_leaf h
  exact hP.prims hc fun q hq => ⟨hl q hq, List.mem_singleton.mp hq ▸ hS σ (hl _ (.head _))⟩

/-- `hS`: the property asks nothing of the payload of a leaf the primitive calls append (none of
them is a unitary block); `hn`, `hu`: what the history promises of its constructor calls. -/
theorem eval (hP : ApiInv S N P) (hS : ∀ (c : Circ K) q, c.Leaf q → S q) {h : Heap K}
    (hh : Heap.All P h) {op : CircOp K} {c' : Circ K}
    (hn : ∀ id n, op = .new id n → N n) (hu : ∀ id u, op = .unitary id u → S (.unitary 0 u))
    (he : op.eval h = some (.ok c')) : P c' := by
  cases op with
  | new id n => cases he; exact hP.new n (hn id n rfl)
  | unitary id u => cases he; exact hP.unitary u (hu id u rfl)
  | bs id m1 m2 cs cv l rv lv =>
    obtain ⟨c, hg, hc⟩ := Option.map_eq_some_iff.mp he
    exact hP.bs (hh id c hg) (fun _ _ q _ => hS c q) hc
  | ps id m p l lv =>
    obtain ⟨c, hg, hc⟩ := Option.map_eq_some_iff.mp he
    exact hP.ps (hh id c hg) (fun _ q _ => hS c q) hc
  | loss id m ab lv =>
    obtain ⟨c, hg, hc⟩ := Option.map_eq_some_iff.mp he
    exact hP.loss (hh id c hg) (fun _ => hS c _) hc
  | barrier id ms =>
    obtain ⟨c, hg, hc⟩ := Option.map_eq_some_iff.mp he
    exact hP.barrier (hh id c hg) (fun _ => hS c _) hc
  | swaps id sw =>
    obtain ⟨c, hg, hc⟩ := Option.map_eq_some_iff.mp he
    exact hP.modeSwaps (hh id c hg) (fun _ => hS c _) hc
  | herald id n i o =>
    obtain ⟨c, hg, hc⟩ := Option.map_eq_some_iff.mp he
    exact hP.herald (hh id c hg) hc
  | add id sub m g =>
    obtain ⟨c, hg, he⟩ := Option.bind_eq_some_iff.mp he
    obtain ⟨s, hs, hc⟩ := Option.bind_eq_some_iff.mp he
    exact hP.add (hh id c hg) (hh sub s hs) (Option.some.inj hc)
  | plus dst a b =>
    obtain ⟨x, hx, he⟩ := Option.bind_eq_some_iff.mp he
    obtain ⟨y, hy, hc⟩ := Option.bind_eq_some_iff.mp he
    exact hP.plus (hh a x hx) (hh b y hy) (Option.some.inj hc)
  | copy dst src => obtain ⟨c, hg, hc⟩ := Option.map_eq_some_iff.mp he; cases hc; exact hh src c hg
  | unpack id =>
    obtain ⟨c, hg, hc⟩ := Option.map_eq_some_iff.mp he; cases hc; exact hP.unpack (hh id c hg)
  | compress id =>
    obtain ⟨c, hg, hc⟩ := Option.map_eq_some_iff.mp he; cases hc; exact hP.compress (hh id c hg)
  | nonadj id =>
    obtain ⟨c, hg, hc⟩ := Option.map_eq_some_iff.mp he; cases hc; exact hP.nonadj (hh id c hg)

theorem heapRun (hP : ApiInv S N P) (hS : ∀ (c : Circ K) q, c.Leaf q → S q) {ops : List (CircOp K)}
    {h h' : Heap K} {rs : List Outcome} (hh : Heap.All P h)
    (hn : ∀ id n, CircOp.new id n ∈ ops → N n)
    (hu : ∀ id u, CircOp.unitary id u ∈ ops → S (.unitary 0 u))
    (hr : LW.heapRun h ops = some (h', rs)) : Heap.All P h' :=
  heapRun_isRun.induction (fun _ ho _ _ _ hq hs => hq.heapStep (fun _ he =>
    hP.eval hS hq (fun id n e => hn id n (e ▸ ho)) (fun id u e => hu id u (e ▸ ho)) he) hs) hh hr

end ApiInv

open LW.Proofs.C02

/-- `Q n x`: the component `x` may stand in a circuit of `n` modes.  Beyond what `add` needs (`AddStable`), `Q` bounds
the modes, holds of a leaf that passed the range checks with payload `S` (`checked`) and of the block of a `Unitary`
(`block`), and is kept by the rewrites: merging two swaps (`combine`), `convertNonAdj` on a leaf (`nonadj`) and on the
leaves of a group (`nonadjGroup`). -/
structure ApiStable (S : Prim K → Prop) (Q : Nat → Comp K → Prop) : Prop extends AddStable Q where
  modes_lt : ∀ {n : Nat} {x : Comp K}, Q n x → ∀ m ∈ x.modes, m < n
  checked : ∀ {c : Circ K} {q : Prim K}, c.Leaf q → S q → Q c.n (.prim q)
  block : ∀ u : M K, S (.unitary 0 u) → Q u.n (.prim (.unitary 0 u))
  combine : ∀ {n : Nat} {σ τ : Dict}, Q n (.prim (.swaps σ)) → Q n (.prim (.swaps τ)) →
    Q n (.prim (.swaps (combineSwapDicts σ τ)))
  nonadj : ∀ {n : Nat} {p : Prim K}, Q n (.prim p) → ∀ q ∈ p.convertNonAdj, Q n (.prim q)
  nonadjGroup : ∀ {n : Nat} {cs : List (Prim K)} {m1 m2 : Nat} {hin hout : Dict},
    Q n (.group cs m1 m2 hin hout) → Q n (.group (cs.flatMap Prim.convertNonAdj) m1 m2 hin hout)

theorem ApiStable.apiInv {S : Prim K → Prop} {Q : Nat → Comp K → Prop} (hQ : ApiStable S Q) :
    ApiInv S (fun _ => True) (fun c : Circ K => c.WF ∧ ∀ x ∈ c.spec, Q c.n x) where
  new n _ := ⟨WF.bare (spec := []) nofun, nofun⟩
  unitary u hu :=
    have h : ∀ x ∈ [Comp.prim (Prim.unitary 0 u)], Q u.n x :=
      List.forall_mem_singleton.mpr (hQ.block u hu)
    ⟨WF.bare fun x hx => hQ.modes_lt (h x hx), h⟩
  prims {c ps} hc hps :=
    ⟨(Circ.avoid_of_leaf hc.1 fun q hq => (hps q hq).1).1, fun x hx =>
      (List.mem_append.mp hx).elim (hc.2 x) fun hx =>
        let ⟨q, hq, e⟩ := List.mem_map.mp hx
        e ▸ hQ.checked (c := c) (hps q hq).1 (hps q hq).2⟩
  herald {c c' k i o} hc hok := by
    obtain ⟨hwf', -, -⟩ := herald_preserves_WF c c' hc.1 k i o hok
    obtain ⟨_, -, _, -, -, -, rfl⟩ := Circ.herald_ok.mp hok
    exact ⟨hwf', hc.2⟩
  add {c s c' m g} hc hs hok :=
    ⟨(add_preserves_WF c s c' hc.1 hs.1 m g hok).1,
      add_forall hQ.toAddStable c s c' hs.1 hc.2 hs.2 m g hok⟩
  plus {a b c'} ha hb hok := by
    obtain ⟨hn, -, rfl⟩ := Circ.plus_ok.mp hok
    have h : ∀ x ∈ a.spec ++ b.spec, Q a.n x := fun x hx =>
      (List.mem_append.mp hx).elim (ha.2 x) fun hx => hn ▸ hb.2 x hx
    exact ⟨WF.bare fun x hx => hQ.modes_lt (h x hx), h⟩
  unpack {c} hc :=
    ⟨unpackGroups_WF c hc.1, fun x hx =>
      let ⟨p, e, c0, hc0, hp⟩ := mem_unpackSpec hx
      e ▸ hQ.leaf (hc.2 c0 hc0) p hp⟩
  compress {c} hc :=
    have h := compressSwaps_closed (Q c.n) (fun _ _ => hQ.combine) c.spec hc.2
    ⟨WF.of_spec hc.1 fun x hx => hQ.modes_lt (h x hx), h⟩
  nonadj {c} hc :=
    have h : ∀ y ∈ convertNonAdj c.spec, Q c.n y := fun y hy =>
      (mem_convertNonAdj hy).elim (fun ⟨p, hp, q, hq, e⟩ => e ▸ hQ.nonadj (hc.2 _ hp) q hq)
        fun ⟨_, _, _, _, _, hg, e⟩ => e ▸ hQ.nonadjGroup (hc.2 _ hg)
    ⟨WF.of_spec hc.1 fun x hx => hQ.modes_lt (h x hx), h⟩

end LW
