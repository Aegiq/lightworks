/-
  LW.Proofs.C13SwapStruct — what `SWAP([a0, a1], [b0, b1])` builds for four distinct natural mode
  numbers, for every scalar type: `Circuit(max + 1)` with the single component
  `mode_swaps({a0: b0, b0: a0, a1: b1, b1: a1})`, no heralds.
-/
import LW.Proofs.C02Basic
import LW.Model.Gates

namespace LW.Gates

/-- the dictionary of `SWAP([a0, a1], [b0, b1])`; the converter's `C12F.swapDict a b` is this one at
`(2a, 2a+1, 2b, 2b+1)`, by `rfl` -/
def swapDict (a0 a1 b0 b1 : Nat) : Dict := [(a0, b0), (b0, a0), (a1, b1), (b1, a1)]

def swapCirc {K : Type} (a0 a1 b0 b1 : Nat) : Circ K :=
  { n := max (max a0 a1) (max b0 b1) + 1, spec := [.prim (.swaps (swapDict a0 a1 b0 b1))] }

theorem dictLit_swap (a0 a1 b0 b1 : Int) (h01 : a0 ≠ a1) (h02 : a0 ≠ b0) (h03 : a0 ≠ b1)
    (h12 : a1 ≠ b0) (h13 : a1 ≠ b1) (h23 : b0 ≠ b1) :
    dictLit [(a0, b0), (b0, a0), (a1, b1), (b1, a1)] = [(a0, b0), (b0, a0), (a1, b1), (b1, a1)] := by
  have e1 : (a1 == a0) = false := by simpa using Ne.symm h01
  have e2 : (b0 == a0) = false := by simpa using Ne.symm h02
  have e3 : (b1 == a0) = false := by simpa using Ne.symm h03
  have e4 : (b1 == a1) = false := by simpa using Ne.symm h13
  have e5 : (b1 == b0) = false := by simpa using Ne.symm h23
  have e6 : (a1 == b0) = false := by simpa using h12
  simp [dictLit, List.find?, List.filter, bne, e1, e2, e3, e4, e5, e6]

theorem nodup_four {a b c d : Nat} (h : [a, b, c, d].Nodup) :
    a ≠ b ∧ a ≠ c ∧ a ≠ d ∧ b ≠ c ∧ b ≠ d ∧ c ≠ d := by
  simp only [List.nodup_cons, List.mem_cons, List.not_mem_nil, or_false, not_or, List.nodup_nil,
    and_true, not_false_eq_true] at h
  obtain ⟨⟨h01, h02, h03⟩, ⟨h12, h13⟩, h23⟩ := h
  exact ⟨h01, h02, h03, h12, h13, h23⟩

theorem sortNat_swap (a0 a1 b0 b1 : Nat) : sortNat [a0, b0, a1, b1] = sortNat [b0, a0, b1, a1] :=
  (LW.Proofs.C02.sortNat_eq_iff_perm _ _).mpr
    ((List.Perm.swap b0 a0 _).trans (List.Perm.cons _ (List.Perm.cons _ (List.Perm.swap b1 a1 _))))

theorem ofPairs_swap (a0 a1 b0 b1 : Nat) (h : [a0, a1, b0, b1].Nodup) :
    Dict.ofPairs [(a0, b0), (b0, a0), (a1, b1), (b1, a1)] = swapDict a0 a1 b0 b1 := by
  obtain ⟨h01, h02, h03, h12, h13, h23⟩ := nodup_four h
  simp [Dict.ofPairs, Dict.set, Dict.contains, swapDict, h01, h02, h03, h13, h23, Ne.symm h12]

theorem natCast_max (a b : Nat) : max (a : Int) (b : Int) = ((max a b : Nat) : Int) := by omega

variable {K : Type}

theorem SWAP_struct (a0 a1 b0 b1 : Nat) (h : [a0, a1, b0, b1].Nodup) :
    SWAP (K := K) [(a0 : Int), (a1 : Int)] [(b0 : Int), (b1 : Int)] = .ok (swapCirc a0 a1 b0 b1) := by
  obtain ⟨h01, h02, h03, h12, h13, h23⟩ := nodup_four h
  have hN : ([(a0 : Int), (a1 : Int), (b0 : Int), (b1 : Int)].foldl max (a0 : Int) + 1).toNat
      = max (max a0 a1) (max b0 b1) + 1 := by
    simp only [List.foldl, natCast_max, Nat.max_self, Nat.max_assoc]
    exact Int.toNat_natCast _
  unfold SWAP
  simp only [hN]
  rw [dictLit_swap _ _ _ _ (by exact_mod_cast h01) (by exact_mod_cast h02) (by exact_mod_cast h03)
    (by exact_mod_cast h12) (by exact_mod_cast h13) (by exact_mod_cast h23)]
  have hr : ∀ a : Nat, a ≤ max (max a0 a1) (max b0 b1) →
      (Circ.new (max (max a0 a1) (max b0 b1) + 1) : Circ K).modeInRange
        ((Circ.new (max (max a0 a1) (max b0 b1) + 1) : Circ K).mapMode (a : Int)) = .ok a := by
    intro a ha
    simp [Circ.modeInRange, Circ.mapMode, Circ.new, sortNat]
    omega
  unfold Circ.modeSwaps
  simp only [List.map_cons, List.map_nil, List.mapM_cons, List.mapM_nil]
  rw [hr a0 (Nat.le_trans (Nat.le_max_left ..) (Nat.le_max_left ..)),
    hr a1 (Nat.le_trans (Nat.le_max_right ..) (Nat.le_max_left ..)),
    hr b0 (Nat.le_trans (Nat.le_max_left ..) (Nat.le_max_right ..)),
    hr b1 (Nat.le_trans (Nat.le_max_right ..) (Nat.le_max_right ..))]
  simp only [bind, Except.bind, pure, Except.pure, List.zip_cons_cons, List.zip_nil_right]
  rw [ofPairs_swap a0 a1 b0 b1 h]
  have hs : (sortNat (swapDict a0 a1 b0 b1).keys != sortNat (swapDict a0 a1 b0 b1).vals) = false := by
    simp only [swapDict, Dict.keys, Dict.vals, List.map_cons, List.map_nil, sortNat_swap a0 a1 b0 b1]
    simp
  simp only [hs]
  rfl

end LW.Gates
