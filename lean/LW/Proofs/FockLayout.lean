/-
  LW.Proofs.FockLayout — heralds. The layout map `[free modes ascending | herald modes in
  declaration order] → modes` (declaration order: that of the herald dictionary) is the selector
  `sel (allModes her n) n`, a bijection of `[0, n)`; `LW.QF.fullState her n s` is
  `s ++ her.map (·.2)` relabelled by it, so the model's heralded amplitude `gateAmp` is `∏ t_k!`
  times a coefficient of `circHom`, the substitution homomorphism of the circuit read in this
  layout (`gateAmp_eq_amp`).
-/
import LW.Proofs.FockPlace
import LW.Proofs.FockBridge
import LW.Proofs.Arrangement
import LW.Model.Gates

namespace LW.C12F

open LW LW.Proofs.C02Sem

theorem get?_key (d : Dict) (hnd : d.keys.Nodup) (j : Nat) (hj : j < d.length) :
    d.get? (d.keys.getD j 0) = some ((d.map (·.2)).getD j 0) := by
  have h1 : d.keys.getD j 0 = d[j].1 := by
    rw [List.getD_eq_getElem _ _ (by simpa [Dict.keys] using hj)]; simp [Dict.keys]
  have h2 : (d.map (·.2)).getD j 0 = d[j].2 := by
    rw [List.getD_eq_getElem _ _ (by simpa using hj)]; simp
  rw [h1, h2]
  exact Assoc.find_of_mem hnd (List.getElem_mem hj)

theorem fullStateGo_length (her : Dict) (k m : Nat) (s : List Nat) :
    (LW.QF.fullStateGo her k m s).length = k := by
  induction k generalizing m s with
  | zero => rfl
  | succ k ih =>
    unfold LW.QF.fullStateGo
    cases her.get? m with
    | some p => simp [ih]
    | none => cases s <;> simp [ih]

theorem tail_getD (s : List Nat) (i : Nat) : s.tail.getD i 0 = s.getD (i + 1) 0 := by
  cases s <;> simp

/-- one unfolding step, with the user state consumed expressed by `tail` -/
theorem fullStateGo_succ (her : Dict) (k m : Nat) (s : List Nat) :
    LW.QF.fullStateGo her (k + 1) m s =
      match her.get? m with
      | some p => p :: LW.QF.fullStateGo her k (m + 1) s
      | none => s.getD 0 0 :: LW.QF.fullStateGo her k (m + 1) s.tail := by
  cases hg : her.get? m with
  | some p => simp [LW.QF.fullStateGo, hg]
  | none => cases s <;> simp [LW.QF.fullStateGo, hg]

theorem fullStateGo_getD (her : Dict) (k m : Nat) (s : List Nat) (j : Nat) (hj : j < k) :
    (LW.QF.fullStateGo her k m s).getD j 0 =
      match her.get? (m + j) with
      | some p => p
      | none => s.getD (freeFrom her.keys m j).length 0 := by
  induction k generalizing m s j with
  | zero => omega
  | succ k ih =>
    rw [fullStateGo_succ]
    cases j with
    | zero =>
      simp only [Nat.add_zero, freeFrom_zero, List.length_nil]
      cases her.get? m <;> simp
    | succ j =>
      have hj' : j < k := by omega
      have e : m + (j + 1) = m + 1 + j := by omega
      cases hm : her.get? m with
      | some p =>
        have hmem : m ∈ her.keys := by
          have := (LW.Proofs.C02.get?_isSome_iff (d := her) (k := m)).mp (by simp [hm])
          exact this
        simp only [List.getD_cons_succ]
        rw [ih (m + 1) s j hj', freeFrom_succ_mem j hmem, e]
      | none =>
        have hmem : m ∉ her.keys := LW.Proofs.C02.get?_eq_none_iff.mp hm
        simp only [List.getD_cons_succ]
        rw [ih (m + 1) s.tail j hj', freeFrom_succ_not_mem j hmem, e]
        cases her.get? (m + 1 + j) with
        | some p => rfl
        | none => simp only [List.length_cons]; exact tail_getD s _

theorem fullState_length (her : Dict) (n : Nat) (s : List Nat) :
    (LW.QF.fullState her n s).length = n :=
  fullStateGo_length her n 0 s

theorem fullState_getD_herald (her : Dict) (n : Nat) (s : List Nat) (z p : Nat) (hz : z < n)
    (h : her.get? z = some p) : (LW.QF.fullState her n s).getD z 0 = p := by
  unfold LW.QF.fullState
  rw [fullStateGo_getD her n 0 s z hz, Nat.zero_add, h]

theorem fullState_getD_free (her : Dict) (n : Nat) (s : List Nat) (z : Nat) (hz : z < n)
    (h : z ∉ her.keys) :
    (LW.QF.fullState her n s).getD z 0 = s.getD (freeOf z her.keys).length 0 := by
  unfold LW.QF.fullState
  rw [fullStateGo_getD her n 0 s z hz, Nat.zero_add, LW.Proofs.C02.get?_eq_none_iff.mpr h,
    freeOf_eq_freeFrom]

theorem getD_mem (l : List Nat) (y : Nat) (hy : y < l.length) : l.getD y 0 ∈ l := by
  rw [List.getD_eq_getElem _ _ hy]; exact List.getElem_mem hy

/-- the number of free modes below the `y`-th free mode is `y` -/
theorem freeOf_index {l : List Nat} (hnd : l.Nodup) (n y : Nat) (hy : y < (freeOf n l).length) :
    (freeOf ((freeOf n l).getD y 0) l).length = y := by
  have e := freeOf_eq_map_bumps_sortNat hnd n
  have h2 := bumps_rank _ (LW.Proofs.C02.strictSorted_sortNat hnd) y
  have h3 := length_freeOf_add_cntLt hnd (bumps (sortNat l) y)
  rw [List.getD_eq_getElem _ _ hy, List.getElem_of_eq e hy, List.getElem_map, List.getElem_range]
  rw [cntLt_sortNat] at h2
  omega

/-- all modes: the free ones ascending, then the herald modes in declaration order -/
def allModes (her : Dict) (n : Nat) : List Nat := freeOf n her.keys ++ her.keys

/-- position in `allModes her n` ↦ mode -/
def layout (her : Dict) (n : Nat) : Nat → Nat := sel (allModes her n) n

section
variable {her : Dict} {n : Nat}

theorem her_length_le (hnd : her.keys.Nodup) (hlt : ∀ k ∈ her.keys, k < n) : her.length ≤ n := by
  have := LW.Proofs.C02.length_le_of_nodup_lt _ _ hnd hlt
  rwa [keys_length] at this

theorem layout_injective (hnd : her.keys.Nodup) (hlt : ∀ k ∈ her.keys, k < n) :
    Function.Injective (layout her n) :=
  fun _ _ e => sel_arr_inj (perm_freeOf_append hnd hlt) e

theorem layout_lt (hnd : her.keys.Nodup) (hlt : ∀ k ∈ her.keys, k < n) {y : Nat} (hy : y < n) :
    layout her n y < n :=
  sel_arr_lt (perm_freeOf_append hnd hlt) (Nat.le_refl n) hy

theorem layout_ge (hnd : her.keys.Nodup) (hlt : ∀ k ∈ her.keys, k < n) {y : Nat} (hy : n ≤ y) :
    layout her n y = y :=
  sel_arr_ge (perm_freeOf_append hnd hlt) hy

theorem layout_surj (hnd : her.keys.Nodup) (hlt : ∀ k ∈ her.keys, k < n) {z : Nat} (hz : z < n) :
    ∃ y < n, layout her n y = z :=
  sel_arr_surj (perm_freeOf_append hnd hlt) hz

end

theorem layout_eq_colM {K : Type} (c : Circ K) (y : Nat) : layout c.inHer c.n y = colM c y := rfl

section
variable {her : Dict} {n : Nat}

theorem fullState_layout (hnd : her.keys.Nodup) (hlt : ∀ k ∈ her.keys, k < n) (s : List Nat)
    (hs : s.length = n - her.length) (y : Nat) (hy : y < n) :
    (LW.QF.fullState her n s).getD (layout her n y) 0 = (s ++ her.map (·.2)).getD y 0 := by
  have hle := her_length_le hnd hlt
  have hfl := length_freeOf n _ hnd hlt
  rw [keys_length] at hfl
  rw [layout, allModes, sel_append, hfl, keys_length]
  by_cases h1 : y < n - her.length
  · have hm : (freeOf n her.keys).getD y 0 ∈ freeOf n her.keys := getD_mem _ _ (hfl ▸ h1)
    obtain ⟨hzn, hzk⟩ := mem_freeOf.mp hm
    rw [if_pos h1, fullState_getD_free her n s _ hzn hzk, List.getD_append _ _ _ _ (by omega),
      freeOf_index hnd _ _ (hfl ▸ h1)]
  · have hj : y - (n - her.length) < her.length := by omega
    rw [if_neg h1, if_pos (by omega),
      fullState_getD_herald her n s _ _ (hlt _ (getD_mem _ _ (by rw [keys_length]; exact hj)))
        (get?_key her hnd _ hj),
      List.getD_append_right _ _ _ _ (by omega), hs]

theorem fullState_le (hnd : her.keys.Nodup) (hlt : ∀ k ∈ her.keys, k < n) (s : List Nat)
    (hs : s.length = n - her.length) (B : Nat) (h : ∀ e ∈ s ++ her.map (·.2), e ≤ B) :
    ∀ e ∈ LW.QF.fullState her n s, e ≤ B := by
  intro e he
  obtain ⟨z, hz, rfl⟩ := List.getElem_of_mem he
  rw [fullState_length] at hz
  obtain ⟨y, hy, rfl⟩ := layout_surj hnd hlt hz
  have hle := her_length_le hnd hlt
  have hR : y < (s ++ her.map (·.2)).length := by
    rw [List.length_append, List.length_map, hs]; omega
  rw [← List.getD_eq_getElem _ 0, fullState_layout hnd hlt s hs y hy, List.getD_eq_getElem _ _ hR]
  exact h _ (List.getElem_mem hR)

end

example : LW.QF.fullState [(3, 7), (1, 5)] 5 [10, 20, 30] = [10, 5, 20, 7, 30] := by decide
example : (List.range 5).map (layout [(3, 7), (1, 5)] 5) = [0, 2, 4, 3, 1] := by decide

open MvPolynomial

variable {R : Type} [CommRing R]

theorem toFinsupp_fullState {her : Dict} {n : Nat} (hnd : her.keys.Nodup)
    (hlt : ∀ k ∈ her.keys, k < n) (s : List Nat) (hs : s.length = n - her.length) :
    (LW.QF.fullState her n s).toFinsupp =
      Finsupp.mapDomain (layout her n) (s ++ her.map (·.2)).toFinsupp := by
  have hle := her_length_le hnd hlt
  have hinj := layout_injective hnd hlt
  ext z
  have hz : ∃ y, layout her n y = z ∧ (y < n ↔ z < n) := by
    by_cases hzn : z < n
    · obtain ⟨y, hy, e⟩ := layout_surj hnd hlt hzn
      exact ⟨y, e, by simp [hy, hzn]⟩
    · exact ⟨z, layout_ge hnd hlt (by omega), Iff.rfl⟩
  obtain ⟨y, rfl, hyz⟩ := hz
  rw [Finsupp.mapDomain_apply hinj, List.toFinsupp_apply, List.toFinsupp_apply]
  by_cases hy : y < n
  · exact fullState_layout hnd hlt s hs y hy
  · rw [layout_ge hnd hlt (by omega)]
    have l1 : (LW.QF.fullState her n s).length ≤ y := by rw [fullState_length]; omega
    have l2 : (s ++ her.map (·.2)).length ≤ y := by
      rw [List.length_append, List.length_map, hs]; omega
    rw [List.getD_eq_default _ _ l1, List.getD_eq_default _ _ l2]

theorem fullState_factProd {her : Dict} {n : Nat} (hnd : her.keys.Nodup)
    (hlt : ∀ k ∈ her.keys, k < n) (s : List Nat) (hs : s.length = n - her.length) :
    factProd (LW.QF.fullState her n s) = factProd (s ++ her.map (·.2)) := by
  rw [factProd_eq_prod_toFinsupp, factProd_eq_prod_toFinsupp, toFinsupp_fullState hnd hlt s hs,
    Finsupp.prod_mapDomain_index_inj (layout_injective hnd hlt)]

/-- closed entry function of a circuit: `U_full` read in the layout. For `outHer = inHer` these
are the entries of the matrix of `closedOf i c` (C02SemClosed), `circHom_eq_closed` in C12AddHom. -/
def closedE (i : R) (c : Circ R) : ℕ → ℕ → R :=
  fun r k => (c.Ufull i).get (layout c.inHer c.n r) (layout c.inHer c.n k)

noncomputable def circHom (i : R) (c : Circ R) : Hom R := homOf (closedE i c) c.n

/-- the states (user part, then herald photons in declaration order) are placed by the layout
map -/
theorem gateAmp_eq_amp_layout (i : R) (c : Circ R) (hnd : c.inHer.keys.Nodup)
    (hlt : ∀ k ∈ c.inHer.keys, k < c.n) (hio : c.outHer = c.inHer)
    (ins outs : List ℕ) (hi : ins.length = c.n - c.inHer.length)
    (ho : outs.length = c.n - c.inHer.length) :
    LW.Gates.gateAmp i c ins outs =
      ((factProd (outs ++ c.inHer.map (·.2)) : ℕ) : R) *
        amp (homOf (c.Ufull i).get c.n)
          (Finsupp.mapDomain (layout c.inHer c.n) (outs ++ c.inHer.map (·.2)).toFinsupp)
          (Finsupp.mapDomain (layout c.inHer c.n) (ins ++ c.inHer.map (·.2)).toFinsupp) := by
  unfold LW.Gates.gateAmp LW.QF.permAmp
  rw [hio, permAmpFull_eq_amp _ c.n _ _ (fullState_length _ _ _) (fullState_length _ _ _),
    toFinsupp_fullState hnd hlt ins hi, toFinsupp_fullState hnd hlt outs ho,
    fullState_factProd hnd hlt outs ho]

/-- the same in the closed layout: the states are the plain lists -/
theorem gateAmp_eq_amp (i : R) (c : Circ R) (hwf : c.WF) (hio : c.outHer = c.inHer)
    (ins outs : List ℕ) (hi : ins.length = c.n - c.inHer.length)
    (ho : outs.length = c.n - c.inHer.length) :
    LW.Gates.gateAmp i c ins outs =
      ((factProd (outs ++ c.inHer.map (·.2)) : ℕ) : R) *
        amp (circHom i c) (outs ++ c.inHer.map (·.2)).toFinsupp
          (ins ++ c.inHer.map (·.2)).toFinsupp := by
  have hnd := hwf.inNodup
  have hlt := hwf.inLt
  have hle := her_length_le hnd hlt
  rw [gateAmp_eq_amp_layout i c hnd hlt hio ins outs hi ho,
    amp_homOf_conj (c.Ufull i).get c.n (layout c.inHer c.n) (layout_injective hnd hlt)
      (fun y hy => layout_lt hnd hlt hy) (fun z hz => layout_surj hnd hlt hz) _ _ (by
        intro y hy
        have := List.toFinsupp_support_subset _ hy
        rw [Finset.mem_range, List.length_append, List.length_map, hi] at this
        omega)]
  rfl

theorem layout_nil (N : Nat) {y : Nat} (hy : y < N) : layout [] N y = y := by
  have e : allModes [] N = List.range N := by
    unfold allModes LW.Proofs.C02Sem.freeOf
    simp [Dict.keys]
  rw [layout, e, LW.Proofs.C02Sem.sel, if_pos (by simpa using hy),
    List.getD_eq_getElem _ _ (by simpa using hy), List.getElem_range]

theorem circHom_new {R : Type} [CommRing R] (i : R) (N : ℕ) :
    circHom i (Circ.new N : Circ R) = AlgHom.id R _ := by
  apply algHom_ext
  intro j
  rw [AlgHom.id_apply]
  show homOf (closedE i (Circ.new N : Circ R)) N (X j) = X j
  by_cases hj : j < N
  · rw [homOf_X_lt _ hj]
    apply colForm_single _ hj
    intro r hr
    show (M.one N : M R).get (layout [] N r) (layout [] N j) = _
    rw [layout_nil N hr, layout_nil N hj, M.get_one hr hj]
  · rw [homOf_X_ge _ (by omega)]

end LW.C12F
