/-
  LW.Proofs.C05ErrorFold — the per-input error-rate fold of `analyze`,
    `exps.eraseDups.foldl (fun e o => match outs.idxOf? o with
        | some k => e - row.getD k 0 / sumQ row | none => e) 1`,
  is `1 - (Σ of the row entries whose output occurs in exps) / sumQ row` (`exps` enters only as a
  set); it lies in `[0, 1]` for a non-negative row of positive sum, and without the `eraseDups` of
  repair F31 it can be negative.
-/
import Mathlib.Algebra.Order.Field.Basic
import Mathlib.Algebra.BigOperators.Group.List.Basic
import Mathlib.Algebra.Order.BigOperators.Group.List
import Mathlib.Data.List.Nodup
import Mathlib.Algebra.Order.Field.Rat
import Mathlib.Algebra.Order.Ring.Rat
import LW.Model.Analysis
import LW.Proofs.C05Sums
import LW.Proofs.ListLemmas

namespace LW.Proofs.C05
open LW

theorem sum_map_eq_zero {Q α : Type} [AddCommMonoid Q] (f : α → Q) (l : List α)
    (h : ∀ o, f o = 0) : (l.map f).sum = 0 := by
  rw [funext h, List.map_const', List.sum_replicate, nsmul_zero]

theorem map_snd_zip_sublist {α β : Type} (l₁ : List α) (l₂ : List β) :
    ((l₁.zip l₂).map (·.2)).Sublist l₂ := by
  induction l₁ generalizing l₂ with
  | nil => simp
  | cons a l₁ ih =>
    cases l₂ with
    | nil => simp
    | cons b l₂ =>
      simp only [List.zip_cons_cons, List.map_cons]
      exact (ih l₂).cons_cons b

section Field
variable {Q : Type} [Field Q]

/-- what one expected output `o` subtracts from the error rate -/
def errW (outs : List FState) (row : List Q) (s : Q) (o : FState) : Q :=
  match outs.idxOf? o with
  | some k => row.getD k 0 / s
  | none => 0

theorem errFold_eq_sub_sum (outs : List FState) (row : List Q) (s : Q) (l : List FState) (a : Q) :
    l.foldl (fun e o => match outs.idxOf? o with
        | some k => e - row.getD k 0 / s
        | none => e) a = a - (l.map (errW outs row s)).sum := by
  induction l generalizing a with
  | nil => simp
  | cons x l ih =>
    rw [List.foldl_cons, ih, List.map_cons, List.sum_cons]
    unfold errW
    cases outs.idxOf? x with
    | none => simp
    | some k => exact sub_sub _ _ _

theorem errW_nil (row : List Q) (s : Q) (o : FState) : errW [] row s o = 0 := by
  simp [errW]

theorem errW_row_nil (outs : List FState) (s : Q) (o : FState) : errW outs ([] : List Q) s o = 0 := by
  unfold errW
  cases outs.idxOf? o with
  | none => rfl
  | some k => simp

theorem errW_of_not_mem (outs : List FState) (row : List Q) (s : Q) (o : FState) (h : o ∉ outs) :
    errW outs row s o = 0 := by
  unfold errW
  rw [List.idxOf?_eq_none_iff.2 h]

theorem errW_cons (a : FState) (outs : List FState) (p : Q) (row : List Q) (s : Q) (o : FState)
    (ha : a ∉ outs) :
    errW (a :: outs) (p :: row) s o = (if o = a then p / s else 0) + errW outs row s o := by
  by_cases hoa : o = a
  · subst hoa
    rw [errW_of_not_mem outs row s o ha, if_pos rfl, add_zero]
    unfold errW
    rw [List.idxOf?_cons]
    simp
  · rw [if_neg hoa, zero_add]
    unfold errW
    rw [List.idxOf?_cons]
    have : (a == o) = false := by
      rw [beq_eq_false_iff_ne]
      exact fun h => hoa h.symm
    rw [this]
    simp only [Bool.false_eq_true, if_false]
    cases outs.idxOf? o with
    | none => rfl
    | some k => simp

theorem sum_errW_eq (outs : List FState) (hnd : outs.Nodup) (row : List Q) (s : Q)
    (l : List FState) (hl : l.Nodup) :
    (l.map (errW outs row s)).sum =
      (((outs.zip row).filter fun x => l.contains x.1).map (·.2)).sum / s := by
  induction outs generalizing row with
  | nil => rw [sum_map_eq_zero _ _ (errW_nil row s)]; simp
  | cons a outs ih =>
    rw [List.nodup_cons] at hnd
    cases row with
    | nil => rw [sum_map_eq_zero _ _ (errW_row_nil (a :: outs) s)]; simp
    | cons p row =>
      have h1 : (l.map (errW (a :: outs) (p :: row) s)) =
          l.map fun o => (if o = a then p / s else 0) + errW outs row s o :=
        List.map_congr_left fun o _ => errW_cons a outs p row s o hnd.1
      rw [h1, List.sum_map_add, sum_map_ite_eq_of_nodup hl a fun _ => p / s, ih hnd.2, List.zip_cons_cons]
      by_cases hal : a ∈ l
      · rw [List.filter_cons_of_pos (by simpa using hal), if_pos hal, List.map_cons, List.sum_cons,
          add_div]
      · rw [List.filter_cons_of_neg (by simpa using hal), if_neg hal, zero_add]

theorem errFold_eraseDups_eq (outs : List FState) (hnd : outs.Nodup) (row : List Q) (s : Q)
    (exps : List FState) :
    exps.eraseDups.foldl (fun e o => match outs.idxOf? o with
        | some k => e - row.getD k 0 / s
        | none => e) 1 =
      1 - (((outs.zip row).filter fun x => exps.contains x.1).map (·.2)).sum / s := by
  rw [errFold_eq_sub_sum, sum_errW_eq outs hnd row s _ (eraseDups_nodup exps)]
  congr 4
  apply List.filter_congr
  intro x _
  simp only [List.contains_eq_mem, List.mem_eraseDups]

theorem error_fold_eq_set_sum (row : List Q) (outs exps : List FState) (hnd : outs.Nodup) :
    exps.eraseDups.foldl (fun e o => match outs.idxOf? o with
        | some k => e - row.getD k 0 / sumQ row
        | none => e) 1 =
      1 - (((outs.zip row).filter fun x => exps.contains x.1).map (·.2)).sum / sumQ row :=
  errFold_eraseDups_eq outs hnd row (sumQ row) exps

end Field

section Ordered
variable {Q : Type} [Field Q] [LinearOrder Q] [IsStrictOrderedRing Q]

/-- no length hypothesis: the row may be longer or shorter than the list of outputs -/
theorem error_fold_in_unit_interval (row : List Q) (outs exps : List FState)
    (hrow : ∀ p ∈ row, 0 ≤ p) (hs : 0 < sumQ row) (hnd : outs.Nodup) :
    0 ≤ exps.eraseDups.foldl (fun e o => match outs.idxOf? o with
        | some k => e - row.getD k 0 / sumQ row
        | none => e) 1 ∧
    exps.eraseDups.foldl (fun e o => match outs.idxOf? o with
        | some k => e - row.getD k 0 / sumQ row
        | none => e) 1 ≤ 1 := by
  rw [error_fold_eq_set_sum row outs exps hnd]
  have hsub : ((((outs.zip row).filter fun x => exps.contains x.1).map (·.2))).Sublist row :=
    (List.filter_sublist.map _).trans (map_snd_zip_sublist outs row)
  have h0 : 0 ≤ (((outs.zip row).filter fun x => exps.contains x.1).map (·.2)).sum :=
    List.sum_nonneg fun p hp => hrow p (hsub.subset hp)
  have h1 : (((outs.zip row).filter fun x => exps.contains x.1).map (·.2)).sum ≤ sumQ row := by
    rw [sumQ_eq_sum]
    exact hsub.sum_le_sum hrow
  constructor
  · rw [sub_nonneg, div_le_one hs]
    exact h1
  · rw [sub_le_self_iff]
    exact div_nonneg h0 hs.le

end Ordered

/-- without `eraseDups` (the code before repair F31) the fold can be negative: one output of
probability one, listed twice as expected, gives `1 - 1 - 1 = -1` -/
theorem error_fold_without_dedup_can_be_negative :
    ∃ (row : List Rat) (outs exps : List FState), outs.Nodup ∧
      exps.foldl (fun e o => match outs.idxOf? o with
        | some k => e - row.getD k 0 / sumQ row
        | none => e) 1 < 0 ∧
      exps.eraseDups.foldl (fun e o => match outs.idxOf? o with
        | some k => e - row.getD k 0 / sumQ row
        | none => e) 1 = 0 :=
  ⟨[1], [[1]], [[1], [1]], by decide, by decide +kernel, by decide +kernel⟩

/-! Non-vacuity of `error_fold_in_unit_interval`: a non-negative row of total one, an expected
output listed twice and one that is not a reported output -/

example :
    (0 : Rat) ≤ [[1, 0], [1, 0], [5, 5]].eraseDups.foldl (fun e o =>
        match [[1, 0], [0, 1]].idxOf? o with
        | some k => e - ([1 / 4, 3 / 4] : List Rat).getD k 0 / sumQ ([1 / 4, 3 / 4] : List Rat)
        | none => e) 1 ∧
    [[1, 0], [1, 0], [5, 5]].eraseDups.foldl (fun e o =>
        match [[1, 0], [0, 1]].idxOf? o with
        | some k => e - ([1 / 4, 3 / 4] : List Rat).getD k 0 / sumQ ([1 / 4, 3 / 4] : List Rat)
        | none => e) 1 ≤ 1 :=
  error_fold_in_unit_interval ([1 / 4, 3 / 4] : List Rat) [[1, 0], [0, 1]] [[1, 0], [1, 0], [5, 5]]
    (by decide +kernel) (by decide +kernel) (by decide)

example :
    [[1, 0], [1, 0], [5, 5]].eraseDups.foldl (fun e o =>
        match [[1, 0], [0, 1]].idxOf? o with
        | some k => e - ([1 / 4, 3 / 4] : List Rat).getD k 0 / sumQ ([1 / 4, 3 / 4] : List Rat)
        | none => e) 1 = 3 / 4 := by
  decide +kernel

end LW.Proofs.C05
