/-
  C15 — State tomography reconstructs the prepared state.

  Only the property theorems and their non-vacuity examples live here; proofs are in
  LW/Proofs/{TomoKron,TomoLocal,C15,C15Pure,C15Complex}.lean and, for the circuits clause,
  LW/Proofs/{C15Create,C15Rails}.lean.

  Model: LW.Model.Tomo (`process` mirrors `StateTomography.process`, `expectation`
  `_calculate_expectation_value`, `densityMatrix` `_calculate_density_matrix`, `tomoMeasurements` /
  `requiredSet` the two enumeration helpers, `createCircuit` `_create_circuit`; `bornTable` is the
  specification of "noiseless outcome frequencies of the requested circuit").

  All statements are for every number of qubits `n ≥ 1`, every density operator / state vector over
  any field `K` with a star (in particular ℂ), the two float constants of the code entering through
  `Consts i h` (`i² = -1`, `conj i = -i`, `h` real, `2h² = 1`), every order in which the callback
  may see the settings and every ordering of the entries of each result dictionary.

  Circuits clause (which circuit `process()` hands to the experiment callback for a setting):
    * PROVED for every base circuit satisfying the bookkeeping invariant `Circ.WF` — hence for every
      circuit constructible through the API (`Reach`), with heralded sub-circuits / private ancilla
      modes anywhere (`requested_circuits_corrected`, `requested_circuits_constructible`): the
      requested circuit is the base, unchanged, followed by the 2×2 unitaries of each qubit's basis
      change acting on the two FULL modes `_map_mode(2k)`, `_map_mode(2k+1)` that carry the rails of
      qubit `k`; ancillas lying between the two rails are passed through untouched.
    * FALSE: the statement `requested_circuits_statement` (below), which places each basis change
      on the ADJACENT full modes `_map_mode(2k)`, `_map_mode(2k)+1`.  Witness
      (`requested_circuits_statement_false`): `base = Circuit(2).add(S, 0)` with `S = Circuit(3)`
      heralded on its middle mode — constructible, 2 input modes, the ancilla is full mode 1 and the
      rails of the qubit are full modes 0 and 2; for the setting `X` the requested circuit applies
      `H` on full modes (0, 2), that statement claims (0, 1).  It does
      hold when no ancilla lies between the rails of any qubit (`requested_circuits_partial` for no
      ancillas at all; LW/Proofs/C15Rails.lean `requested_circuits_adjacent` in general).
-/
import Mathlib.Analysis.Real.Sqrt
import Mathlib.Data.Complex.Basic
import LW.Proofs.C15Complex
import LW.Proofs.C15Rails

open scoped BigOperators

namespace LW.C15

open LW.Tomo

variable {K : Type} [Field K] [StarRing K] [DecidableEq K]

/-- Main clause.  Given noiseless outcome frequencies (`bornTable`: for every requested setting
the Born probabilities of the state after that setting's basis change — in any order inside each
dictionary, `List.Perm`) `process()` returns `ρ₀ / tr ρ₀`, whatever the order `order` in which the
implementation enumerated the settings (any list containing the setting of every measurement
string; see `required_settings`). `ρ₀` is any `2ⁿ×2ⁿ` matrix with non-zero trace: pure or mixed,
entangled or not, normalised or not (post-selection / heralding success probability). -/
theorem process_returns_density {i h : K} (hc : Consts i h) (h2 : (1 + 1 : K) ≠ 0) (n : Nat)
    (hn : 0 < n) (rho0 : M K) (htr : trN n rho0 ≠ 0) (order : List Meas) (rs : List (Res K))
    (hcover : ∀ c ∈ tomoMeasurements n, c.map toZ ∈ order)
    (hrs : List.Forall₂ (fun s r => r.Perm (bornTable i h n rho0 s)) order rs) :
    process i n order rs = .ok (normalised n rho0) :=
  process_born hc h2 n hn rho0 htr order rs hcover hrs

/-- Pure state: for the state vector `ψ` the base circuit prepares, `process()` returns a matrix
that equals the outer product `|ψ⟩⟨ψ|/⟨ψ|ψ⟩`, is Hermitian, has unit trace and is a projector;
and `fidelity` against that matrix is one (given the contract of `scipy.linalg.sqrtm` on a
projector: its principal square root is itself). -/
theorem process_returns_pure_state {i h : K} (hc : Consts i h) (h2 : (1 + 1 : K) ≠ 0) (n : Nat)
    (hn : 0 < n) (psi : Nat → K) (hnorm : normSq n psi ≠ 0) (order : List Meas) (rs : List (Res K))
    (hcover : ∀ c ∈ tomoMeasurements n, c.map toZ ∈ order)
    (hrs : List.Forall₂ (fun s r => r.Perm (bornTable i h n (densityOfState (2 ^ n) psi) s)) order rs)
    (sqrtm : M K → M K) (hsq : ∀ A : M K, A.mul A = A → sqrtm A = A) :
    ∃ rho, process i n order rs = .ok rho ∧ rho.n = 2 ^ n ∧
      (∀ r k, r < 2 ^ n → k < 2 ^ n → rho.get r k = psi r * star (psi k) * (normSq n psi)⁻¹) ∧
      (∀ r k, r < 2 ^ n → k < 2 ^ n → star (rho.get k r) = rho.get r k) ∧
      trace rho = 1 ∧
      stateFidelity sqrtm rho rho = .ok 1 := by
  have htr : trN n (densityOfState (2 ^ n) psi) ≠ 0 := by rw [trN_densityOfState]; exact hnorm
  obtain ⟨h1, h3, h4, h5, h6⟩ := normalised_pure n psi hnorm
  exact ⟨_, process_born hc h2 n hn _ htr order rs hcover hrs, h1, h3, h4, h5,
    stateFidelity_projector sqrtm hsq _ h6 h5⟩

/-- Pauli reconstruction `ρ = 2⁻ⁿ Σ_P tr(Pρ) P` for every `2ⁿ×2ⁿ` matrix, the sum over the strings
`_get_tomo_measurements` enumerates (single-qubit completeness + Kronecker induction). -/
theorem pauli_reconstruction {i : K} (hi : i * i = -1) (h2 : (1 + 1 : K) ≠ 0) (n : Nat) (hn : 0 < n)
    (rho0 : M K) {r k : Nat} (hr : r < 2 ^ n) (hk : k < 2 ^ n) :
    ((tomoMeasurements n).map fun c =>
        trPauli i rho0 c * (twoPow n)⁻¹ * (pauliKron i c).get r k).sum = rho0.get r k :=
  Tomo.pauli_reconstruction hi h2 n hn rho0 hr hk

/-- The basis change of `MEASUREMENT_MAPPING[g]` turns a Z measurement into a measurement of `g`:
`Σ_y (±1)_y U[y,x] conj U[y,x'] = P_g[x',x]`, i.e. `U_g† Z U_g = P_g` (and `= 1` for `I`, which
reuses the Z setting and ignores the outcome). -/
theorem measurement_circuit_realises_pauli {i h : K} (hc : Consts i h) (g : Pauli) {x' x : Nat}
    (hx' : x' < 2) (hx : x < 2) :
    loc i h g (toZ g) x' x = (pauliM i g).get x' x :=
  loc_pauli hc g hx' hx

/-- `_calculate_expectation_value` on the noiseless table of the setting serving `c` is
`tr(P_c ρ₀)/tr ρ₀`. -/
theorem expectation_eq_trace {i h : K} (hc : Consts i h) (c : Meas) (rho0 : M K) (r : Res K)
    (hr : r.Perm (bornTable i h c.length rho0 (c.map toZ))) (htr : trN c.length rho0 ≠ 0) :
    expectation c r = .ok (trPauli i rho0 c * (trN c.length rho0)⁻¹) :=
  expectation_born hc c rho0 r hr htr

/-- The settings `process()` requests: no duplicates, exactly the strings of length `n` over
`{X, Y, Z}` (hence `3ⁿ` of them, a count no theorem states), and any enumeration of that set serves every measurement string
(this discharges `hcover` above for every order the callback may see). -/
theorem required_settings {n : Nat} (hn : 0 < n) :
    (requiredSet n).Nodup ∧ (∀ s, s ∈ requiredSet n ↔ s ∈ requiredSpec n) ∧
    (∀ s, s ∈ requiredSpec n ↔ s.length = n ∧ ∀ p ∈ s, p ∈ [Pauli.X, Pauli.Y, Pauli.Z]) ∧
    ∀ order : List Meas, order.Perm (requiredSet n) →
      ∀ c ∈ tomoMeasurements n, c.map toZ ∈ order :=
  ⟨requiredSet_nodup n, mem_requiredSet, fun _ => mem_combineAll hn,
    fun _ hp => cover_of_perm hp⟩

/-- `process()` raises `ValueError` when the callback returns a different number of results than
circuits (`zip(..., strict=True)`). -/
theorem process_rejects_wrong_result_count (i : K) (n : Nat) (order : List Meas) (rs : List (Res K))
    (h : order.length ≠ rs.length) : process i n order rs = .error .value := by
  unfold process
  simp only [h, ne_eq, not_false_eq_true, if_true]
  rfl

/-- Requested circuits, for base circuits without private ancilla modes: `_create_circuit` returns
the base specification, unchanged, followed by the setting's basis-change unitaries on the mode
pairs `(2k, 2k+1)`; hence its `U_full` is the base's `U_full` followed by those components.
The base value itself is not touched (the model is purely functional; C08 frame).
(No invariant is needed in this case; base circuits with ancillas are covered by
`requested_circuits_corrected`.) -/
theorem requested_circuits_partial {R : Type} [CommRing R] (i h : R) (nQ : Nat) (base : Circ R)
    (hint : base.internal = []) (hn : base.n = 2 * nQ) (s : Meas) (hs : s.length = nQ) :
    createCircuit nQ base (s.map (measCirc i h))
        = .ok { base with spec := base.spec ++ basisChangeSpec i h 0 s } ∧
      Circ.Ufull i { base with spec := base.spec ++ basisChangeSpec i h 0 s }
        = (basisChangeSpec i h 0 s).foldl (compileComp i) (base.Ufull i) :=
  ⟨createCircuit_plain i h nQ base hint hn s hs, requested_Ufull i base _⟩

/-- the circuits clause with adjacent full modes (any base with `2n` input modes, ancillas allowed):
the requested circuit keeps the base's heralds and its `U_full` is the base's followed by the
basis changes placed, as 2-mode blocks, at full mode `_map_mode(2k)` — i.e. on the adjacent full
modes `_map_mode(2k)`, `_map_mode(2k) + 1`.  FALSE (`requested_circuits_statement_false`); the
statement that holds is `requested_circuits_corrected_statement`. -/
def requested_circuits_statement : Prop :=
  ∀ (R : Type) [CommRing R] (i h : R) (nQ : Nat) (base : Circ R) (s : Meas),
    base.inputModes = 2 * nQ → s.length = nQ →
    ∃ c, createCircuit nQ base (s.map (measCirc i h)) = .ok c ∧ c.n = base.n ∧
      c.inHer = base.inHer ∧ c.outHer = base.outHer ∧
      Circ.Ufull i c = ((List.range nQ).zip s).foldl
        (fun U ks => ((measCirc i h ks.2).spec.map
            (Comp.shift (base.mapMode (2 * (ks.1 : Int))).toNat)).foldl (compileComp i) U)
        (base.Ufull i)

/-- `requested_circuits_statement` is false.  Witness: the constructible base `Circuit(2).add(S, 0)`, `S`
a 3-mode circuit heralded on its middle mode (ancilla = full mode 1, between the rails 0 and 2 of
the only qubit), setting `X`, over ℤ with `h = 1`: entry `(0, 1)` of `U_full` of the circuit
`_create_circuit` returns is 0, the right-hand side of the statement has 1 there. -/
theorem requested_circuits_statement_false : ¬ requested_circuits_statement := by
  intro H
  obtain ⟨c, h1, _, _, _, h5⟩ := H Int 0 1 1 cexBase [Pauli.X] rfl rfl
  rw [cex_created] at h1
  injection h1 with h1
  subst h1
  have e := congrArg (fun A : M Int => A.get 0 1) h5
  exact absurd e (by decide)

/-- the witness base circuit is constructible through the API, has two input modes, and the rails of
its qubit sit on the full modes 0 and 2 -/
theorem requested_circuits_witness_constructible :
    Reach cexBase ∧ cexBase.inputModes = 2 * 1 ∧ cexBase.mapMode 0 = 0 ∧ cexBase.mapMode 1 = 2 :=
  ⟨cexBase_reach, cexBase_inputModes, cexBase_rails.1, cexBase_rails.2⟩

/-- `MEASUREMENT_MAPPING[g]` is a 2-mode circuit without input heralds (nor output heralds:
`Tomo.measCirc_plain`) whose components are the 2×2 unitaries
`measUs i h g` (`[H]`, `[S, Z, H]`, `[1]`, `[1]` for `X, Y, Z, I`), each on its modes 0, 1. -/
theorem basis_change_components {R : Type} [CommRing R] (i h : R) (g : Pauli) :
    (measCirc i h g).n = 2 ∧ (measCirc i h g).inHer = [] ∧ (∀ u ∈ measUs i h g, u.n = 2) ∧
      (measCirc i h g).spec = (measUs i h g).map fun u => Comp.prim (.unitary 0 u) :=
  ⟨measCirc_n i h g, measCirc_inHer i h g, measUs_n i h g, measCirc_spec i h g⟩

/-- Requested circuits, on the two rails: for every base circuit satisfying the bookkeeping
invariant `Circ.WF` (heralds / ancillas anywhere) with `2·nQ` input modes, `_create_circuit` returns
the base with only its specification extended (by `railSpec`: one `Unitary` component per 2×2 matrix
of each qubit's basis change, see `rail_component_acts_on_rails`) — same number of full modes, same
heralds, same ancilla list — and its `U_full` is the base's `U_full` followed, for each qubit `k` in
order, by the 2×2 unitaries of the basis change of `s[k]` acting on the two full modes
`_map_mode(2k)` and `_map_mode(2k+1)` that carry the rails of qubit `k` (`embed2 N a b …` is the
identity on every other mode, so an ancilla between the rails is passed through untouched). -/
def requested_circuits_corrected_statement : Prop :=
  ∀ (R : Type) [CommRing R] (i h : R) (nQ : Nat) (base : Circ R) (s : Meas),
    base.WF → base.inputModes = 2 * nQ → s.length = nQ →
    ∃ c, createCircuit nQ base (s.map (measCirc i h)) = .ok c ∧
      c = { base with spec := base.spec ++ railSpec i h base s } ∧
      c.n = base.n ∧ c.inHer = base.inHer ∧ c.outHer = base.outHer ∧ c.internal = base.internal ∧
      Circ.Ufull i c = ((List.range nQ).zip s).foldl
        (fun U ks => (measUs i h ks.2).foldl
          (fun U u =>
            (embed2 U.n (base.mapMode (2 * (ks.1 : Int))).toNat
              (base.mapMode (2 * (ks.1 : Int) + 1)).toNat
              (u.get 0 0) (u.get 0 1) (u.get 1 0) (u.get 1 1)).mul U) U)
        (base.Ufull i)

theorem requested_circuits_corrected : requested_circuits_corrected_statement :=
  fun _ _ i h nQ base s hwf hin hs => Tomo.requested_circuits_corrected i h nQ base s hwf hin hs

/-- … in particular for every base circuit constructible through the API (`Reach`;
LW/Properties/Reach.lean `reach_WF`). -/
theorem requested_circuits_constructible {R : Type} [CommRing R] [StarRing R] (i h : R) (nQ : Nat)
    (base : Circ R) (s : Meas) (hreach : Reach base) (hin : base.inputModes = 2 * nQ)
    (hs : s.length = nQ) :
    ∃ c, createCircuit nQ base (s.map (measCirc i h)) = .ok c ∧
      c = { base with spec := base.spec ++ railSpec i h base s } ∧
      c.n = base.n ∧ c.inHer = base.inHer ∧ c.outHer = base.outHer ∧ c.internal = base.internal ∧
      Circ.Ufull i c = ((List.range nQ).zip s).foldl
        (fun U ks => (measUs i h ks.2).foldl
          (fun U u =>
            (embed2 U.n (base.mapMode (2 * (ks.1 : Int))).toNat
              (base.mapMode (2 * (ks.1 : Int) + 1)).toNat
              (u.get 0 0) (u.get 0 1) (u.get 1 0) (u.get 1 1)).mul U) U)
        (base.Ufull i) :=
  Tomo.requested_circuits_corrected i h nQ base s (Proofs.Reach.reach_WF base hreach) hin hs

/-- Each component of `railSpec` is `Unitary(stretchU t u)` placed at full mode `a = _map_mode(2k)`,
with `t = railGap base (2k)` the number of ancillas between the rails (`stretchU t u` is
`add_mode_to_unitary` applied at positions `1, …, t`, as `Circuit.add` does); compiled, it is the
2×2 unitary `u` on the full modes `a` and `a + t + 1 = _map_mode(2k+1)`, identity elsewhere. -/
theorem rail_component_acts_on_rails {R : Type} [CommRing R] (i : R) (U : M R) (a t : Nat) (u : M R)
    (hu : u.n = 2) :
    compileComp i U (.prim (.unitary a (stretchU t u)))
      = (embed2 U.n a (a + t + 1) (u.get 0 0) (u.get 0 1) (u.get 1 0) (u.get 1 1)).mul U := by
  rw [compileComp_unitary, embedBlock_stretchU _ _ _ _ hu]

/-- the full modes of the two rails of qubit `k` are `railGap base (2k) + 1` apart -/
theorem rail_positions {R : Type} [CommRing R] (base : Circ R) (k : Nat) :
    (base.mapMode (2 * (k : Int))).toNat + railGap base (2 * k) + 1
      = (base.mapMode (2 * (k : Int) + 1)).toNat := by
  have := railGap_spec base (2 * k)
  push_cast at this
  exact this

/-- `_create_circuit` raises `ValueError` for a wrong number of operators. -/
theorem create_circuit_rejects_wrong_length {R : Type} [CommRing R] (nQ : Nat) (base : Circ R)
    (ops : List (Circ R)) (h : ops.length ≠ nQ) : createCircuit nQ base ops = .error .value := by
  unfold createCircuit
  simp [h]

/-! ### non-vacuity: the hypotheses are met over ℂ by the code's constants and a concrete state -/

noncomputable section
open Classical

/-- the constants of the code over ℂ -/
theorem consts_complex : Consts (Complex.I) (((Real.sqrt 2)⁻¹ : ℝ) : ℂ) :=
  Tomo.consts_complex

/-- a concrete instance of `process_returns_density`: one qubit, `ρ₀ = [[1, i], [-i, 3]]`
(non-diagonal, complex, trace 4), settings in the order `Y, Z, X` -/
example :
    process Complex.I 1 [[Pauli.Y], [Pauli.Z], [Pauli.X]]
        ([[Pauli.Y], [Pauli.Z], [Pauli.X]].map
          (bornTable Complex.I (((Real.sqrt 2)⁻¹ : ℝ) : ℂ) 1 (mat2 1 Complex.I (-Complex.I) 3)))
      = .ok (normalised 1 (mat2 1 Complex.I (-Complex.I) 3)) :=
  Proofs.C15.example_instance

end

/-- non-vacuity of `requested_circuits_constructible` on a base with an ancilla BETWEEN the rails:
`base = Circuit(2).add(S, 0)`, `S = Circuit(3)` heralded on its middle mode (constructible,
`requested_circuits_witness_constructible`), setting `X`, over ℤ with `h = 1`: the requested circuit
has the base's 3 full modes and heralds, and its `U_full` is `[[1, 1], [1, -1]]` on the full modes
0 and 2 (ancilla mode 1 untouched) after the base's. -/
example :
    ∃ c, createCircuit 1 cexBase ([Pauli.X].map (measCirc (0 : Int) 1)) = .ok c ∧
      c.n = 3 ∧ c.inHer = [(1, 0)] ∧ c.outHer = [(1, 0)] ∧
      Circ.Ufull 0 c = (embed2 3 0 2 1 1 1 (-1)).mul (cexBase.Ufull 0) :=
  cex_corrected_instance

end LW.C15
