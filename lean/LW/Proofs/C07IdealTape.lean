/-
  C07IdealTape — non-vacuity of the hypotheses of `sampling_frequencies_converge` and
  `detectorSampleR_law`.
  The coordinate process on the infinite product of uniform laws is an i.i.d. uniform sequence.
-/
import Mathlib.Probability.Independence.InfinitePi
import LW.Proofs.C07DetectorLaw

namespace LW.Proofs.C07

open MeasureTheory ProbabilityTheory Filter Topology

theorem ideal_tape_exists :
    ∃ (μ : Measure (ℕ → ℝ)) (U : ℕ → (ℕ → ℝ) → ℝ), iIndepFun U μ ∧
      ∀ i, Measure.map (U i) μ = volume.restrict (Set.Ico (0 : ℝ) 1) :=
  ⟨Measure.infinitePi (fun _ : ℕ => uniform01), fun i ω => ω i,
    iIndepFun_infinitePi (P := fun _ : ℕ => uniform01) (X := fun _ x => x) (fun _ => measurable_id),
    fun i => Measure.infinitePi_map_eval (fun _ : ℕ => uniform01) i⟩

/-- non-vacuity: with weights 1/4, 0, 3/4 and the ideal tape, almost surely the frequency of
index 2 tends to 3/4 -/
example : ∃ (μ : Measure (ℕ → ℝ)) (U : ℕ → (ℕ → ℝ) → ℝ), IsProbabilityMeasure μ ∧
    ∀ᵐ ω ∂μ, Tendsto
      (fun n : ℕ =>
        (((Finset.range n).filter fun i => inverseCdfR [1/4, 0, 3/4] (U i ω) = 2).card : ℝ) / n)
      atTop (𝓝 (3/4)) := by
  obtain ⟨μ, U, hindep, hlaw⟩ := ideal_tape_exists
  refine ⟨μ, U, isProbabilityMeasure_of_map_eq_uniform (U 0) (hlaw 0), ?_⟩
  have h := sampling_frequencies_converge_iIndep U hindep hlaw [1/4, 0, 3/4]
    (by
      intro p hp
      simp only [List.mem_cons, List.not_mem_nil, or_false] at hp
      rcases hp with h | h | h <;> rw [h] <;> norm_num)
    (by norm_num) 2 (by simp)
  have e : ([1/4, 0, 3/4] : List ℝ).getD 2 0 / ([1/4, 0, 3/4] : List ℝ).sum = 3/4 := by norm_num
  rw [e] at h
  exact h

/-- non-vacuity of the detector law: the imperfect threshold detector ⟨1/2, 1/4, threshold⟩ on the
state `[2,0,1]`, fed 6 entries of the ideal tape, reads `[1,1,1]` with probability 65/512 (the
weight of `[1,1,1]` in the exact kernel) -/
example : ∃ (μ : Measure (ℕ → ℝ)) (V : ℕ → (ℕ → ℝ) → ℝ), IsProbabilityMeasure μ ∧
    μ {ω | (detectorSampleR ⟨1/2, 1/4, false⟩ [2, 0, 1]
      ((List.range 6).map fun i => V i ω)).1 = [1, 1, 1]} = ENNReal.ofReal (65 / 512) := by
  obtain ⟨μ, V, hindep, hlaw⟩ := ideal_tape_exists
  refine ⟨μ, V, isProbabilityMeasure_of_map_eq_uniform (V 0) (hlaw 0), ?_⟩
  have h := detectorSampleR_law V hindep hlaw ⟨1/2, 1/4, false⟩ (by norm_num) (by norm_num) (by norm_num) (by norm_num) [2, 0, 1] 6
    (le_trans (nEff_add_nDark_le _ _) (by decide)) [1, 1, 1]
  have e : ((((detectorKernel ⟨1/2, 1/4, false⟩ [2, 0, 1]).filter (·.1 == [1, 1, 1])).map
      (·.2)).sum : ℚ) = 65 / 512 := by decide +kernel
  rw [kernelWeight, e] at h
  rw [h]
  norm_num

/-- the real twin agrees with the model on a rational tape (the tape of the model-level example in
C07Detector) -/
example : (detectorSampleR ⟨1/2, 1/4, false⟩ [2, 0, 1]
    (List.map (fun q : ℚ => (q : ℝ)) [3/4, 1/4, 1/4, 1/2, 1/8, 1/2, 1/3])).1 = [1, 1, 1] := by
  rw [detectorSampleR_cast]
  decide +kernel

end LW.Proofs.C07
