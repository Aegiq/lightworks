/-
  LW.Proofs.C06SingleMode — input statistics of the imperfect source as a mixture over independent
  per-photon emission outcomes: single photon, single mode.
-/
import LW.Proofs.C06Table
import LW.Proofs.C06Dict
import LW.Proofs.C18Annot

-- the statements of the C06 chain keep the section's instance arguments whether they use them or not
set_option linter.unusedSectionVars false

namespace LW.Proofs.C06

open LW.Src LW.SV

/-- the documented parameter ranges (`p2 = 0` ⇔ purity = 1, `p2 < 1` ⇔ purity > 1/2) -/
structure InRange {Q : Type} [Zero Q] [One Q] [LE Q] (P : Params Q) : Prop where
  nu0 : 0 ≤ P.nu
  nu1 : P.nu ≤ 1
  x0 : 0 ≤ P.p2
  x1 : P.p2 ≤ 1
  q0 : 0 ≤ P.pi
  q1 : P.pi ≤ 1

section
variable {Q : Type} [Field Q] [LinearOrder Q] [IsStrictOrderedRing Q]

theorem outcomeTable_nonneg (P : Params Q) (h : InRange P) (ctr : Int) :
    ∀ x ∈ outcomeTable P ctr, 0 ≤ x.2 := by
  obtain ⟨h0, h1, h2, h3, h4, h5⟩ := table_nonneg P h.nu0 h.nu1 h.x0 h.x1 h.q0 h.q1
  intro x hx
  simp only [outcomeTable, List.mem_cons, List.not_mem_nil, or_false] at hx
  rcases hx with rfl | rfl | rfl | rfl | rfl | rfl <;> assumption

/-- the `p > 0` filter of `_single_photon_distribution` only drops outcomes of probability zero -/
theorem mix_singlePhoton (P : Params Q) (h : InRange P) (ctr : Int) (F : List Int → Q) :
    mix (singlePhoton P ctr) F = mix (outcomeTable P ctr) F :=
  mix_filter_pos _ F (outcomeTable_nonneg P h ctr)

theorem mix_outcomeTable_one (P : Params Q) (ctr : Int) :
    mix (outcomeTable P ctr) (fun _ => 1) = 1 := by
  simp only [outcomeTable, mix_cons, mix_nil, mul_one, add_zero]
  rw [← table_sums_to_one P]
  ring

/-- all emission outcomes of `k` photons in one mode (labels concatenated, unsorted), the `j`-th
photon drawing its fresh labels at counter `ctr + 2j` -/
def specMode (P : Params Q) (ctr : Int) : Nat → List (List Int × Q)
  | 0 => [([], 1)]
  | k + 1 =>
    (specMode P ctr k).flatMap fun d1 =>
      (outcomeTable P (ctr + 2 * (k : Int))).map fun d2 => (d1.1 ++ d2.1, d1.2 * d2.2)

theorem mix_specMode_succ (P : Params Q) (ctr : Int) (k : Nat) (F : List Int → Q) :
    mix (specMode P ctr (k + 1)) F =
      mix (specMode P ctr k) (fun a => mix (outcomeTable P (ctr + 2 * (k : Int))) fun b => F (a ++ b)) :=
  mix_product _ _ (fun a b => a ++ b) F

theorem mix_specMode_one (P : Params Q) (ctr : Int) (k : Nat) :
    mix (specMode P ctr k) (fun _ => 1) = 1 := by
  induction k with
  | zero => simp [specMode]
  | succ k ih =>
    rw [mix_specMode_succ]
    simp only [mix_outcomeTable_one]
    exact ih

theorem modeDist_succ (P : Params Q) (ctr : Int) (k : Nat) :
    modeDist P ctr (k + 1) =
      if (modeDist P ctr k).isEmpty then singlePhoton P (ctr + 2 * (k : Int))
      else (modeDist P ctr k).flatMap fun d1 =>
        (singlePhoton P (ctr + 2 * (k : Int))).map fun d2 => (d1.1 ++ d2.1, d1.2 * d2.2) := rfl

theorem mix_modeDist (P : Params Q) (h : InRange P) (ctr : Int) (k : Nat) (F : List Int → Q) :
    mix (modeDist P ctr (k + 1)) F = mix (specMode P ctr (k + 1)) F := by
  induction k generalizing F with
  | zero =>
    rw [modeDist_succ]
    have : (modeDist P ctr 0).isEmpty = true := rfl
    rw [if_pos this, mix_singlePhoton P h, mix_specMode_succ]
    simp [specMode]
  | succ k ih =>
    rw [modeDist_succ]
    by_cases he : (modeDist P ctr (k + 1)).isEmpty = true
    · -- impossible: the mixture of the constant 1 would be 0
      have hnil : modeDist P ctr (k + 1) = [] := List.isEmpty_iff.1 he
      have h1 := ih (fun _ => 1)
      rw [hnil, mix_nil, mix_specMode_one] at h1
      exact absurd h1 zero_ne_one
    · rw [if_neg he, mix_product _ _ (fun a b => a ++ b) F, mix_specMode_succ P ctr (k + 1)]
      have := ih (fun a => mix (singlePhoton P (ctr + 2 * ((k + 1 : Nat) : Int))) fun b => F (a ++ b))
      rw [this]
      apply mix_congr
      intro x _
      exact mix_singlePhoton P h _ _

theorem singleMode_ctr (P : Params Q) (n : Nat) (ctr : Int) :
    (singleMode P n ctr).2 = ctr + 2 * (n : Int) := by
  unfold singleMode
  by_cases hn : n = 0
  · simp [hn]
  · simp [hn]

theorem mix_singleMode (P : Params Q) (h : InRange P) (n : Nat) (ctr : Int) (F : AState → Q) :
    mix (singleMode P n ctr).1 F = mix (specMode P ctr n) (fun l => F (AState.new [sortInt l])) := by
  unfold singleMode
  cases n with
  | zero => simp [specMode, sortInt]
  | succ k =>
    rw [if_neg (Nat.succ_ne_zero k)]
    show mix (KD.ofPairs _) F = _
    rw [mix_ofPairs, mix_map_key (modeDist P ctr (k + 1)) (fun l => AState.new [sortInt l]) F]
    exact mix_modeDist P h ctr k _

theorem singleMode_keys_nodup (P : Params Q) (n : Nat) (ctr : Int) :
    ((singleMode P n ctr).1.map (·.1)).Nodup := by
  unfold singleMode
  by_cases hn : n = 0
  · simp [hn]
  · rw [if_neg hn]
    exact ofPairs_keys_nodup _

theorem singleMode_keys (P : Params Q) (n : Nat) (ctr : Int) :
    ∀ a ∈ (singleMode P n ctr).1.map (·.1), a.WF ∧ a.nModes = 1 := by
  unfold singleMode
  by_cases hn : n = 0
  · simp only [hn, if_true, List.map_cons, List.map_nil, List.mem_singleton]
    rintro a rfl
    exact ⟨AState.new_wf _, by simp [AState.new_nModes]⟩
  · rw [if_neg hn]
    intro a ha
    rw [mem_ofPairs_keys] at ha
    simp only [List.map_map, List.mem_map, Function.comp] at ha
    obtain ⟨x, _, rfl⟩ := ha
    exact ⟨AState.new_wf _, by simp [AState.new_nModes]⟩

end

end LW.Proofs.C06
