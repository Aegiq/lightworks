/-
  LW.Proofs.AssocList — insertion-ordered association lists.  The pools of the model (`Heap`,
  `Store`, `Dict`, `KD`, `HDict`; `PD` on duplicate-free dictionaries) all read with `find? (·.1 == k)` and write with "update in place if present,
  else append" (`Assoc.upd`, of which the assignment `d[k] = v`, `Assoc.put`, and the accumulation
  `d[k] += p` are cases); keys, entries and lookup after a write are stated on that shape, so each
  pool gets them by `exact`.
-/

namespace LW.Assoc

section Upd
variable {κ β : Type} [BEq κ]

/-- the assignment `d[k] = v` is `f = fun _ => v`, the accumulation `d[k] += p` is `f x = x.2 + p`
with `v = p` -/
def upd (l : List (κ × β)) (k : κ) (f : κ × β → β) (v : β) : List (κ × β) :=
  if l.any (·.1 == k) then l.map fun x => if x.1 == k then (k, f x) else x else l ++ [(k, v)]

variable (l : List (κ × β)) (k : κ) (f : κ × β → β) (v : β)

theorem mem_upd {x : κ × β} (h : x ∈ upd l k f v) :
    x ∈ l ∨ (∃ y ∈ l, x = (k, f y)) ∨ x = (k, v) := by
  unfold upd at h
  split at h
  · obtain ⟨y, hy, rfl⟩ := List.mem_map.1 h
    split
    · exact Or.inr (Or.inl ⟨y, hy, rfl⟩)
    · exact Or.inl hy
  · rcases List.mem_append.1 h with h | h
    · exact Or.inl h
    · exact Or.inr (Or.inr (List.mem_singleton.1 h))

variable [LawfulBEq κ]

theorem any_key_iff : l.any (·.1 == k) = true ↔ k ∈ l.map (·.1) := by
  simp only [List.any_eq_true, beq_iff_eq, List.mem_map]

theorem upd_of_not_mem (h : k ∉ l.map (·.1)) : upd l k f v = l ++ [(k, v)] :=
  if_neg fun h' => h ((any_key_iff l k).1 h')

theorem keys_upd :
    (upd l k f v).map (·.1) = if k ∈ l.map (·.1) then l.map (·.1) else l.map (·.1) ++ [k] := by
  by_cases h : k ∈ l.map (·.1)
  · rw [if_pos h, upd, if_pos ((any_key_iff l k).2 h), List.map_map]
    apply List.map_congr_left
    intro x _
    simp only [Function.comp_apply]
    split
    · rename_i hx
      exact (beq_iff_eq.1 hx).symm
    · rfl
  · rw [if_neg h, upd_of_not_mem l k f v h, List.map_append]
    rfl

theorem mem_keys_upd (a : κ) : a ∈ (upd l k f v).map (·.1) ↔ a ∈ l.map (·.1) ∨ a = k := by
  rw [keys_upd]
  split
  · rename_i h
    exact ⟨Or.inl, fun h' => h'.elim id (fun e => e ▸ h)⟩
  · rw [List.mem_append, List.mem_singleton]

theorem nodup_keys_upd (h : (l.map (·.1)).Nodup) : ((upd l k f v).map (·.1)).Nodup := by
  rw [keys_upd]
  split
  · exact h
  · rename_i hk
    exact List.nodup_append.2 ⟨h, List.pairwise_singleton _ k, fun a ha b hb => by
      rw [List.mem_singleton] at hb
      subst hb
      exact fun hab => hk (hab ▸ ha)⟩

end Upd

section Fold
variable {κ β ι : Type} [BEq κ] [LawfulBEq κ] (key : ι → κ) (f : ι → κ × β → β) (val : ι → β)

theorem mem_keys_foldl_upd (ps : List ι) (l : List (κ × β)) (a : κ) :
    a ∈ (ps.foldl (fun d p => upd d (key p) (f p) (val p)) l).map (·.1) ↔
      a ∈ l.map (·.1) ∨ a ∈ ps.map key := by
  induction ps generalizing l with
  | nil => exact (or_iff_left List.not_mem_nil).symm
  | cons p ps ih => rw [List.foldl_cons, ih, mem_keys_upd, List.map_cons, List.mem_cons, or_assoc]

theorem nodup_keys_foldl_upd (ps : List ι) (l : List (κ × β)) (h : (l.map (·.1)).Nodup) :
    ((ps.foldl (fun d p => upd d (key p) (f p) (val p)) l).map (·.1)).Nodup := by
  induction ps generalizing l with
  | nil => exact h
  | cons p ps ih => exact ih _ (nodup_keys_upd l _ _ _ h)

end Fold

section Find
variable {κ β : Type} [BEq κ] [LawfulBEq κ] (l : List (κ × β)) (k : κ)

theorem find_eq_none_iff : (l.find? (·.1 == k)).map (·.2) = none ↔ k ∉ l.map (·.1) := by
  simp only [Option.map_eq_none_iff, List.find?_eq_none, beq_iff_eq, List.mem_map, not_exists,
    not_and]

theorem find_cons [DecidableEq κ] (x : κ × β) :
    ((x :: l).find? (·.1 == k)).map (·.2) =
      if x.1 = k then some x.2 else (l.find? (·.1 == k)).map (·.2) := by
  rw [List.find?_cons]
  by_cases h : x.1 = k
  · rw [if_pos h, beq_iff_eq.mpr h]
    rfl
  · rw [if_neg h, beq_eq_false_iff_ne.mpr h]

theorem find_map_pair [DecidableEq κ] (ks : List κ) (w : κ → β) (k : κ) :
    ((ks.map fun a => (a, w a)).find? (·.1 == k)).map (·.2) = if k ∈ ks then some (w k) else none := by
  induction ks with
  | nil => rfl
  | cons x xs ih =>
    rw [List.map_cons, find_cons, ih]
    by_cases h : x = k
    · rw [if_pos h, if_pos (h ▸ List.mem_cons_self), h]
    · rw [if_neg h]
      by_cases hm : k ∈ xs
      · rw [if_pos hm, if_pos (List.mem_cons_of_mem x hm)]
      · rw [if_neg hm, if_neg fun h' => (List.mem_cons.mp h').elim (fun e => h e.symm) hm]

theorem mem_of_find {l : List (κ × β)} {k : κ} {v : β}
    (h : (l.find? (·.1 == k)).map (·.2) = some v) : (k, v) ∈ l := by
  obtain ⟨p, hp, rfl⟩ := Option.map_eq_some_iff.mp h
  have hk : p.1 = k := beq_iff_eq.mp (List.find?_some (p := fun x : κ × β => x.1 == k) hp)
  rw [← hk]
  exact List.mem_of_find?_eq_some hp

theorem find_of_mem {l : List (κ × β)} (hn : (l.map (·.1)).Nodup) {k : κ} {v : β} (h : (k, v) ∈ l) :
    (l.find? (·.1 == k)).map (·.2) = some v := by
  induction l with
  | nil => cases h
  | cons p l ih =>
    obtain ⟨hp, hn⟩ := List.nodup_cons.mp hn
    rw [List.find?_cons]
    rcases List.mem_cons.mp h with rfl | h
    · rw [beq_self_eq_true]; rfl
    · have hne : p.1 ≠ k := fun e => hp (List.mem_map.mpr ⟨(k, v), h, e.symm⟩)
      rw [beq_eq_false_iff_ne.mpr hne]
      exact ih hn h

theorem find_map_upd [DecidableEq κ] (l : List (κ × β)) (k : κ) (f : κ × β → β) (r : κ) :
    ((l.map fun x => if x.1 == k then (k, f x) else x).find? (·.1 == r)).map (·.2) =
      if r = k then (l.find? (·.1 == k)).map f else (l.find? (·.1 == r)).map (·.2) := by
  induction l with
  | nil => split <;> rfl
  | cons x l ih =>
    rw [List.map_cons, List.find?_cons, List.find?_cons, List.find?_cons]
    by_cases hx : x.1 = k
    · rw [if_pos (beq_iff_eq.mpr hx), beq_iff_eq.mpr hx]
      by_cases hr : r = k
      · rw [if_pos hr, beq_iff_eq.mpr hr.symm]
        rfl
      · rw [if_neg hr, beq_eq_false_iff_ne.mpr (Ne.symm hr), beq_eq_false_iff_ne.mpr (hx ▸ Ne.symm hr), ih,
          if_neg hr]
    · rw [if_neg fun h => hx (beq_iff_eq.mp h), beq_eq_false_iff_ne.mpr hx]
      by_cases hxr : x.1 = r
      · rw [beq_iff_eq.mpr hxr, if_neg (hxr ▸ hx)]
      · rw [beq_eq_false_iff_ne.mpr hxr, ih]

theorem find_upd [DecidableEq κ] (l : List (κ × β)) (k : κ) (f : κ × β → β) (v : β) (r : κ) :
    ((upd l k f v).find? (·.1 == r)).map (·.2) =
      if r = k then some (((l.find? (·.1 == k)).map f).getD v) else (l.find? (·.1 == r)).map (·.2) := by
  unfold upd
  split
  · rename_i hany
    obtain ⟨x, hx⟩ := Option.isSome_iff_exists.mp (List.find?_isSome.mpr (List.any_eq_true.mp hany))
    rw [find_map_upd, hx]
    rfl
  · rename_i hany
    have hk : l.find? (·.1 == k) = none :=
      List.find?_eq_none.mpr fun x hx hxk => hany (List.any_eq_true.mpr ⟨x, hx, hxk⟩)
    rw [List.find?_append, hk]
    by_cases hr : r = k
    · rw [if_pos hr, hr, hk, List.find?_cons, beq_self_eq_true]
      rfl
    · rw [if_neg hr, List.find?_cons, beq_eq_false_iff_ne.mpr (Ne.symm hr), List.find?_nil, Option.or_none]

end Find

section Put
variable {κ β : Type} [BEq κ]

/-- the write of the pools.  The body is not `upd l k (fun _ => v) v` but spelt as the model's `set`
functions are, so that their lemmas are instances by `exact`; the lemmas of `upd` apply to it by
unfolding. -/
abbrev put (l : List (κ × β)) (k : κ) (v : β) : List (κ × β) :=
  if l.any (·.1 == k) then l.map fun x => if x.1 == k then (k, v) else x else l ++ [(k, v)]

theorem mem_put {l : List (κ × β)} {k : κ} {v : β} {p : κ × β} (h : p ∈ put l k v) :
    p = (k, v) ∨ p ∈ l :=
  (mem_upd l k (fun _ => v) v h).elim Or.inr fun h => Or.inl (h.elim (fun ⟨_, _, e⟩ => e) id)

theorem mem_foldl_put {ps l : List (κ × β)} {p : κ × β}
    (h : p ∈ ps.foldl (fun d q => put d q.1 q.2) l) : p ∈ l ∨ p ∈ ps := by
  induction ps generalizing l with
  | nil => exact Or.inl h
  | cons q ps ih =>
    rcases ih h with h | h
    · exact (mem_put h).elim (fun e => Or.inr (e ▸ List.mem_cons_self)) Or.inl
    · exact Or.inr (List.mem_cons_of_mem _ h)

variable [LawfulBEq κ]

theorem find_put_ne [DecidableEq κ] (l : List (κ × β)) (k k' : κ) (v : β) (hne : k' ≠ k) :
    ((put l k v).find? (·.1 == k')).map (·.2) = (l.find? (·.1 == k')).map (·.2) :=
  (find_upd l k (fun _ => v) v k').trans (if_neg hne)

theorem find_put_eq [DecidableEq κ] (l : List (κ × β)) (k : κ) (v : β) :
    ((put l k v).find? (·.1 == k)).map (·.2) = some v := by
  refine (find_upd l k (fun _ => v) v k).trans ((if_pos rfl).trans ?_)
  cases l.find? (·.1 == k) <;> rfl

theorem foldl_put_fresh (ps l : List (κ × β)) (hnd : (ps.map (·.1)).Nodup)
    (hdis : ∀ p ∈ ps, p.1 ∉ l.map (·.1)) : ps.foldl (fun d p => put d p.1 p.2) l = l ++ ps := by
  induction ps generalizing l with
  | nil => exact (List.append_nil l).symm
  | cons p ps ih =>
    obtain ⟨hp, hnd⟩ := List.nodup_cons.mp hnd
    rw [List.foldl_cons, show put l p.1 p.2 = l ++ [p] from
      upd_of_not_mem l p.1 _ p.2 (hdis p List.mem_cons_self), ih _ hnd, List.append_assoc]
    · rfl
    · intro q hq
      rw [List.map_append, List.mem_append, not_or]
      exact ⟨hdis q (List.mem_cons_of_mem p hq),
        fun e => hp (List.mem_singleton.mp e ▸ List.mem_map_of_mem hq)⟩

theorem forall_find_put [DecidableEq κ] {P : β → Prop} {l : List (κ × β)} {k : κ} {c : β}
    (hl : ∀ k' v, (l.find? (·.1 == k')).map (·.2) = some v → P v) (hc : P c) :
    ∀ k' v, ((put l k c).find? (·.1 == k')).map (·.2) = some v → P v := by
  intro k' v h
  by_cases hk : k' = k
  · rw [hk, find_put_eq] at h
    exact Option.some.inj h ▸ hc
  · rw [find_put_ne l k k' c hk] at h
    exact hl k' v h

end Put

section MapVals
variable {κ β γ : Type} [BEq κ] (g : β → γ) (l : List (κ × β)) (k : κ)

theorem find_map_vals :
    ((l.map fun x => (x.1, g x.2)).find? (·.1 == k)).map (·.2) = ((l.find? (·.1 == k)).map (·.2)).map g := by
  rw [List.find?_map, Option.map_map, Option.map_map]
  rfl

theorem put_map_vals (v : β) :
    (put l k v).map (fun x => (x.1, g x.2)) = put (l.map fun x => (x.1, g x.2)) k (g v) := by
  have hany : (l.map fun x : κ × β => (x.1, g x.2)).any (·.1 == k) = l.any (·.1 == k) := by
    rw [List.any_map]
    rfl
  unfold put
  rw [hany]
  split
  · rw [List.map_map, List.map_map]
    refine List.map_congr_left fun x _ => ?_
    rw [Function.comp_apply, Function.comp_apply]
    split <;> rfl
  · rw [List.map_append]
    rfl

end MapVals

end LW.Assoc
