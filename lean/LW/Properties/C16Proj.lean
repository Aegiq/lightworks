/-
  C16 (continued) — the maximum-likelihood tomography "returns a positive, trace-preserving Choi
  matrix": the projection steps and the outer loop of `MLETomographyAlgorithm`
  (`_tp_proj`, `_cp_proj`, `_cptp_proj`, the update rule of `pgdb`), model LW.Model.MLEProj.
  Proofs: LW/Proofs/C16Proj.lean (TP step, any field with a star operation), LW/Proofs/C16ProjCP.lean
  (CP step and the loops, over ℂ with Mathlib's `Matrix.PosSemidef`).

  Proved, for every dimension `d` (`d = 2ⁿ` in the code), every input matrix, every data set
  (= every gradient), every accepted step size in `[0,1]`, every number of iterations of either
  loop and every stopping rule:
    * `_tp_proj` returns a matrix whose partial trace is the identity (`tp_proj_trace_preserving`),
      changes nothing on a matrix that already has this property (`tp_proj_fixes_trace_preserving`,
      hence idempotent), keeps Hermitian matrices Hermitian (`tp_proj_keeps_hermitian`) and is the
      ORTHOGONAL (Frobenius-nearest) projection onto that set (`tp_proj_orthogonal`);
    * `_cp_proj` returns a positive semi-definite matrix whatever `eigh` returned
      (`cp_proj_positive`), and the part removed is negative semi-definite; for real `vals` and
      unitary `vecs` (the documented contract of `eigh`) the two parts add up to
      `vecs·diag(vals)·vecs†` and are orthogonal (`cp_proj_moreau`: the result is the positive
      semi-definite matrix nearest to `vecs·diag(vals)·vecs†`), and for a non-negative spectrum the
      result is `vecs·diag(vals)·vecs†` itself (`cp_proj_fixes_positive`); that this matrix is the
      input of `_cp_proj` is the other half of the contract, which no statement assumes;
    * `_cptp_proj` returns an output of `_cp_proj`, hence a positive semi-definite matrix
      (`cptp_proj_positive`);
    * `pgdb` returns a positive semi-definite matrix (`pgdb_returns_positive`) — the "positive"
      half of the property's MLE clause, with no assumption on convergence;
    * trace preservation is an invariant of `pgdb` as soon as the projection is exactly trace
      preserving (`pgdb_trace_preserving_invariant`), and in general the deviation of an iterate
      from trace preservation is the affine combination, with the step size as weight, of the
      deviations of the previous iterate and of the projected point (`pgdb_tp_defect_affine`).
  PARTIAL: `_cptp_proj` ends on the CP step, so its result is trace preserving only up to the
  stopping tolerance of Dykstra's iteration (1e-4 on the squared increments); convergence of
  Dykstra's iteration and of the projected gradient descent (the 0.99 fidelity bound) is analysis
  outside this model and is checked on the implementation by the correspondence check only.
-/
import LW.Proofs.C16ProjCP

open scoped BigOperators ComplexOrder

namespace LW.C16

open LW.Tomo

section AnyField
variable {K : Type} [Field K] [StarRing K] [DecidableEq K]

/-- `_tp_proj` lands in the trace-preserving matrices: `Σ_b out[a·d+b, c·d+b] = δ_{ac}`. -/
theorem tp_proj_trace_preserving (d : Nat) (A : M K) (hA : A.n = d * d) (hd : (d : K) ≠ 0)
    {a c : Nat} (ha : a < d) (hc : c < d) :
    (partialTrace d (tpProj d A)).get a c = if a = c then 1 else 0 :=
  tpProj_tracePreserving d A hA hd ha hc

/-- `_tp_proj` is the identity on trace-preserving matrices. -/
theorem tp_proj_fixes_trace_preserving (d : Nat) (A : M K) (hA : A.n = d * d)
    (hTP : ∀ a c, a < d → c < d → (partialTrace d A).get a c = if a = c then 1 else 0)
    {a b c e : Nat} (ha : a < d) (hb : b < d) (hc : c < d) (he : e < d) :
    (tpProj d A).get (a * d + b) (c * d + e) = A.get (a * d + b) (c * d + e) :=
  tpProj_fixes_tp d A hA hTP ha hb hc he

/-- `_tp_proj` is idempotent: its output is trace preserving, and such a matrix is left as it is. -/
theorem tp_proj_idempotent (d : Nat) (A : M K) (hA : A.n = d * d) (hd : (d : K) ≠ 0)
    {a b c e : Nat} (ha : a < d) (hb : b < d) (hc : c < d) (he : e < d) :
    (tpProj d (tpProj d A)).get (a * d + b) (c * d + e) = (tpProj d A).get (a * d + b) (c * d + e) :=
  tpProj_fixes_tp d (tpProj d A) (by simpa using hA)
    (fun _ _ ha' hc' => tpProj_tracePreserving d A hA hd ha' hc') ha hb hc he

theorem tp_proj_keeps_hermitian (d : Nat) (A : M K) (hA : A.n = d * d)
    (hH : ∀ r k, r < A.n → k < A.n → star (A.get r k) = A.get k r)
    {a b c e : Nat} (ha : a < d) (hb : b < d) (hc : c < d) (he : e < d) :
    star ((tpProj d A).get (a * d + b) (c * d + e)) = (tpProj d A).get (c * d + e) (a * d + b) := by
  have h1 : ∀ {a b : Nat}, a < d → b < d → a * d + b < A.n := fun ha hb => hA ▸ idx_lt ha hb
  have hpt : star ((partialTrace d A).get a c) = (partialTrace d A).get c a := by
    rw [get_partialTrace _ _ ha hc, get_partialTrace _ _ hc ha, star_sum]
    exact Finset.sum_congr rfl fun x hx =>
      hH _ _ (h1 ha (Finset.mem_range.mp hx)) (h1 hc (Finset.mem_range.mp hx))
  rw [get_tpProj d A hA ha hb hc he, get_tpProj d A hA hc he ha hb, star_sub, star_mul', star_mul',
    star_sub, hpt, hH _ _ (h1 ha hb) (h1 hc he), star_inv₀, star_natCast]
  have e1 : (if a = c then (1 : K) else 0) = if c = a then 1 else 0 := by
    by_cases h : a = c <;> simp [h, eq_comm]
  have e2 : (if b = e then (1 : K) else 0) = if e = b then 1 else 0 := by
    by_cases h : b = e <;> simp [h, eq_comm]
  rw [e1, e2]
  simp [apply_ite star]

/-- `_tp_proj` is the ORTHOGONAL projection onto the trace-preserving matrices: for every
trace-preserving `T` the part removed, `A − _tp_proj(A)`, is Frobenius-orthogonal to
`T − _tp_proj(A)` (so `_tp_proj(A)` is the trace-preserving matrix nearest to `A`, which is what
Dykstra's iteration in `_cptp_proj` requires of its two projections). -/
theorem tp_proj_orthogonal (d : Nat) (A T : M K) (hA : A.n = d * d) (hT : T.n = d * d)
    (hd : (d : K) ≠ 0)
    (hTP : ∀ a c, a < d → c < d → (partialTrace d T).get a c = if a = c then 1 else 0) :
    ∑ r ∈ Finset.range (d * d), ∑ k ∈ Finset.range (d * d),
        star ((msub A (tpProj d A)).get r k) * (msub T (tpProj d A)).get r k = 0 := by
  rw [sum_range_mul]
  refine Finset.sum_eq_zero fun a ha => ?_
  have ha' := Finset.mem_range.mp ha
  rw [removed_tp_pairing d A _ hA ha']
  refine Finset.sum_eq_zero fun c hc => ?_
  have hc' := Finset.mem_range.mp hc
  -- `T − _tp_proj(A)` has partial trace `I − I`
  have hz : ∑ b ∈ Finset.range d, (msub T (tpProj d A)).get (a * d + b) (c * d + b) = 0 := by
    rw [Finset.sum_congr rfl fun b hb => get_msub T (tpProj d A)
        (hT ▸ idx_lt ha' (Finset.mem_range.mp hb)) (hT ▸ idx_lt hc' (Finset.mem_range.mp hb)),
      Finset.sum_sub_distrib, ← get_partialTrace _ _ ha' hc', ← get_partialTrace _ _ ha' hc',
      hTP a c ha' hc', tpProj_tracePreserving d A hA hd ha' hc', sub_self]
  rw [hz, mul_zero]

/-- the TP defect of `choi + α·(proj − choi)` is the same affine combination of the two defects
(convex for a step size in `[0,1]`) -/
theorem pgdb_tp_defect_affine (d : Nat) (A B : M K) (alpha : K) (hA : A.n = d * d) (hB : B.n = d * d)
    {a c : Nat} (ha : a < d) (hc : c < d) :
    (partialTrace d (madd A (scale alpha (msub B A)))).get a c
      = (partialTrace d A).get a c
        + alpha * ((partialTrace d B).get a c - (partialTrace d A).get a c) :=
  partialTrace_affine d A B alpha hA hB ha hc

/-- with an exactly trace-preserving projection every `pgdb` iterate is trace preserving -/
theorem pgdb_trace_preserving_invariant (d : Nat) (hd : (d : K) ≠ 0) (proj grad : M K → M K)
    (muInv : K)
    (hproj : ∀ X, X.n = d * d → (proj X).n = d * d ∧
      ∀ a c, a < d → c < d → (partialTrace d (proj X)).get a c = if a = c then 1 else 0)
    (alphas : List K) {a c : Nat} (ha : a < d) (hc : c < d) :
    (partialTrace d (pgdbRun proj grad muInv alphas (pgdbInit d))).get a c
      = if a = c then 1 else 0 :=
  (pgdbRun_tracePreserving d proj grad muInv hproj alphas (pgdbInit d) (by simp [pgdbInit])
    (fun _ _ ha' hc' => pgdbInit_tracePreserving d hd ha' hc')).2 a c ha hc

end AnyField

/-- `_cp_proj` returns a positive semi-definite matrix for ANY `(vals, vecs)`. -/
theorem cp_proj_positive (vals : List ℂ) (V : M ℂ) (n : Nat) (hV : V.n = n) (hl : vals.length = n) :
    ((cpProjFrom clipC vals V).toMatN n).PosSemidef :=
  cpProj_posSemidef vals V n hV hl

/-- Moreau decomposition of `A = vecs·diag(vals)·vecs†` (`vals` real, `vecs` unitary):
`A = P + N`, `P = _cp_proj(A) ⪰ 0`, `N ⪯ 0`, `P·N = 0` — `P` is the nearest PSD matrix. -/
theorem cp_proj_moreau (vals : List ℂ) (hre : ∀ v ∈ vals, v.im = 0) (V : M ℂ) (n : Nat)
    (hV : V.n = n) (hl : vals.length = n)
    (hU : (V.toMatN n).conjTranspose * V.toMatN n = 1) :
    (cpProjFrom clipC vals V).toMatN n + (cpProjFrom clipNegC vals V).toMatN n
        = (cpProjFrom id vals V).toMatN n ∧
      ((cpProjFrom clipC vals V).toMatN n).PosSemidef ∧
      (-(cpProjFrom clipNegC vals V).toMatN n).PosSemidef ∧
      (cpProjFrom clipC vals V).toMatN n * (cpProjFrom clipNegC vals V).toMatN n = 0 :=
  ⟨cpProj_decomposition vals hre V n hV hl, cpProj_posSemidef vals V n hV hl,
    cpProj_removed_negSemidef vals V n hV hl, cpProj_orthogonal vals V n hV hl hU⟩

/-- on a non-negative real spectrum the clipping does nothing: the result is `vecs·diag(vals)·vecs†` -/
theorem cp_proj_fixes_positive (vals : List ℂ) (hre : ∀ v ∈ vals, v.im = 0 ∧ 0 ≤ v.re) (V : M ℂ) :
    cpProjFrom clipC vals V = cpProjFrom id vals V := by
  unfold cpProjFrom
  congr 3
  apply List.map_congr_left
  intro v hv
  obtain ⟨h1, h2⟩ := hre v hv
  apply Complex.ext <;> simp [clipC, max_eq_left h2, h1]

/-- `_cptp_proj` returns a positive semi-definite matrix of the right size. -/
theorem cptp_proj_positive (d : Nat) (eigh : M ℂ → List ℂ × M ℂ) (he : EighShapes eigh (d * d))
    (iters : Nat) (A : M ℂ) (hA : A.n = d * d) :
    (cptpProj (tpProj d) (cpProjWith eigh) (d * d) iters A).n = d * d ∧
      ((cptpProj (tpProj d) (cpProjWith eigh) (d * d) iters A).toMatN (d * d)).PosSemidef :=
  cptpProj_posSemidef d eigh he iters A hA

/-- **`pgdb` returns a positive semi-definite Choi matrix.** -/
theorem pgdb_returns_positive (d : Nat) (eigh : M ℂ → List ℂ × M ℂ) (he : EighShapes eigh (d * d))
    (stop : M ℂ → Nat) (grad : M ℂ → M ℂ) (muInv : ℂ) (alphas : List ℝ)
    (hal : ∀ a ∈ alphas, 0 ≤ a ∧ a ≤ 1) :
    ((pgdbRun (fun X => cptpProj (tpProj d) (cpProjWith eigh) (d * d) (stop X) X) grad muInv
        (alphas.map Complex.ofReal) (pgdbInit d)).toMatN (d * d)).PosSemidef :=
  pgdbRun_posSemidef (d * d) _ grad muInv
    (fun X hX => cptpProj_posSemidef d eigh he (stop X) X hX) alphas hal (pgdbInit d)
    (by simp [pgdbInit]) (pgdbInit_posSemidef d)

/-- … in particular with the step sizes the code's line search produces: `alpha = 0.5`, halved `j`
more times (`0.5^(j+1)`), whatever the numbers `j` of halvings the cost comparisons decide -/
theorem pgdb_returns_positive_halvings (d : Nat) (eigh : M ℂ → List ℂ × M ℂ)
    (he : EighShapes eigh (d * d)) (stop : M ℂ → Nat) (grad : M ℂ → M ℂ) (muInv : ℂ)
    (halvings : List Nat) :
    ((pgdbRun (fun X => cptpProj (tpProj d) (cpProjWith eigh) (d * d) (stop X) X) grad muInv
        ((halvings.map fun j => ((1 / 2 : ℝ) ^ (j + 1))).map Complex.ofReal)
        (pgdbInit d)).toMatN (d * d)).PosSemidef := by
  apply pgdb_returns_positive d eigh he stop grad muInv
  intro a ha
  simp only [List.mem_map] at ha
  obtain ⟨j, _, rfl⟩ := ha
  exact ⟨by positivity, pow_le_one₀ (by norm_num) (by norm_num)⟩

/-- the hypotheses of `cp_proj_moreau` are met by a concrete indefinite matrix:
`vals = [-1, 2]`, `vecs = [[3, -4],[4, 3]]/5` -/
example :
    let V : M ℂ := mat2 (3 / 5) (-4 / 5) (4 / 5) (3 / 5)
    (∀ v ∈ ([-1, 2] : List ℂ), v.im = 0) ∧ V.n = 2 ∧ ([-1, 2] : List ℂ).length = 2 ∧
      (V.toMatN 2).conjTranspose * V.toMatN 2 = 1 := by
  refine ⟨by simp, rfl, rfl, ?_⟩
  have h35 : star (3 / 5 : ℂ) = 3 / 5 := by rw [Complex.star_def, map_div₀, map_ofNat, map_ofNat]
  have h45 : star (4 / 5 : ℂ) = 4 / 5 := by rw [Complex.star_def, map_div₀, map_ofNat, map_ofNat]
  have h45' : star (-4 / 5 : ℂ) = -4 / 5 := by rw [neg_div, star_neg, h45]
  rw [toMatN_mat2]
  ext r k
  fin_cases r <;> fin_cases k <;>
    simp only [Fin.zero_eta, Fin.mk_one, Fin.isValue, Matrix.mul_apply, Fin.sum_univ_two,
      Matrix.conjTranspose_apply, Matrix.of_apply, Matrix.cons_val', Matrix.cons_val_zero,
      Matrix.cons_val_one, Matrix.empty_val', Matrix.cons_val_fin_one, h35, h45, h45',
      Matrix.one_apply_eq, ne_eq, zero_ne_one, one_ne_zero, not_false_eq_true, Matrix.one_apply_ne] <;>
    norm_num

/-- an `eigh` of the right shapes exists (e.g. the one returning zeros), and `[1/2, 1/4]` are
admissible step sizes: `pgdb_returns_positive` is not vacuous -/
example : EighShapes (fun Y => (List.replicate Y.n 0, Y)) 4 ∧
    ∀ a ∈ ([1 / 2, 1 / 4] : List ℝ), 0 ≤ a ∧ a ≤ 1 := by
  refine ⟨fun Y hY => ⟨hY, by simp [hY]⟩, ?_⟩
  intro a ha
  simp only [List.mem_cons, List.not_mem_nil, or_false] at ha
  rcases ha with rfl | rfl <;> norm_num

end LW.C16
