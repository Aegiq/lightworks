/-
  LW.Proofs.C02SemAddMat — the compiled matrix of the result of `Circuit.add` (`Ufull_add`): the
  sub-circuit with its herald-returning swap, embedded along `bumps ts` and then into the window at
  `mode`, times the parent embedded along `bumps` of the new ancilla modes and padded by the
  sub-circuit's loss modes. The index space of the result is `[modes | parent's loss | sub's loss]`.
-/
import LW.Proofs.C02SemAddPos
import LW.Proofs.Reach

open scoped BigOperators

namespace LW.Proofs.C02Sem

open LW LW.Proofs.C01Aux LW.Proofs.C02

variable {K : Type} [CommRing K] [StarRing K]

-- `AddData` is stated with `[CommRing K] [StarRing K]`; what speaks of it takes them along, used or not
set_option linter.unusedSectionVars false

theorem lossCount_swapSpec (c : Circ K) : lossCount (swapSpec c) = lossCount c.spec := by
  unfold swapSpec
  simp only
  split
  · rw [lossCount_append]; rfl
  · rfl

theorem lossCount_pick (sub : Circ K) (g : Bool) :
    lossCount (pick sub g).1.spec = lossCount sub.spec := by
  rw [← lossN_flatten, ← lossN_flatten, flattenSpec_pick]

theorem compile_pick (i : K) (sub : Circ K) (g : Bool) :
    compile i sub.n (pick sub g).1.spec = compile i sub.n sub.spec := by
  rw [compile_eq_foldl, compile_eq_foldl, flattenSpec_pick]

theorem forall_flatten_swapSpec_pick (sub : Circ K) (g : Bool) (hwfs : sub.WF) (P : Prim K → Prop)
    (hsw : ∀ σ, SwapsOk sub.n σ → P (.swaps σ)) (h : ∀ p ∈ flattenSpec sub.spec, P p) :
    ∀ p ∈ flattenSpec (swapSpec (pick sub g).1), P p := by
  have hpn : (pick sub g).1.n = sub.n := (pick_props sub g).1
  have := swapSpec_forall (Q := fun c => ∀ p ∈ c.toPrims, P p) _ (pick_WF sub g hwfs)
    (fun p hp => by
      rw [List.mem_singleton.mp hp]
      exact hsw _ (hpn ▸ Reach.synthSwaps_zipHer_swapsOk _ (pick_WF sub g hwfs)))
    (pick_forall (fun c hc p hp q hq => by rw [List.mem_singleton.mp hq]; exact hc p hp) sub g
      (fun c hc p hp => h p (List.mem_flatMap.mpr ⟨c, hc, hp⟩)))
  intro p hp
  obtain ⟨c, hc, hp⟩ := List.mem_flatMap.mp hp
  exact this c hc p hp

theorem Ufull_add (i : K) (self sub self' : Circ K) (m : Int) (g : Bool) (mode : Nat) (ts : List Nat)
    (d : AddData self sub self' m g mode ts) (hwfs : sub.WF)
    (hws : SpecPos self.n self.spec) (hsub : SpecPos sub.n sub.spec) :
    self'.Ufull i =
      (Optic.embedVia (self.n + sub.inHer.length + lossCount self.spec + lossCount sub.spec)
        (Optic.embedVia (sub.n + ts.length + lossCount sub.spec)
          (compile i sub.n (swapSpec (pick sub g).1)) (unbumps ts))
        (winInv (sub.n + ts.length) mode (self.n + sub.inHer.length + lossCount self.spec))).mul
      ((Optic.embedVia (self.n + sub.inHer.length + lossCount self.spec) (self.Ufull i)
        (unbumps (ancModes sub mode ts))).pad (lossCount sub.spec)) := by
  obtain ⟨hKlen, -, -, hKok⟩ := d.ancModes_spec hwfs
  have hwsub : SpecPos sub.n (swapSpec (pick sub g).1) :=
    forall_flatten_swapSpec_pick sub g hwfs (PrimPos sub.n) (fun _ h => h) hsub
  have hL2 : lossCount (swapSpec (pick sub g).1) = lossCount sub.spec := by
    rw [lossCount_swapSpec, lossCount_pick]
  show compile i self'.n self'.spec = _
  rw [compile_eq_foldl, d.flat, List.foldl_append, d.n_eq]
  have hV : (flattenSpec (specIns (ancModes sub mode ts) self.spec)).foldl (compilePrim i)
        (M.one (self.n + sub.inHer.length))
      = compile i (self.n + (ancModes sub mode ts).length) (specIns (ancModes sub mode ts) self.spec) := by
    rw [compile_eq_foldl, hKlen]
  rw [hV, compile_specIns i self.n _ hKok self.spec hws, hKlen]
  have hT : mode + (sub.n + ts.length) ≤ self.n + sub.inHer.length + lossCount self.spec := by
    have := d.fit; omega
  have hw2 := specPos_specIns sub.n ts _ hwsub
  rw [foldl_shift i (sub.n + ts.length) mode (self.n + sub.inHer.length + lossCount self.spec) hT
    (specIns ts (swapSpec (pick sub g).1)) hw2 _ rfl (isOfFn_embedVia _ _ _)]
  rw [lossCount_specIns, hL2, compile_specIns i sub.n ts d.ok _ hwsub, hL2]
  rfl

end LW.Proofs.C02Sem
