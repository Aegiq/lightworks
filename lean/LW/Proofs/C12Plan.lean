/-
  LW.Proofs.C12Plan — the circuit assembled from a plan of placements (`buildCirc`): every
  well-placed plan builds, the result keeps the invariant `HerInv` (heralds = ancillas appended in
  order), its herald photon numbers are those of the placements in order, and its substitution
  homomorphism is the composition of the placed homomorphisms (`planHom` of C12PlanHom).
-/
import LW.Proofs.C12AddHom
import LW.Proofs.C12PlanHom
import LW.Proofs.C12Sub
import LW.Proofs.C12FullSem

namespace LW.C12F

open LW LW.QC LW.Gates LW.QF LW.Proofs.C02Sem

variable {R : Type} [CommRing R] [StarRing R]

theorem placed_ok (c : GC R) (par : ℕ → R × R) (nq : ℕ) (p : Placed) (h : PlacedOk nq p) :
    placedCircK c par p = .ok (placedSub c par p, (placedMode p : Int)) ∧
      SubOk (placedSub c par p) (placedQ p) (placedHer p) ∧ placedMode p + placedQ p ≤ 2 * nq ∧
      0 < placedQ p := by
  cases p with
  | single name idx m =>
    exact ⟨placed_single c par name idx m, subOk_sq c _, h, Nat.zero_lt_succ _⟩
  | swap a b =>
    obtain ⟨hab, ha, hb⟩ := h
    refine ⟨placed_swap c par a b hab, subOk_swap a b hab, ?_, ?_⟩
    · show 0 + (2 * max a b + 2) ≤ 2 * nq
      omega
    · show 0 < 2 * max a b + 2
      omega
  | two cx ps t m =>
    obtain ⟨ht, hcz, hm⟩ := h
    exact ⟨placed_two c par cx ps t m ht hcz, subOk_two c cx ps t ht, hm, Nat.zero_lt_succ _⟩
  | three ccx t m =>
    obtain ⟨ht, hcz, hm⟩ := h
    exact ⟨placed_three c par ccx t m ht hcz, subOk_three c ccx t ht, hm, Nat.zero_lt_succ _⟩

/-- one step of `buildCirc` -/
theorem add_placed (c : GC R) (par : ℕ → R × R) (nq : ℕ) (self : Circ R) (hs : HerInv self)
    (hok : SpecOk self.n self.spec) (hq : self.n - self.inHer.length = 2 * nq) (p : Placed)
    (hp : PlacedOk nq p) :
    ∃ self', (do
        let (g, mode) ← placedCircK c par p
        self.add g mode false) = .ok self' ∧
      HerInv self' ∧ SpecOk self'.n self'.spec ∧ self'.n - self'.inHer.length = 2 * nq ∧
      self'.inHer.map (·.2) = self.inHer.map (·.2) ++ placedHer p ∧
      self'.n = self.n + (placedHer p).length ∧
      circHom c.i self' = (placedHom c par p self.n).comp (circHom c.i self) := by
  obtain ⟨hpc, hsub, hfit, hpos⟩ := placed_ok c par nq p hp
  have hil : self.internal.length = self.inHer.length := by
    rw [← hs.keys, keys_length]
  obtain ⟨self', hadd⟩ := add_succeeds self (placedSub c par p) hs.wf hsub.wf (placedMode p) false
    (by rw [hsub.ports, hil, hq]; exact hfit) (by rw [hsub.ports]; exact hpos)
  obtain ⟨hinv', hn', hher'⟩ := add_herInv self (placedSub c par p) self' hs hsub _ false hadd
  have hlen : self'.inHer.length = self.inHer.length + (placedHer p).length := by
    have := congrArg List.length hher'
    simpa using this
  have hle' := her_length_le hinv'.wf.inNodup hinv'.wf.inLt
  have hle := her_length_le hs.wf.inNodup hs.wf.inLt
  have hnn : self'.n = self.n + (placedHer p).length := by omega
  refine ⟨self', ?_, hinv', add_specOk self _ self' hsub.wf hok hsub.ok _ false hadd,
    by rw [hn', hq], hher', hnn, ?_⟩
  · rw [hpc]
    exact hadd
  · exact circHom_add c.i self (placedSub c par p) self' hs hok hsub (placedMode p) false hadd

/-- `buildCirc` from any circuit satisfying the invariant -/
theorem plan_fold (c : GC R) (par : ℕ → R × R) (nq : ℕ) (plan : List Placed)
    (hplan : ∀ p ∈ plan, PlacedOk nq p) :
    ∀ (self : Circ R), HerInv self → SpecOk self.n self.spec →
      self.n - self.inHer.length = 2 * nq →
      ∃ circ, plan.foldlM (fun (circ : Circ R) p => do
          let (g, mode) ← placedCircK c par p
          circ.add g mode false) self = .ok circ ∧
        HerInv circ ∧ circ.n - circ.inHer.length = 2 * nq ∧
        circ.inHer.map (·.2) = self.inHer.map (·.2) ++ planHer plan ∧
        circHom c.i circ = (planHom c par plan self.n).comp (circHom c.i self) := by
  induction plan with
  | nil =>
    intro self hs _ hq
    exact ⟨self, rfl, hs, hq, by simp [planHer], by simp [planHom]⟩
  | cons p ps ih =>
    intro self hs hok hq
    obtain ⟨self', hstep, hs', hok', hq', hher', hn', hhom'⟩ :=
      add_placed c par nq self hs hok hq p (hplan p List.mem_cons_self)
    obtain ⟨circ, hfold, hc, hcq, hcher, hchom⟩ :=
      ih (fun q hq => hplan q (List.mem_cons_of_mem _ hq)) self' hs' hok' hq'
    refine ⟨circ, ?_, hc, hcq, ?_, ?_⟩
    · rw [List.foldlM_cons, hstep]
      exact hfold
    · rw [hcher, hher', planHer, List.append_assoc]
    · rw [hchom, hhom', hn', planHom, AlgHom.comp_assoc]

end LW.C12F
