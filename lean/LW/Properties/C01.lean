/-
  C01 — A circuit compiles to the ordered product of its components.

  Only the property theorems live here; helper lemmas and the non-vacuity examples are in
  LW/Proofs (LW/Proofs/C01.lean).  `compile` is the model of `CompiledCircuit.add` folded over the circuit spec
  (LW.Model.Circuit), `orderedProd` the specification (LW.Model.CircuitSpec).
  All statements are for every spec (any length, any interleaving, groups included), every mode
  count and every parameter value in a commutative star ring `K` (in particular ℂ).
-/
import LW.Proofs.C01
import LW.Proofs.CircCalls

namespace LW.C01

variable {K : Type} [CommRing K] [StarRing K]

/-- `U_full` has exactly one extra mode per loss element (counted through groups). -/
theorem compile_dim (i : K) (n : Nat) (spec : List (Comp K)) :
    (compile i n spec).n = n + lossCount spec :=
  Proofs.C01.compile_dim i n spec

/-- `U` — the leading `n × n` block of `U_full` — is the product, in insertion order, of the
documented component matrices on the circuit's own modes, a loss element acting as the
amplitude factor `a = √(1-loss)` on its mode and a barrier as the identity. -/
theorem U_eq_orderedProd (i : K) (n : Nat) (spec : List (Comp K)) (h : SpecWf n spec) :
    (compile i n spec).lead n = orderedProd i n (flattenSpec spec) :=
  Proofs.C01.U_eq_orderedProd i n spec h

/-- `U_full` is unitary for every spec whose parameters lie in the documented ranges. -/
theorem Ufull_unitary (i : K) (hi : IsImagUnit i) (n : Nat) (spec : List (Comp K))
    (h : SpecWf n spec) : IsUnitary (compile i n spec) :=
  Proofs.C01.Ufull_unitary i hi n spec h

/-- every primitive construction call that the API accepts records a well-formed component:
the validation in `Circuit.bs/ps/loss/barrier/mode_swaps` implies the hypotheses above. -/
theorem accepted_calls_wf (c c' : Circ K) (hc : SpecWf c.n c.spec) :
    (∀ m1 m2 cs cv l, cs.1 * cs.1 + cs.2 * cs.2 = 1 → star cs.1 = cs.1 → star cs.2 = cs.2 →
        (∀ ab, l = some ab → ab.1 * ab.1 + ab.2 * ab.2 = 1 ∧ star ab.1 = ab.1 ∧ star ab.2 = ab.2) →
        c.bs m1 m2 cs cv l = .ok c' → c'.n = c.n ∧ SpecWf c'.n c'.spec) ∧
    (∀ m p l, p * star p = 1 →
        (∀ ab, l = some ab → ab.1 * ab.1 + ab.2 * ab.2 = 1 ∧ star ab.1 = ab.1 ∧ star ab.2 = ab.2) →
        c.ps m p l = .ok c' → c'.n = c.n ∧ SpecWf c'.n c'.spec) ∧
    (∀ m ab, ab.1 * ab.1 + ab.2 * ab.2 = 1 → star ab.1 = ab.1 → star ab.2 = ab.2 →
        c.loss m ab = .ok c' → c'.n = c.n ∧ SpecWf c'.n c'.spec) ∧
    (∀ ms, c.barrier ms = .ok c' → c'.n = c.n ∧ SpecWf c'.n c'.spec) ∧
    (∀ sw, c.modeSwaps sw = .ok c' → c'.n = c.n ∧ SpecWf c'.n c'.spec) :=
  ⟨fun _ _ _ cv _ h1 h2 h3 hl h =>
      let ⟨a, b, hq, e⟩ := Circ.bs_leaf h
      e ▸ Proofs.C01Aux.addPrims_wf hc fun q hm => (hq q hm).wf (Circ.bsPrims_paramOk ⟨h1, h2, h3⟩ hl a b cv q hm),
    fun _ _ _ hp hl h =>
      let ⟨a, hq, e⟩ := Circ.ps_leaf h
      e ▸ Proofs.C01Aux.addPrims_wf hc fun q hm => (hq q hm).wf (Circ.psPrims_paramOk hp hl a q hm),
    fun _ _ h1 h2 h3 h =>
      let ⟨_, hq, e⟩ := Circ.loss_leaf h
      e ▸ Proofs.C01Aux.addPrims_wf hc
        (List.forall_mem_singleton.mpr ((List.forall_mem_singleton.mp hq).wf (⟨h1, h2, h3⟩ : UnitPair _))),
    fun _ h =>
      let ⟨_, hq, e⟩ := Circ.barrier_leaf h
      e ▸ Proofs.C01Aux.addPrims_wf hc
        (List.forall_mem_singleton.mpr ((List.forall_mem_singleton.mp hq).wf trivial)),
    fun _ h =>
      let ⟨_, hq, e⟩ := Circ.modeSwaps_leaf h
      e ▸ Proofs.C01Aux.addPrims_wf hc
        (List.forall_mem_singleton.mpr ((List.forall_mem_singleton.mp hq).wf trivial))⟩

/-- a `bs` call whose two modes coincide, or one of whose modes lies outside the circuit, is rejected
with `ModeRangeError` (the `Except` carries no circuit, so a rejected call changes nothing). -/
theorem bs_rejects_equal_or_out_of_range (c : Circ K) (m1 m2 : Int) (cs : K × K) (cv : Conv)
    (l : Option (K × K))
    (h : c.mapMode m1 = c.mapMode m2 ∨ c.mapMode m1 < 0 ∨ (c.n : Int) ≤ c.mapMode m1 ∨
         c.mapMode m2 < 0 ∨ (c.n : Int) ≤ c.mapMode m2) :
    c.bs m1 m2 cs cv l = .error .modeRange := by
  rw [Circ.bs_eq]
  unfold Circ.modeInRange
  by_cases h1 : 0 ≤ c.mapMode m1 ∧ c.mapMode m1 < (c.n : Int)
  · rw [if_pos h1]
    by_cases he : ((c.mapMode m1).toNat : Int) = c.mapMode m2
    · exact if_pos he
    · rw [if_neg (by omega : ¬ (0 ≤ c.mapMode m2 ∧ c.mapMode m2 < (c.n : Int)))]
      exact if_neg he
  · rw [if_neg h1]
    rfl

end LW.C01
