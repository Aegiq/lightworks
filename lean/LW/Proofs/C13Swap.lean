/-
  The SWAP statement for all mode pairs, over any commutative ring.  `SWAP_struct`
  (LW/Proofs/C13SwapStruct.lean) evaluates the constructor; `U_full` is the permutation matrix of the
  dictionary; without heralds `fullState` is the identity; a permutation matrix acts on the creation
  operators as the renaming of the modes (`permAmpFull_perm`, any photon number), and the two-photon
  states on distinct modes carry no factorial.
-/
import LW.Proofs.SwapDict
import LW.Proofs.FockLayout
import LW.Proofs.C13SwapStruct
import LW.Proofs.QFockLists
import LW.Proofs.C13

open scoped BigOperators
open MvPolynomial

namespace LW.Gates

open LW.QF LW.C12F

variable {R : Type} [CommRing R]

theorem swapCirc_Ufull_get (i : R) (a0 a1 b0 b1 : Nat) {r c : Nat}
    (hr : r < max (max a0 a1) (max b0 b1) + 1) (hc : c < max (max a0 a1) (max b0 b1) + 1) :
    ((swapCirc a0 a1 b0 b1 : Circ R).Ufull i).get r c
      = if Dict.fn (swapDict a0 a1 b0 b1) c = r then 1 else 0 := by
  have hU : (swapCirc a0 a1 b0 b1 : Circ R).Ufull i
      = (permF (Dict.fn (swapDict a0 a1 b0 b1)) (max (max a0 a1) (max b0 b1) + 1) : M R).mul
          (M.one (max (max a0 a1) (max b0 b1) + 1)) := rfl
  rw [hU]
  exact permF_mul_one_get _ hr hc

theorem swapDict_fn (a0 a1 b0 b1 : Nat) (h : [a0, a1, b0, b1].Nodup) :
    Dict.fn (swapDict a0 a1 b0 b1) a0 = b0 ∧ Dict.fn (swapDict a0 a1 b0 b1) a1 = b1 ∧
    Dict.fn (swapDict a0 a1 b0 b1) b0 = a0 ∧ Dict.fn (swapDict a0 a1 b0 b1) b1 = a1 := by
  obtain ⟨h01, h02, h03, h12, h13, h23⟩ := nodup_four h
  refine ⟨?_, ?_, ?_, ?_⟩ <;>
    simp [swapDict, Dict.fn_cons, h01, h02, h03, h13, h23, Ne.symm h12]

theorem homOf_perm_monomial (U : ℕ → ℕ → R) (σ : ℕ → ℕ) (N : ℕ)
    (hU : ∀ r c, r < N → c < N → U r c = if σ c = r then 1 else 0)
    (s : ℕ →₀ ℕ) (hs : ∀ j ∈ s.support, j < N ∧ σ j < N) :
    homOf U N (monomial s 1) = (rename σ : Hom R) (monomial s 1) :=
  algHom_monomial_congr _ _ s fun j hj => by
    rw [homOf_X_lt _ (hs j hj).1, rename_X]
    exact colForm_single _ (hs j hj).2 fun r hr =>
      (hU r j hr (hs j hj).1).trans (if_congr eq_comm rfl rfl)

/-- amplitudes of a mode permutation, any photon number: `∏ o_k!` on the permuted state, 0 on every
other one -/
theorem permAmpFull_perm (U : ℕ → ℕ → R) (σ : ℕ → ℕ) (N : ℕ)
    (hU : ∀ r c, r < N → c < N → U r c = if σ c = r then 1 else 0)
    (ins o : List ℕ) (hi : ins.length = N) (ho : o.length = N)
    (hσ : ∀ j ∈ ins.toFinsupp.support, σ j < N) :
    permAmpFull U ins o =
      if Finsupp.mapDomain σ ins.toFinsupp = o.toFinsupp then ((C12F.factProd o : ℕ) : R) else 0 := by
  rw [permAmpFull_eq_amp U N ins o hi ho]
  unfold amp
  rw [homOf_perm_monomial U σ N hU _ fun j hj => ⟨by
    have := List.toFinsupp_support_subset _ hj
    rwa [Finset.mem_range, hi] at this, hσ j hj⟩]
  show _ * amp (rename σ : Hom R) _ _ = _
  rw [amp_rename, mul_ite, mul_one, mul_zero]

theorem occ_pair_toFinsupp {n p q : ℕ} (hp : p < n) (hq : q < n) :
    (occ n [p, q]).toFinsupp = Finsupp.single p 1 + Finsupp.single q 1 := by
  ext z
  rw [List.toFinsupp_apply, Finsupp.add_apply, Finsupp.single_apply, Finsupp.single_apply]
  unfold occ
  by_cases hz : z < n
  · rw [List.getD_eq_getElem _ _ (by simpa using hz), List.getElem_map, List.getElem_range,
      List.count_cons, List.count_cons, List.count_nil]
    simp only [beq_iff_eq]
    omega
  · rw [List.getD_eq_default _ _ (by simpa using hz), if_neg (by omega), if_neg (by omega)]
    rfl

theorem factProd_occ_pair {n u v : ℕ} (h : u ≠ v) : C12F.factProd (occ n [u, v]) = 1 := by
  unfold C12F.factProd occ
  rw [List.map_map]
  apply List.prod_eq_one
  intro x hx
  obtain ⟨m, -, rfl⟩ := List.mem_map.mp hx
  show (List.count m [u, v]).factorial = 1
  rw [List.count_cons, List.count_cons, List.count_nil]
  by_cases h1 : v = m <;> by_cases h2 : u = m <;> simp [h1, h2]
  exact h (h2.trans h1.symm)

theorem amp_perm2 (U : Nat → Nat → R) (σ : Nat → Nat) (N : Nat)
    (hU : ∀ r c, r < N → c < N → U r c = if σ c = r then 1 else 0)
    {p q : Nat} (hp : p < N) (hq : q < N) (hσp : σ p < N) (hσq : σ q < N) (hne : σ p ≠ σ q)
    (o : List Nat) (hl : o.length = N) :
    permAmpFull U (occ N [p, q]) o = if o = occ N [σ p, σ q] then 1 else 0 := by
  rw [permAmpFull_perm U σ N hU _ o (length_occ _ _) hl fun j hj => by
      rw [occ_pair_toFinsupp hp hq] at hj
      rcases Finset.mem_union.mp (Finsupp.support_add hj) with h | h <;>
        rw [Finset.mem_singleton.mp (Finsupp.support_single_subset h)]
      · exact hσp
      · exact hσq,
    occ_pair_toFinsupp hp hq, Finsupp.mapDomain_add, Finsupp.mapDomain_single,
    Finsupp.mapDomain_single, ← occ_pair_toFinsupp hσp hσq]
  by_cases h : o = occ N [σ p, σ q]
  · rw [if_pos h, h, if_pos rfl, factProd_occ_pair hne, Nat.cast_one]
  · rw [if_neg h, if_neg fun e => h (C12F.toFinsupp_inj (hl.trans (length_occ _ _).symm) e.symm)]

theorem swapCirc_amp (i : R) (a0 a1 b0 b1 : Nat) {N : Nat}
    (hN : N = max (max a0 a1) (max b0 b1) + 1) {p q sp sq : Nat} (hp : p < N) (hq : q < N)
    (hsp' : sp < N) (hsq' : sq < N) (hsp : Dict.fn (swapDict a0 a1 b0 b1) p = sp)
    (hsq : Dict.fn (swapDict a0 a1 b0 b1) q = sq) (hne : sp ≠ sq) (o : List Nat)
    (hl : o.length = N) :
    gateAmp i (swapCirc a0 a1 b0 b1 : Circ R) (occ N [p, q]) o =
      if o = occ N [sp, sq] then 1 else 0 := by
  subst hN hsp hsq
  show permAmpFull _ (fullState [] (max (max a0 a1) (max b0 b1) + 1) _)
    (fullState [] (max (max a0 a1) (max b0 b1) + 1) o) = _
  rw [fullState_nil _ _ (length_occ _ _), fullState_nil _ o hl]
  exact amp_perm2 _ (Dict.fn (swapDict a0 a1 b0 b1)) _
    (fun r c hr hc => swapCirc_Ufull_get i a0 a1 b0 b1 hr hc) hp hq hsp' hsq' hne o hl

/-- **SWAP for all mode pairs** (the statement `LW.C13.SWAP_statement`) -/
theorem SWAP_all_pairs :
    ∀ (R : Type) [CommRing R] (i : R) (a0 a1 b0 b1 : Nat), [a0, a1, b0, b1].Nodup →
      ∃ circ : Circ R, SWAP (K := R) [a0, a1] [b0, b1] = .ok circ ∧ circ.inHer = [] ∧
        circ.n = max (max a0 a1) (max b0 b1) + 1 ∧
        ∀ x y : Bool, ∀ o ∈ fockStates circ.n 2,
          gateAmp i circ (occ circ.n [if x then a1 else a0, if y then b1 else b0]) o =
            if o = occ circ.n [if x then b1 else b0, if y then a1 else a0] then 1 else 0 := by
  intro R _ i a0 a1 b0 b1 h
  refine ⟨swapCirc a0 a1 b0 b1, SWAP_struct a0 a1 b0 b1 h, rfl, rfl, ?_⟩
  intro x y o ho
  have hmem := mem_fockStates ho
  have hl : o.length = max (max a0 a1) (max b0 b1) + 1 := hmem.1
  obtain ⟨f0, f1, f2, f3⟩ := swapDict_fn a0 a1 b0 b1 h
  obtain ⟨h01, h02, h03, h12, h13, h23⟩ := nodup_four h
  show gateAmp i (swapCirc a0 a1 b0 b1 : Circ R)
      (occ (max (max a0 a1) (max b0 b1) + 1) [if x then a1 else a0, if y then b1 else b0]) o =
    if o = occ (max (max a0 a1) (max b0 b1) + 1) [if x then b1 else b0, if y then a1 else a0]
      then 1 else 0
  have hb : a0 < max (max a0 a1) (max b0 b1) + 1 ∧ a1 < max (max a0 a1) (max b0 b1) + 1 ∧
      b0 < max (max a0 a1) (max b0 b1) + 1 ∧ b1 < max (max a0 a1) (max b0 b1) + 1 := by
    clear hl hmem ho f0 f1 f2 f3 h01 h02 h03 h12 h13 h23
    omega
  obtain ⟨ha0, ha1, hb0, hb1⟩ := hb
  cases x <;> cases y <;> simp only [Bool.false_eq_true, ↓reduceIte]
  · exact swapCirc_amp i a0 a1 b0 b1 rfl ha0 hb0 hb0 ha0 f0 f2 (Ne.symm h02) o hl
  · exact swapCirc_amp i a0 a1 b0 b1 rfl ha0 hb1 hb0 ha1 f0 f3 (Ne.symm h12) o hl
  · exact swapCirc_amp i a0 a1 b0 b1 rfl ha1 hb0 hb1 ha0 f1 f2 (Ne.symm h03) o hl
  · exact swapCirc_amp i a0 a1 b0 b1 rfl ha1 hb1 hb1 ha1 f1 f3 (Ne.symm h13) o hl

/-- non-vacuity: a scattered layout satisfies the hypothesis, and the conclusion gives the concrete
amplitude 1 (over ℤ) from the input with photons on modes 4 and 3 to photons on modes 0 and 1 -/
example : ∃ circ : Circ ℤ, SWAP (K := ℤ) [((4 : Nat) : Int), ((1 : Nat) : Int)]
      [((0 : Nat) : Int), ((3 : Nat) : Int)] = .ok circ ∧
    gateAmp 0 circ (occ 5 [4, 3]) (occ 5 [0, 1]) = 1 := by
  obtain ⟨c, h1, _, h3, h4⟩ := SWAP_all_pairs ℤ 0 4 1 0 3 (by decide)
  refine ⟨c, h1, ?_⟩
  have h5 : c.n = 5 := h3
  have := h4 false true (occ 5 [0, 1]) (by rw [h5]; decide)
  rw [h5] at this
  simpa using this

end LW.Gates
