/-
  LW.Proofs.C12InstEval — the form of the test vectors of LW/Properties/C12Inst.lean that the kernel
  evaluates: `convertCorrectB` with the permanents of the sizes that occur in closed form
  (`closedAmp`) and with `U_full` computed without the products by embedded identities (`compileC`:
  a block `u` on the modes `m …` combines `u.n` rows and copies the others).  In a tower the two
  evaluations are not equal terms, but under every homomorphism into a commutative ring both have
  the image `compile` of the image circuit (`compileC_rel`, `compile_rel`), and a faithful image
  decides the towers' semantic equality (`HasSem`): `convertCorrectB_of_closed`.
-/
import LW.Proofs.C12Inst
import LW.Proofs.C13Tower

open scoped BigOperators

namespace LW.QC

open LW.Gates LW.QF

section
variable {K : Type} [Add K] [Mul K] [Neg K] [Zero K] [One K]

/-- `(embedBlock U.n m u).mul U` for a block that fits: the rows `m … m + u.n - 1` are combined by
`u`, the others are those of `U` -/
def mulBlock (m : Nat) (u U : M K) : M K :=
  M.ofFn U.n fun r c =>
    if m ≤ r ∧ r < m + u.n then M.sumN u.n fun j => u.get (r - m) j * U.get (m + j) c
    else U.get r c

def compilePrimC (i : K) (U : M K) : Prim K → M K
  | .unitary m u => if m + u.n ≤ U.n then mulBlock m u U else compilePrim i U (.unitary m u)
  | p => compilePrim i U p

def compileCompC (i : K) (U : M K) : Comp K → M K
  | .prim p => compilePrimC i U p
  | .group cs _ _ _ _ => cs.foldl (compilePrimC i) U

def compileC (i : K) (n : Nat) (spec : List (Comp K)) : M K :=
  spec.foldl (compileCompC i) (M.one n)

end

section
variable {T C : Type} [Add T] [Mul T] [Neg T] [Zero T] [One T] [CommRing C] {ψ : T → C}

theorem MRel.mulBlock (hψ : THom ψ) {A u : M T} {V v : M C} (h : MRel ψ A V) (hu : MRel ψ u v)
    (m : Nat) : MRel ψ (mulBlock m u A) (mulBlock m v V) := by
  unfold LW.QC.mulBlock
  rw [h.1, hu.1]
  apply MRel.ofFn hψ
  intro r c _ _
  rw [apply_ite ψ, h.2]
  congr 1
  exact map_sumN hψ _ _ _ fun j => by rw [hψ.map_mul, hu.2, h.2]

theorem get_mulBlock (m : Nat) (v V : M C) (hfit : m + v.n ≤ V.n) (r c : Nat) :
    (mulBlock m v V).get r c = ((embedBlock V.n m v).mul V).get r c := by
  by_cases hrc : r < V.n ∧ c < V.n
  · rw [get_embedBlock_mul v V hfit hrc.1 hrc.2, ← M.sumN_eq_sum]
    exact M.get_ofFn _ hrc.1 hrc.2
  · unfold LW.QC.mulBlock M.mul
    rw [M.get_ofFn', M.get_ofFn', if_neg hrc]
    exact (if_neg hrc).symm

theorem compilePrimC_rel (hψ : THom ψ) (i : T) {A : M T} {V : M C} (h : MRel ψ A V) (p : Prim T) :
    MRel ψ (compilePrimC i A p) (compilePrim (ψ i) V (p.map ψ)) := by
  cases p with
  | unitary m u =>
    show MRel ψ (if m + u.n ≤ A.n then mulBlock m u A else compilePrim i A (.unitary m u)) _
    split_ifs with hfit
    · have hb := MRel.mulBlock hψ h (MRel.map hψ.map_zero u) m
      exact ⟨hb.1, fun r c => (hb.2 r c).trans (get_mulBlock m _ V (h.1 ▸ hfit) r c)⟩
    · exact compilePrim_rel hψ i h _
  | _ => exact compilePrim_rel hψ i h _

theorem compileC_rel (hψ : THom ψ) (i : T) (n : Nat) (spec : List (Comp T)) :
    MRel ψ (compileC i n spec) (compile (ψ i) n (spec.map (Comp.map ψ))) := by
  unfold compileC compile
  rw [List.foldl_map]
  refine List.foldl_rel (r := MRel ψ) (MRel.one hψ n) fun x _ A V h => ?_
  cases x with
  | prim p => exact compilePrimC_rel hψ i h p
  | group ps _ _ _ _ =>
    show MRel ψ (ps.foldl (compilePrimC i) A) ((ps.map (Prim.map ψ)).foldl (compilePrim (ψ i)) V)
    rw [List.foldl_map]
    exact List.foldl_rel (r := MRel ψ) h fun p _ _ _ hc => compilePrimC_rel hψ i hc p

theorem compileC_same (hψ : THom ψ) (i : T) (n : Nat) (spec : List (Comp T)) (r c : Nat) :
    ψ ((compileC i n spec).get r c) = ψ ((compile i n spec).get r c) :=
  ((compileC_rel hψ i n spec).2 r c).trans ((compile_rel hψ i n spec).2 r c).symm

end

section
variable {K : Type} [Add K] [Mul K] [Neg K] [Zero K] [One K] [Eqv K]

/-- `convertCorrectB` with `closedAmp` (C13Eval: `QF.permAmp` with `permC`) for the amplitudes and
`compileC` for `U_full` -/
def convertCorrectC (c : GC K) (par : Nat → K × K) (aps : Bool) (nq : Nat) (gs : List Instr) (k : K) :
    Bool :=
  match convert aps true nq gs with
  | .error _ => false
  | .ok o =>
    match buildCirc c par nq o.plan with
    | .error _ => false
    | .ok circ =>
      (circ.n - circ.inHer.length == 2 * nq) &&
      (bitStrings nq).all fun ib => (fockStates (2 * nq) nq).all fun out =>
        !accepted o.psQubits out ||
        Eqv.eqv (closedAmp (compileC c.i circ.n circ.spec).get circ.n circ.inHer circ.outHer (dualRail ib) out)
          (if isDualRail out then k * idealRun c par 0 gs (delta ib) (unDualRail out) else 0)

end

variable {T : Type} [Add T] [Mul T] [Neg T] [Zero T] [One T] [ZTest T] [Eqv T]

theorem convertCorrectB_of_closed (hs : HasSem T) (c : GC T) (par : Nat → T × T) (aps : Bool)
    (nq : Nat) (gs : List Instr) (k : T) (h : convertCorrectC c par aps nq gs k = true) :
    convertCorrectB c par aps nq gs k = true := by
  unfold convertCorrectC at h
  unfold convertCorrectB
  cases ho : convert aps true nq gs with
  | error e => rw [ho] at h; exact h
  | ok o =>
    rw [ho] at h
    simp only at h ⊢
    cases hcirc : buildCirc c par nq o.plan with
    | error e => rw [hcirc] at h; exact h
    | ok circ =>
      rw [hcirc] at h
      simp only [Bool.and_eq_true, List.all_eq_true, Bool.or_eq_true] at h ⊢
      exact ⟨h.1, fun ib hib out hout => (h.2 ib hib out hout).imp id
        (eqv_permAmp_of_closed hs _ _
          (fun C _ ψ hψ => compileC_same hψ c.i circ.n circ.spec) _ _ _ _ _ _)⟩

end LW.QC
