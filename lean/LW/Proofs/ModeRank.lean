/-
  LW.Proofs.ModeRank — ranks and free positions among sorted lists of modes. For a strictly increasing `A`,
  `bumps A x` is the `x`-th mode outside `A` and `cntLt A y` the number of members below `y`:
  `bumps A x = y ↔ y ∉ A ∧ x + cntLt A y = y` (`bumps_eq_iff`), and `freeOf n A` is `bumps A 0, bumps A 1, …`
  (`freeOf_eq_map_bumps`). Core Lean only.  Namespaces: the `bump` lemmas and the two counting corollaries
  `length_le_of_nodup_lt`, `head_add_length_le` are in `LW.Proofs.C02`, `bumps`, `cntLt`, `freeOf` and their lemmas in
  `LW.Proofs.C02Sem`: a user opens both.
-/
import LW.Proofs.DictLemmas
import LW.Proofs.ListLemmas

namespace LW.Proofs.C02

theorem bump_of_lt {mode a : Nat} (h : a < mode) : bump mode a = a := if_neg (Nat.not_le.mpr h)

theorem bump_of_ge {mode a : Nat} (h : mode ≤ a) : bump mode a = a + 1 := if_pos h

theorem le_bump (mode a : Nat) : a ≤ bump mode a := by
  unfold bump; split <;> omega

theorem bump_le_succ (mode a : Nat) : bump mode a ≤ a + 1 := by
  unfold bump; split <;> omega

theorem bump_lt_succ {mode a n : Nat} (h : a < n) : bump mode a < n + 1 :=
  Nat.lt_succ_of_le (Nat.le_trans (bump_le_succ mode a) h)

theorem bump_mono {mode a b : Nat} (h : a ≤ b) : bump mode a ≤ bump mode b := by
  unfold bump; split <;> split <;> omega

theorem bump_strictMono {mode a b : Nat} (h : a < b) : bump mode a < bump mode b := by
  unfold bump; split <;> split <;> omega

theorem bump_inj {mode a b : Nat} (h : bump mode a = bump mode b) : a = b := by
  unfold bump at h; split at h <;> split at h <;> omega

theorem bump_ne (mode a : Nat) : bump mode a ≠ mode := by
  unfold bump; split <;> omega

end LW.Proofs.C02

namespace LW.Proofs.C02Sem
open LW LW.Proofs.C02

/-- insert modes at `ks`, first to last -/
def bumps (ks : List Nat) (x : Nat) : Nat := ks.foldl (fun x k => bump k x) x

@[simp] theorem bumps_nil (x : Nat) : bumps [] x = x := rfl
@[simp] theorem bumps_cons (k : Nat) (ks : List Nat) (x : Nat) :
    bumps (k :: ks) x = bumps ks (bump k x) := rfl

theorem bumps_append (ks ls : List Nat) (x : Nat) : bumps (ks ++ ls) x = bumps ls (bumps ks x) := by
  unfold bumps; rw [List.foldl_append]

theorem bumps_strictMono (ks : List Nat) {a b : Nat} (h : a < b) : bumps ks a < bumps ks b := by
  induction ks generalizing a b with
  | nil => exact h
  | cons k ks ih => exact ih (bump_strictMono h)

theorem bumps_inj (ks : List Nat) {a b : Nat} (h : bumps ks a = bumps ks b) : a = b := by
  rcases Nat.lt_trichotomy a b with h1 | h1 | h1
  · have := bumps_strictMono ks h1; omega
  · exact h1
  · have := bumps_strictMono ks h1; omega

theorem le_bumps (ks : List Nat) (x : Nat) : x ≤ bumps ks x := by
  induction ks generalizing x with
  | nil => exact Nat.le_refl x
  | cons k ks ih => exact Nat.le_trans (le_bump k x) (ih _)

theorem bumps_le (ks : List Nat) (x : Nat) : bumps ks x ≤ x + ks.length := by
  induction ks generalizing x with
  | nil => exact Nat.le_refl x
  | cons k ks ih =>
    have := ih (bump k x)
    have := bump_le_succ k x
    rw [bumps_cons, List.length_cons]; omega

theorem bumps_of_lt (ks : List Nat) (x : Nat) (h : ∀ k ∈ ks, x < k) : bumps ks x = x := by
  induction ks with
  | nil => rfl
  | cons k ks ih =>
    rw [bumps_cons, bump_of_lt (h k List.mem_cons_self)]
    exact ih fun k' hk' => h k' (List.mem_cons_of_mem _ hk')

/-- the number of members of `ks` below `y` -/
def cntLt (ks : List Nat) (y : Nat) : Nat := (ks.filter fun k => decide (k < y)).length

theorem cntLt_cons (k : Nat) (ks : List Nat) (y : Nat) :
    cntLt (k :: ks) y = (if k < y then 1 else 0) + cntLt ks y := by
  unfold cntLt
  rw [List.filter_cons]
  by_cases h : k < y
  · simp [h]; omega
  · simp [h]

theorem cntLt_le_length (ks : List Nat) (y : Nat) : cntLt ks y ≤ ks.length :=
  List.length_filter_le _ _

theorem cntLt_perm {l1 l2 : List Nat} (h : l1.Perm l2) (y : Nat) : cntLt l1 y = cntLt l2 y :=
  (h.filter _).length_eq

theorem cntLt_sortNat (l : List Nat) (y : Nat) : cntLt (sortNat l) y = cntLt l y :=
  cntLt_perm (perm_sortNat l) y

theorem cntLt_all (l : List Nat) (y : Nat) (h : ∀ k ∈ l, k < y) : cntLt l y = l.length := by
  unfold cntLt
  rw [List.filter_eq_self.mpr fun k hk => decide_eq_true (h k hk)]

theorem cntLt_of_le (l : List Nat) (y : Nat) (h : ∀ k ∈ l, y ≤ k) : cntLt l y = 0 := by
  unfold cntLt
  rw [List.length_eq_zero_iff, List.filter_eq_nil_iff]
  exact fun k hk => by have := h k hk; simp only [decide_eq_true_eq]; omega

theorem cntLt_map (l : List Nat) (f : Nat → Nat) (y y' : Nat) (h : ∀ k ∈ l, f k < y' ↔ k < y) :
    cntLt (l.map f) y' = cntLt l y := by
  unfold cntLt
  rw [List.filter_map, List.length_map]
  exact congrArg List.length (List.filter_congr fun k hk => decide_eq_decide.mpr (h k hk))

theorem cntLt_succ {l : List Nat} (hnd : l.Nodup) (t : Nat) :
    cntLt l (t + 1) = cntLt l t + if t ∈ l then 1 else 0 := by
  induction l with
  | nil => rfl
  | cons a l ih =>
    rw [List.nodup_cons] at hnd
    rw [cntLt_cons, cntLt_cons, ih hnd.2]
    by_cases e : a = t
    · subst e
      rw [if_pos (Nat.lt_succ_self a), if_neg (Nat.lt_irrefl a), if_neg hnd.1, if_pos List.mem_cons_self]
      omega
    · have hm : t ∈ a :: l ↔ t ∈ l := ⟨fun h => (List.mem_cons.mp h).resolve_left (Ne.symm e),
        List.mem_cons_of_mem _⟩
      have hlt : a < t + 1 ↔ a < t := by omega
      simp only [hm, hlt]
      omega

theorem cntLt_add_le {l : List Nat} (hnd : l.Nodup) (y d : Nat) :
    cntLt l (y + d) ≤ cntLt l y + d ∧ (y ∉ l → 0 < d → cntLt l (y + d) < cntLt l y + d) := by
  induction d with
  | zero => exact ⟨Nat.le_refl _, fun _ h => absurd h (Nat.lt_irrefl 0)⟩
  | succ d ih =>
    rw [← Nat.add_assoc, cntLt_succ hnd]
    refine ⟨by split <;> omega, fun hy _ => ?_⟩
    cases d with
    | zero => rw [Nat.add_zero, if_neg hy]; omega
    | succ d => have := ih.2 hy (Nat.succ_pos d); split <;> omega

theorem cntLt_le_self {l : List Nat} (hnd : l.Nodup) (y : Nat) : cntLt l y ≤ y := by
  have := (cntLt_add_le hnd 0 y).1
  rwa [Nat.zero_add, cntLt_of_le l 0 fun _ _ => Nat.zero_le _, Nat.zero_add] at this

theorem _root_.LW.Proofs.C02.length_le_of_nodup_lt (l : List Nat) (n : Nat) (hnd : l.Nodup)
    (hlt : ∀ a ∈ l, a < n) : l.length ≤ n :=
  cntLt_all l n hlt ▸ cntLt_le_self hnd n

theorem _root_.LW.Proofs.C02.head_add_length_le (i : Nat) (t : List Nat) (n : Nat) (hs : (i :: t).Pairwise (· < ·))
    (hn : ∀ a ∈ i :: t, a < n) : i + t.length + 1 ≤ n := by
  have h := (cntLt_add_le (hs.imp Nat.ne_of_lt) i (n - i)).1
  rw [Nat.add_sub_cancel' (Nat.le_of_lt (hn i List.mem_cons_self)), cntLt_all _ n hn, cntLt_of_le _ i fun k hk =>
    (List.mem_cons.mp hk).elim (fun e => e ▸ Nat.le_refl i) fun hk => Nat.le_of_lt (List.rel_of_pairwise_cons hs hk),
    List.length_cons] at h
  omega

theorem rank_lt {l : List Nat} (hnd : l.Nodup) {a1 a2 t1 t2 : Nat} (h1 : a1 + cntLt l t1 = t1)
    (h2 : a2 + cntLt l t2 = t2) (ha : a1 < a2) : t1 < t2 := by
  apply Nat.lt_of_not_le
  intro hc
  have := (cntLt_add_le hnd t2 (t1 - t2)).1
  rw [Nat.add_sub_cancel' hc] at this
  omega

theorem rank_unique {l : List Nat} (hnd : l.Nodup) {a t1 t2 : Nat} (h1 : a + cntLt l t1 = t1)
    (h2 : a + cntLt l t2 = t2) (n1 : t1 ∉ l) (n2 : t2 ∉ l) : t1 = t2 := by
  have key : ∀ {s t : Nat}, a + cntLt l s = s → a + cntLt l t = t → s ∉ l → ¬ s < t := by
    intro s t hs ht hn hlt
    have := (cntLt_add_le hnd s (t - s)).2 hn (by omega)
    rw [Nat.add_sub_cancel' (Nat.le_of_lt hlt)] at this
    omega
  rcases Nat.lt_trichotomy t1 t2 with h | h | h
  · exact absurd h (key h1 h2 n1)
  · exact h
  · exact absurd h (key h2 h1 n2)

theorem bumps_not_mem_of_le (A : List Nat) (hs : A.Pairwise (· ≤ ·)) (x : Nat) : bumps A x ∉ A := by
  induction A generalizing x with
  | nil => exact List.not_mem_nil
  | cons k A ih =>
    rw [bumps_cons, List.mem_cons, not_or]
    refine ⟨?_, ih hs.of_cons _⟩
    by_cases hx : x < k
    · rw [bump_of_lt hx, bumps_of_lt A x fun k' hk' => Nat.lt_of_lt_of_le hx (List.rel_of_pairwise_cons hs hk')]
      omega
    · have := le_bumps A (bump k x)
      rw [bump_of_ge (Nat.le_of_not_lt hx)] at this ⊢
      omega

theorem bumps_not_mem (ks : List Nat) (hs : ks.Pairwise (· < ·)) (x : Nat) : bumps ks x ∉ ks :=
  bumps_not_mem_of_le ks (hs.imp Nat.le_of_lt) x

theorem bumps_rank (A : List Nat) (hs : A.Pairwise (· < ·)) (x : Nat) :
    x + cntLt A (bumps A x) = bumps A x := by
  induction A generalizing x with
  | nil => rfl
  | cons k A ih =>
    have hk : ∀ k' ∈ A, k < k' := fun k' hk' => List.rel_of_pairwise_cons hs hk'
    rw [bumps_cons, cntLt_cons]
    by_cases hx : x < k
    · rw [bump_of_lt hx, bumps_of_lt A x fun k' hk' => Nat.lt_trans hx (hk k' hk'), if_neg (by omega),
        cntLt_of_le A x fun k' hk' => by have := hk k' hk'; omega]
      rfl
    · have := ih hs.of_cons (x + 1)
      have := le_bumps A (x + 1)
      rw [bump_of_ge (Nat.le_of_not_lt hx), if_pos (by omega)]
      omega

theorem bumps_eq_iff {A : List Nat} (hs : A.Pairwise (· < ·)) {x y : Nat} :
    bumps A x = y ↔ y ∉ A ∧ x + cntLt A y = y := by
  have hnd : A.Nodup := hs.imp Nat.ne_of_lt
  have h1 := bumps_not_mem A hs x
  have h2 := bumps_rank A hs x
  exact ⟨fun e => e ▸ ⟨h1, h2⟩, fun ⟨n2, e2⟩ => rank_unique hnd h2 e2 h1 n2⟩

/-- the modes below `n` that are not in `l`, in increasing order -/
def freeOf (n : Nat) (l : List Nat) : List Nat := (List.range n).filter fun m => !l.contains m

theorem mem_freeOf {n : Nat} {l : List Nat} {x : Nat} : x ∈ freeOf n l ↔ x < n ∧ x ∉ l := by
  unfold freeOf
  simp [List.mem_filter]

theorem perm_append_freeOf (n : Nat) (l : List Nat) (hnd : l.Nodup) (hlt : ∀ x ∈ l, x < n) :
    (l ++ freeOf n l).Perm (List.range n) :=
  ((perm_filter_range_contains hnd hlt).symm.append_right _).trans (List.filter_append_perm _ _)

theorem freeOf_sorted (n : Nat) (l : List Nat) : (freeOf n l).Pairwise (· < ·) :=
  List.Pairwise.filter _ List.pairwise_lt_range

theorem freeOf_succ (n : Nat) (l : List Nat) :
    freeOf (n + 1) l = freeOf n l ++ if n ∈ l then [] else [n] := by
  unfold freeOf
  rw [List.range_succ, List.filter_append]
  by_cases h : n ∈ l <;> simp [h]

theorem freeOf_congr (n : Nat) {l l' : List Nat} (h : ∀ x, x ∈ l ↔ x ∈ l') : freeOf n l = freeOf n l' :=
  List.filter_congr fun x _ => by
    rw [Bool.not_inj_iff, Bool.eq_iff_iff, List.contains_iff_mem, List.contains_iff_mem]; exact h x

theorem freeOf_eq_map_bumps {A : List Nat} (hs : A.Pairwise (· < ·)) (n : Nat) :
    freeOf n A = (List.range (n - cntLt A n)).map (bumps A) := by
  have hnd : A.Nodup := hs.imp Nat.ne_of_lt
  induction n with
  | zero => rw [Nat.zero_sub]; rfl
  | succ n ih =>
    have hle := cntLt_le_self hnd n
    rw [freeOf_succ, ih, cntLt_succ hnd]
    by_cases h : n ∈ A
    · rw [if_pos h, if_pos h, List.append_nil, Nat.add_sub_add_right]
    · have e : n + 1 - (cntLt A n + 0) = n - cntLt A n + 1 := by omega
      rw [if_neg h, if_neg h, e, List.range_succ, List.map_append, List.map_singleton,
        (bumps_eq_iff hs).mpr ⟨h, Nat.sub_add_cancel hle⟩]

theorem bumps_range {A : List Nat} (hs : A.Pairwise (· < ·)) {n : Nat} (hlt : ∀ a ∈ A, a < n + A.length)
    {y : Nat} : (y < n + A.length ∧ y ∉ A) ↔ ∃ x, x < n ∧ bumps A x = y := by
  rw [← mem_freeOf, freeOf_eq_map_bumps hs, cntLt_all A _ hlt, Nat.add_sub_cancel, List.mem_map]
  exact exists_congr fun x => and_congr_left fun _ => List.mem_range

theorem freeOf_eq_map_bumps_sortNat {l : List Nat} (hnd : l.Nodup) (n : Nat) :
    freeOf n l = (List.range (n - cntLt l n)).map (bumps (sortNat l)) := by
  rw [freeOf_congr n fun x => (mem_sortNat (l := l)).symm, freeOf_eq_map_bumps (strictSorted_sortNat hnd),
    cntLt_sortNat]

theorem length_freeOf_add_cntLt {l : List Nat} (hnd : l.Nodup) (n : Nat) :
    (freeOf n l).length + cntLt l n = n := by
  rw [freeOf_eq_map_bumps_sortNat hnd, List.length_map, List.length_range,
    Nat.sub_add_cancel (cntLt_le_self hnd n)]

end LW.Proofs.C02Sem
