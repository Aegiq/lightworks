/-
  LW.Proofs.C06Remap — label canonicalisation does not change the grouped distribution: the photon
  groups of the canonical state are a permutation of the groups of the original state, and the
  distribution of the merged output of independent groups does not depend on their order.
-/
import LW.Proofs.C06Pairs

-- the statements of the C06 chain keep the section's instance arguments whether they use them or not
set_option linter.unusedSectionVars false

namespace LW.Proofs.C06

open LW.Src LW.SV

theorem mergeF_right_comm (a b c : FState) : mergeF (mergeF a b) c = mergeF (mergeF a c) b := by
  rw [mergeF_assoc, mergeF_comm b c, ← mergeF_assoc]

section
variable {Q : Type} [Field Q] [LinearOrder Q] [IsStrictOrderedRing Q]

/-- accumulator that may still be absent -/
def mergeO : Option FState → FState → FState
  | none, b => b
  | some a, b => mergeF a b

/-- merged outputs of independent groups, symmetric form -/
def specConvO (ds : List (PDist Q)) (o : Option FState) (F : FState → Q) : Q :=
  match ds with
  | [] => match o with
    | none => 0
    | some a => F a
  | d :: ds => mix d (fun b => specConvO ds (some (mergeO o b)) F)

theorem specConv_eq (ds : List (PDist Q)) (a : FState) (F : FState → Q) :
    specConv ds a F = specConvO ds (some a) F := by
  induction ds generalizing a with
  | nil => rfl
  | cons d ds ih =>
    unfold specConv specConvO
    apply mix_congr
    intro x _
    exact ih _

theorem mixGroups_eq (ds : List (PDist Q)) (F : FState → Q) :
    mixGroups ds F = specConvO ds none F := by
  cases ds with
  | nil => rfl
  | cons d ds =>
    unfold mixGroups specConvO
    apply mix_congr
    intro x _
    exact specConv_eq ds _ F

theorem mergeO_right_comm (o : Option FState) (b c : FState) :
    mergeO (some (mergeO o b)) c = mergeO (some (mergeO o c)) b := by
  cases o with
  | none => exact mergeF_comm b c
  | some a => exact mergeF_right_comm a b c

theorem specConvO_perm {ds ds' : List (PDist Q)} (hp : ds.Perm ds') (o : Option FState)
    (F : FState → Q) : specConvO ds o F = specConvO ds' o F := by
  induction hp generalizing o with
  | nil => rfl
  | cons d _ ih =>
    unfold specConvO
    apply mix_congr
    intro x _
    exact ih _
  | swap d e l =>
    show mix e (fun b => mix d (fun c => specConvO l (some (mergeO (some (mergeO o b)) c)) F)) =
      mix d (fun c => mix e (fun b => specConvO l (some (mergeO (some (mergeO o c)) b)) F))
    rw [mix_comm]
    apply mix_congr
    intro x _
    apply mix_congr
    intro y _
    rw [mergeO_right_comm]
  | trans _ _ ih1 ih2 => rw [ih1, ih2]

theorem mixGroups_perm {ds ds' : List (PDist Q)} (hp : ds.Perm ds') (F : FState → Q) :
    mixGroups ds F = mixGroups ds' F := by
  rw [mixGroups_eq, mixGroups_eq, specConvO_perm hp]

end

theorem labelsOf_nodup (a : AState) : (labelsOf a).Nodup := dedup_nodup _

theorem mem_labelsOf (a : AState) (l : Int) : l ∈ labelsOf a ↔ ∃ row ∈ a.s, l ∈ row := by
  unfold labelsOf
  rw [mem_dedup, List.mem_flatten]

/-- the renaming of `_remap_distribution`: rank of first appearance -/
def rank (a : AState) (m : Int) : Int := ((labelsOf a).idxOf m : Int)

theorem rank_inj (a : AState) {x y : Int} (hx : x ∈ labelsOf a) (h : rank a x = rank a y) : x = y := by
  unfold rank at h
  exact (List.idxOf_inj hx).1 (by exact_mod_cast h)

theorem remapState_s (a : AState) : (remapState a).s = a.s.map fun row => sortInt (row.map (rank a)) := by
  simp only [remapState, AState.new, List.map_map, Function.comp_def]
  rfl

/-- the photon groups of the canonical state are a permutation of the original groups: its photons
are those of the state with the labels renamed by `rank`, which is injective on them, and the rows
sorted -/
theorem groupsOf_remap_perm (n : Nat) (a : AState) :
    (groupsOf n (remapState a)).Perm (groupsOf n a) := by
  rw [groupsOf_eq_groupsP, groupsOf_eq_groupsP, remapState_s]
  refine groupsP_relabel_perm n (rank a) (fun x hx y _ h => rank_inj a ?_ h) ?_
  · rw [pairsFrom_map_snd] at hx
    exact (mem_dedup _ x).2 hx
  · rw [← pairsFrom_map_label]
    exact (List.map_map (f := List.map (rank a)) (g := sortInt) (l := a.s)) ▸
      pairsFrom_map_perm sortInt sortInt_perm 0 _

section Main
variable {K Q : Type} [CommRing K] [Field Q] [LinearOrder Q] [IsStrictOrderedRing Q]

theorem mem_remapDistribution (d : KD AState Q) (x : AState × Q) (hx : x ∈ remapDistribution d) :
    ∃ y ∈ d, x.1 = remapState y.1 := by
  have : x.1 ∈ (remapDistribution d).map (·.1) := List.mem_map.2 ⟨x, hx, rfl⟩
  unfold remapDistribution at this
  rw [mem_ofPairs_keys] at this
  simp only [List.map_map, List.mem_map, Function.comp] at this
  obtain ⟨y, hy, hyx⟩ := this
  exact ⟨y, hy, hyx.symm⟩

theorem remap_preserves_mixture (b : BackendKind) (nsq : K → Q) (eps : Q) (U : M K) (nReal : Nat)
    (d : KD AState Q) (hne : ∀ g : FState, g.length = nReal → fullDist b nsq eps U nReal g ≠ [])
    (F : FState → Q) :
    mix (annotatedPdist b nsq eps U nReal (remapDistribution d)) F =
      mix (annotatedPdist b nsq eps U nReal d) F := by
  rw [mix_annotatedPdist b nsq eps U nReal _ (fun x _ g hg => hne g (groupsOf_len nReal x.1 g hg)),
    mix_annotatedPdist b nsq eps U nReal _ (fun x _ g hg => hne g (groupsOf_len nReal x.1 g hg)),
    mix_remapDistribution]
  apply mix_congr
  intro x _
  exact mixGroups_perm ((groupsOf_remap_perm nReal x.1).map _) F

end Main

end LW.Proofs.C06
