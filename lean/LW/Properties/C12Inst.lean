/-
  C12 — concrete test vectors of the amplitude-level clause `convert_correct_statement`
  (LW/Properties/C12.lean), decided by the kernel over the exact towers.  They rest on the model and
  the executable body `convertCorrectB` of the statement alone, not on the proof of `convert_correct`.
-/
import LW.Proofs.C12InstEval

namespace LW.C12

open LW.QC LW.Gates LW.QF

/-- instances of the amplitude-level clause decided by the kernel over the exact towers
(`convertCorrectB` is the executable body of `convert_correct_statement` for one circuit; the
kernel evaluates `convertCorrectC`, the same with the permanents in closed form, which is sound in
these towers by `convertCorrectB_of_closed`):
`h(0); cx(0,1); cx(2,1)` with both `cx` post-selected (scalar 1/9) … -/
theorem convert_correct_instance_ps :
    convertCorrectB cCZ (fun _ => (0, 0)) true 3 [⟨"h", [0]⟩, ⟨"cx", [0, 1]⟩, ⟨"cx", [2, 1]⟩]
      (TCZ.ofT2 (T2.ofS ⟨4, 2⟩)) = true :=
  convertCorrectB_of_closed hasSem_S6.quad.quad _ _ _ _ _ _ (by decide +kernel)

/-- … and `h(0); cx(1,0)` heralded-only (scalar 1/4, every accepted output covered) -/
theorem convert_correct_instance_heralded :
    convertCorrectB cCZH (fun _ => (0, 0)) false 2 [⟨"h", [0]⟩, ⟨"cx", [1, 0]⟩]
      (TCZH.ofT2 (T2.ofS ⟨9, 2⟩)) = true :=
  convertCorrectB_of_closed hasSem_S6.quad.quad.quad.quad _ _ _ _ _ _ (by decide +kernel)

end LW.C12
