/-
  LW.Proofs.C18Utils — dB ↔ decimal conversion, seeds, random permutation matrices.
-/
import Mathlib.Analysis.SpecialFunctions.Pow.Real
import Mathlib.Analysis.SpecialFunctions.Log.Base
import Mathlib.Data.List.Nodup
import LW.Proofs.MatAlg
import LW.Model.StateVal

namespace LW.SV

/-- the only facts about `10 ** x` and `log10` the conversion laws need -/
structure ExpLogLaws (E : ExpLog ℝ) : Prop where
  log_pow : ∀ x, E.log10 (E.pow10 x) = x
  pow_log : ∀ y, 0 < y → E.pow10 (E.log10 y) = y
  pow_pos : ∀ x, 0 < E.pow10 x
  pow_le_one : ∀ x, x ≤ 0 → E.pow10 x ≤ 1
  log_nonpos : ∀ y, 0 < y → y ≤ 1 → E.log10 y ≤ 0

/-- the real functions the floats approximate -/
noncomputable def realE : ExpLog ℝ := ⟨fun x => (10 : ℝ) ^ x, Real.logb 10⟩

theorem absK_eq_abs (x : ℝ) : absK x = |x| := by
  unfold absK
  split
  next h => rw [abs_of_neg h]
  next h => rw [abs_of_nonneg (not_lt.mp h)]

variable {E : ExpLog ℝ}

theorem dbToDec_eq (E : ExpLog ℝ) (x : ℝ) : dbToDec E x = 1 - E.pow10 (-|x| / 10) := by
  simp only [dbToDec, absK_eq_abs]

theorem dbToDec_range (hE : ExpLogLaws E) (x : ℝ) : 0 ≤ dbToDec E x ∧ dbToDec E x < 1 := by
  rw [dbToDec_eq]
  exact ⟨sub_nonneg.mpr (hE.pow_le_one _
      (div_nonpos_of_nonpos_of_nonneg (neg_nonpos.mpr (abs_nonneg x)) (by norm_num))),
    sub_lt_self 1 (hE.pow_pos _)⟩

theorem dbToDec_neg (E : ExpLog ℝ) (x : ℝ) : dbToDec E (-x) = dbToDec E x := by
  rw [dbToDec_eq, dbToDec_eq, abs_neg]

theorem decToDb_ok (E : ExpLog ℝ) (l : ℝ) (h0 : 0 ≤ l) (h1 : l < 1) :
    decToDb E l = .ok |10 * E.log10 (1 - l)| := by
  rw [decToDb, if_neg (not_or.mpr ⟨not_lt.mpr h0, not_le.mpr h1⟩), absK_eq_abs]

theorem processSeed_real_int (k : Int) : processSeed (.real (k : Rat)) = processSeed (.int k) := by
  simp [processSeed]

theorem perm_range_facts {N : Nat} {σ : List Nat} (hσ : σ.Perm (List.range N)) :
    σ.length = N ∧ (∀ i, i < N → σ.getD i N < N) ∧
    (∀ i j, i < N → j < N → σ.getD i N = σ.getD j N → i = j) := by
  have hl : σ.length = N := hσ.length_eq.trans List.length_range
  have hnd : σ.Nodup := hσ.nodup_iff.mpr List.nodup_range
  refine ⟨hl, fun i hi => ?_, fun i j hi hj h => ?_⟩
  · rw [← List.getElem_eq_getD (h := hl ▸ hi) N]
    exact List.mem_range.mp (hσ.mem_iff.mp (List.getElem_mem _))
  · rw [← List.getElem_eq_getD (h := hl ▸ hi) N, ← List.getElem_eq_getD (h := hl ▸ hj) N] at h
    exact (List.Nodup.getElem_inj_iff hnd).mp h

theorem permRows_get {K : Type} [Zero K] [One K] (N : Nat) (σ : List Nat) {i j : Nat}
    (hi : i < N) (hj : j < N) :
    (permRows N σ : M K).get i j = if σ.getD i N = j then 1 else 0 := by
  unfold permRows
  rw [M.get_ofFn _ hi hj]

/-- `random_permutation` returns a unitary matrix whenever the generator's order is a permutation
of `range(N)` -/
theorem permRows_unitary {K : Type} [CommRing K] [StarRing K] (N : Nat) (σ : List Nat)
    (hσ : σ.Perm (List.range N)) :
    IsUnitary (permRows N σ : M K) := by
  obtain ⟨_, hlt, hinj⟩ := perm_range_facts hσ
  rw [M.isUnitary_iff]
  show (permRows N σ : M K).UN N
  rw [M.UN_iff_rows]
  intro r c hr hc
  rw [Finset.sum_congr rfl (g := fun k => (if σ.getD r N = k then (1 : K) else 0) *
      star (if σ.getD c N = k then (1 : K) else 0)) (fun k hk => by
    rw [permRows_get N σ hr (Finset.mem_range.mp hk), permRows_get N σ hc (Finset.mem_range.mp hk)])]
  rw [sum_delta_left (hlt r hr)]
  by_cases h : r = c
  · subst h; simp
  · have : ¬ σ.getD c N = σ.getD r N := fun hh => h (hinj c r hc hr hh).symm
    rw [if_neg this, if_neg h, star_zero]

theorem permRows_is_permutation {K : Type} [Zero K] [One K] (N : Nat) (σ : List Nat)
    (hσ : σ.Perm (List.range N)) :
    (∀ i j, i < N → j < N → (permRows N σ : M K).get i j = if σ.getD i N = j then 1 else 0) ∧
    (∀ i, i < N → σ.getD i N < N) ∧
    (∀ j, j < N → ∃ i, i < N ∧ σ.getD i N = j ∧ ∀ i', i' < N → σ.getD i' N = j → i' = i) := by
  obtain ⟨hl, hlt, hinj⟩ := perm_range_facts hσ
  refine ⟨fun i j hi hj => permRows_get N σ hi hj, hlt, ?_⟩
  intro j hj
  obtain ⟨i, hi, he⟩ := List.getElem_of_mem (hσ.mem_iff.mpr (List.mem_range.mpr hj))
  have hget : σ.getD i N = j := (List.getElem_eq_getD N).symm.trans he
  exact ⟨i, hl ▸ hi, hget, fun i' hi' h' => hinj i' i hi' (hl ▸ hi) (h'.trans hget.symm)⟩

end LW.SV
