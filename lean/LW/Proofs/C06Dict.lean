/-
  LW.Proofs.C06Dict — insertion-ordered dictionaries `KD α Q` as weighted mixtures,
  `mix d F = Σ_{(k,w) ∈ d} w · F k`.  Accumulating equal keys (`addTo`, `ofPairs`), dropping zero
  weights and taking products (`bind`) are expressed through `mix`, for an arbitrary observable `F`;
  totals are the case `F = 1`, the weight of one key (keys distinct) the case `F = δ`.  A loop of the
  code that accumulates into a dictionary is `KD.ofPairs` of an explicit list, a two-stage loop of
  `bind`; its mixture, keys and signs are then those of the list.

  The model writes this one dictionary several times: `PDist Q` is `KD FState Q`, and `PDist.addTo`,
  `PDist.get?`, `PDist.total`, the merge steps written inline in `slosLayer`, `modeKernel` and
  `outputsDist` and the lookup `slosGet` unfold to `KD.addTo`, `KD.get? · ·|>.getD 0`, `KD.total`.
  The lemmas are stated for `KD` and applied to the others by `exact` or after `show`; `rw` does not
  see through the names.  (`C07.mergeStep` of C07Kernel is the inline merge step under a name; the
  model does not call it and no proof goes through it.)

  This module asks of `Q` what each lemma needs (`Semiring`, `CommSemiring`; an order only for the
  `p > 0` filter and the sign lemmas).  From C06SingleMode on, every lemma of the C06 chain is stated for a linearly ordered field,
  `[Field Q] [LinearOrder Q] [IsStrictOrderedRing Q]`, also where its proof uses neither division nor order.
-/
import Mathlib.Algebra.Order.Field.Basic
import Mathlib.Algebra.BigOperators.Group.List.Basic
import Mathlib.Algebra.BigOperators.Ring.List
import Mathlib.Data.List.Nodup
import Mathlib.Tactic.Ring
import LW.Model.Source
import LW.Proofs.ListSum

namespace LW.Proofs.C06

open LW.Src

def mix {α Q : Type} [Add Q] [Mul Q] [Zero Q] (d : List (α × Q)) (F : α → Q) : Q :=
  (d.map fun x => x.2 * F x.1).sum

theorem total_eq_sum {α Q : Type} [AddCommMonoid Q] (d : KD α Q) : KD.total d = (d.map (·.2)).sum :=
  (foldl_add_map_eq_sum (fun x : α × Q => x.2) d 0).trans (zero_add _)

section Basic
variable {α Q : Type} [Semiring Q]

@[simp] theorem mix_nil (F : α → Q) : mix ([] : List (α × Q)) F = 0 := rfl

@[simp] theorem mix_cons (x : α × Q) (d : List (α × Q)) (F : α → Q) :
    mix (x :: d) F = x.2 * F x.1 + mix d F := by
  simp [mix]

@[simp] theorem mix_append (d e : List (α × Q)) (F : α → Q) :
    mix (d ++ e) F = mix d F + mix e F := by
  simp [mix]

theorem mix_map_key {β : Type} (d : List (β × Q)) (f : β → α) (F : α → Q) :
    mix (d.map fun x => (f x.1, x.2)) F = mix d (fun b => F (f b)) := by
  simp [mix, Function.comp_def]

theorem mix_map {ι : Type} (l : List ι) (k : ι → α) (v : ι → Q) (F : α → Q) :
    mix (l.map fun o => (k o, v o)) F = (l.map fun o => v o * F (k o)).sum := by
  simp [mix, Function.comp_def]

theorem mix_flatMap {β : Type} (d : List β) (f : β → List (α × Q)) (F : α → Q) :
    mix (d.flatMap f) F = (d.map fun b => mix (f b) F).sum := by
  induction d with
  | nil => simp
  | cons b d ih => simp [List.flatMap_cons, ih]

theorem mix_congr (d : List (α × Q)) (F G : α → Q) (h : ∀ x ∈ d, F x.1 = G x.1) :
    mix d F = mix d G := by
  unfold mix
  congr 1
  apply List.map_congr_left
  intro x hx
  rw [h x hx]

theorem sum_eq_mix (d : List (α × Q)) : (d.map (·.2)).sum = mix d (fun _ => 1) := by
  simp [mix]

theorem total_eq_mix (d : KD α Q) : KD.total d = mix d (fun _ => 1) :=
  (total_eq_sum d).trans (sum_eq_mix d)

end Basic

section Comm
variable {α β Q : Type} [CommSemiring Q]

theorem mix_scale (d : List (α × Q)) (c : Q) (F : α → Q) :
    mix (d.map fun x => (x.1, c * x.2)) F = c * mix d F := by
  unfold mix
  rw [List.map_map, ← List.sum_map_mul_left]
  congr 1
  apply List.map_congr_left
  intro a _
  simp only [Function.comp]
  ring

/-- the two-stage experiment: draw `a` from `d`, then `b` from `f a` -/
def bind {γ : Type} (d : List (α × Q)) (f : α → List (γ × Q)) : List (γ × Q) :=
  d.flatMap fun a => (f a.1).map fun b => (b.1, a.2 * b.2)

theorem mix_bind {γ : Type} (d : List (α × Q)) (f : α → List (γ × Q)) (F : γ → Q) :
    mix (bind d f) F = mix d (fun a => mix (f a) F) := by
  unfold bind
  rw [mix_flatMap]
  unfold mix
  congr 1
  apply List.map_congr_left
  intro a _
  exact mix_scale (f a.1) a.2 F

theorem mem_bind {γ : Type} {d : List (α × Q)} {f : α → List (γ × Q)} {y : γ × Q}
    (h : y ∈ bind d f) : ∃ a ∈ d, ∃ b ∈ f a.1, y = (b.1, a.2 * b.2) := by
  obtain ⟨a, ha, hy⟩ := List.mem_flatMap.1 h
  obtain ⟨b, hb, rfl⟩ := List.mem_map.1 hy
  exact ⟨a, ha, b, hb, rfl⟩

theorem mix_product (d : List (α × Q)) (e : List (β × Q)) {γ : Type} (g : α → β → γ) (F : γ → Q) :
    mix (d.flatMap fun a => e.map fun b => (g a.1 b.1, a.2 * b.2)) F =
      mix d (fun a => mix e (fun b => F (g a b))) := by
  have h : (fun a => mix e fun b => F (g a b)) = fun a => mix (e.map fun x => (g a x.1, x.2)) F :=
    funext fun a => (mix_map_key e (g a) F).symm
  rw [h, ← mix_bind]
  simp only [bind, List.map_map, Function.comp_def]

theorem mix_mul_right (d : List (α × Q)) (F : α → Q) (c : Q) :
    mix d (fun a => F a * c) = mix d F * c := by
  unfold mix
  rw [← List.sum_map_mul_right]
  congr 1
  apply List.map_congr_left
  intro a _
  ring

theorem mix_mul_left (d : List (α × Q)) (F : α → Q) (c : Q) :
    mix d (fun a => c * F a) = c * mix d F := by
  rw [mul_comm, ← mix_mul_right]
  exact mix_congr d _ _ fun x _ => mul_comm _ _

theorem mix_const (d : List (α × Q)) (c : Q) : mix d (fun _ => c) = mix d (fun _ => 1) * c := by
  rw [← mix_mul_right]; simp

theorem mix_add (d : List (α × Q)) (F G : α → Q) :
    mix d (fun a => F a + G a) = mix d F + mix d G := by
  induction d with
  | nil => simp
  | cons x d ih => rw [mix_cons, mix_cons, mix_cons, ih]; ring

theorem mix_list_sum {ι : Type} (d : List (β × Q)) (l : List ι)
    (F : ι → β → Q) :
    mix d (fun b => (l.map fun j => F j b).sum) = (l.map fun j => mix d (F j)).sum := by
  induction l with
  | nil => simp [mix]
  | cons x l ih => simp only [List.map_cons, List.sum_cons]; rw [mix_add, ih]

theorem mix_comm (d : List (α × Q)) (e : List (β × Q)) (H : α → β → Q) :
    mix d (fun a => mix e (fun b => H a b)) = mix e (fun b => mix d (fun a => H a b)) := by
  induction d with
  | nil =>
    simp only [mix_nil]
    induction e with
    | nil => rfl
    | cons y e ih => rw [mix_cons, ← ih]; simp
  | cons x d ih =>
    rw [mix_cons, ih]
    have : (fun b => mix (x :: d) fun a => H a b) = fun b => x.2 * H x.1 b + mix d (fun a => H a b) := by
      funext b; rw [mix_cons]
    rw [this, mix_add]
    congr 1
    unfold mix
    rw [← List.sum_map_mul_left]
    congr 1
    apply List.map_congr_left
    intro y _
    ring

end Comm

section Keyed
variable {α Q : Type} [BEq α] [LawfulBEq α]

theorem addTo_keys [Add Q] (d : KD α Q) (k : α) (p : Q) :
    (KD.addTo d k p).map (·.1) = if k ∈ d.map (·.1) then d.map (·.1) else d.map (·.1) ++ [k] :=
  Assoc.keys_upd d k _ p

theorem setTo_keys (d : KD α Q) (k : α) (p : Q) :
    (KD.setTo d k p).map (·.1) = if k ∈ d.map (·.1) then d.map (·.1) else d.map (·.1) ++ [k] :=
  Assoc.keys_upd d k _ p

theorem setTo_of_not_mem (d : KD α Q) (k : α) (p : Q) (h : k ∉ d.map (·.1)) :
    KD.setTo d k p = d ++ [(k, p)] := Assoc.upd_of_not_mem d k _ p h

theorem addTo_keys_nodup [Add Q] (d : KD α Q) (k : α) (p : Q) (hd : (d.map (·.1)).Nodup) :
    ((KD.addTo d k p).map (·.1)).Nodup := Assoc.nodup_keys_upd d k _ p hd

theorem mem_addTo_keys [Add Q] (d : KD α Q) (k : α) (p : Q) (a : α) :
    a ∈ (KD.addTo d k p).map (·.1) ↔ a ∈ d.map (·.1) ∨ a = k := Assoc.mem_keys_upd d k _ p a

omit [LawfulBEq α] in
theorem addTo_ne_nil [Add Q] (d : KD α Q) (k : α) (p : Q) : KD.addTo d k p ≠ [] := by
  unfold KD.addTo
  split
  · rename_i h
    cases d with
    | nil => cases h
    | cons x d => exact List.cons_ne_nil _ _
  · exact List.append_ne_nil_of_right_ne_nil _ (List.cons_ne_nil _ _)

omit [LawfulBEq α] in
theorem foldl_addTo_ne_nil [Add Q] (l : List (α × Q)) (init : KD α Q) (h : init ≠ []) :
    l.foldl (fun d x => KD.addTo d x.1 x.2) init ≠ [] := by
  induction l generalizing init with
  | nil => exact h
  | cons y l ih => exact ih _ (addTo_ne_nil init y.1 y.2)

omit [LawfulBEq α] in
theorem ofPairs_eq_nil_iff [Add Q] (l : List (α × Q)) : KD.ofPairs l = [] ↔ l = [] := by
  constructor
  · intro h
    cases l with
    | nil => rfl
    | cons x l => exact absurd h (foldl_addTo_ne_nil l _ (addTo_ne_nil [] x.1 x.2))
  · rintro rfl; rfl

theorem foldl_addTo_keys_nodup [Add Q] (l : List (α × Q)) (init : KD α Q)
    (h : (init.map (·.1)).Nodup) :
    ((l.foldl (fun d x => KD.addTo d x.1 x.2) init).map (·.1)).Nodup :=
  Assoc.nodup_keys_foldl_upd (ι := α × Q) (·.1) (fun x y => y.2 + x.2) (·.2) l init h

theorem mem_foldl_addTo_keys [Add Q] (l : List (α × Q)) (init : KD α Q) (a : α) :
    a ∈ (l.foldl (fun d x => KD.addTo d x.1 x.2) init).map (·.1) ↔
      a ∈ init.map (·.1) ∨ a ∈ l.map (·.1) :=
  Assoc.mem_keys_foldl_upd (ι := α × Q) (·.1) (fun x y => y.2 + x.2) (·.2) l init a

theorem ofPairs_keys_nodup [Add Q] (l : List (α × Q)) : ((KD.ofPairs l).map (·.1)).Nodup :=
  foldl_addTo_keys_nodup l [] List.nodup_nil

theorem mem_ofPairs_keys [Add Q] (l : List (α × Q)) (a : α) :
    a ∈ (KD.ofPairs l).map (·.1) ↔ a ∈ l.map (·.1) := by
  unfold KD.ofPairs
  rw [mem_foldl_addTo_keys]
  exact or_iff_right List.not_mem_nil

end Keyed

/-! Every loop that accumulates into a dictionary is `foldl addTo` over a list of pairs: a
conditional step selects with `filter`, a nested loop concatenates with `flatMap`. -/

section Folds
variable {α β γ Q : Type} [BEq α] [Add Q]

theorem foldl_ite_addTo (c : β → Prop) [DecidablePred c] (k : β → α) (v : β → Q) (l : List β)
    (init : KD α Q) :
    l.foldl (fun d o => if c o then KD.addTo d (k o) (v o) else d) init =
      ((l.filter fun o => c o).map fun o => (k o, v o)).foldl
        (fun d x => KD.addTo d x.1 x.2) init := by
  induction l generalizing init with
  | nil => rfl
  | cons a l ih =>
    rw [List.foldl_cons, ih]
    by_cases hc : c a
    · rw [if_pos hc, List.filter_cons_of_pos (by simpa using hc)]; rfl
    · rw [if_neg hc, List.filter_cons_of_neg (by simpa using hc)]

theorem foldl_foldl_addTo (cs : List β) (D : β → List γ) (k : β → γ → α) (v : β → γ → Q)
    (init : KD α Q) :
    cs.foldl (fun d c => (D c).foldl (fun d o => KD.addTo d (k c o) (v c o)) d) init =
      (cs.flatMap fun c => (D c).map fun o => (k c o, v c o)).foldl
        (fun d x => KD.addTo d x.1 x.2) init := by
  rw [List.foldl_flatMap]
  congr 1
  funext d c
  rw [List.foldl_map]

end Folds

section Lookup
variable {α Q : Type} [BEq α] [LawfulBEq α] [DecidableEq α] [AddCommMonoid Q]

omit [AddCommMonoid Q] in
theorem get?_cons (x : α × Q) (d : KD α Q) (r : α) :
    KD.get? (x :: d) r = if x.1 = r then some x.2 else KD.get? d r := Assoc.find_cons d r x

omit [AddCommMonoid Q] [DecidableEq α] in
theorem get?_eq_none_of_not_mem (d : KD α Q) (r : α) (h : r ∉ d.map (·.1)) :
    KD.get? d r = none := (Assoc.find_eq_none_iff d r).2 h

theorem getD_ofPairs (l : List (α × Q)) (r : α) :
    (KD.get? (KD.ofPairs l) r).getD 0 = ((l.filter fun x => x.1 = r).map (·.2)).sum :=
  (Assoc.getD_find_foldl_add l [] r).trans (zero_add _)

end Lookup

section KeyedAlg
variable {α Q : Type} [BEq α] [LawfulBEq α] [Semiring Q]

theorem mix_map_upd (k : α) (p : Q) (F : α → Q) (d : KD α Q) (hd : (d.map (·.1)).Nodup) :
    mix (d.map fun x => if x.1 == k then (k, x.2 + p) else x) F =
      mix d F + if k ∈ d.map (·.1) then p * F k else 0 := by
  induction d with
  | nil => simp
  | cons x d ih =>
    simp only [List.map_cons, List.nodup_cons] at hd
    rw [List.map_cons, mix_cons, mix_cons, ih hd.2]
    by_cases hx : x.1 = k
    · have hk : k ∉ d.map (·.1) := hx ▸ hd.1
      simp only [hx, beq_self_eq_true, if_true, List.map_cons, List.mem_cons, true_or, if_neg hk,
        add_zero]
      rw [add_mul, add_right_comm]
    · have hkx : ¬ k = x.1 := fun h => hx h.symm
      simp only [beq_iff_eq, hx, if_false, List.map_cons, List.mem_cons, hkx, false_or]
      rw [add_assoc]

theorem mix_addTo (d : KD α Q) (k : α) (p : Q) (F : α → Q) (hd : (d.map (·.1)).Nodup) :
    mix (KD.addTo d k p) F = mix d F + p * F k := by
  unfold KD.addTo
  by_cases h : d.any (·.1 == k) = true
  · rw [if_pos h, mix_map_upd k p F d hd, if_pos ((Assoc.any_key_iff d k).1 h)]
  · rw [if_neg h]; simp

theorem mix_foldl_addTo (l : List (α × Q)) (init : KD α Q) (F : α → Q)
    (h0 : (init.map (·.1)).Nodup) :
    mix (l.foldl (fun d x => KD.addTo d x.1 x.2) init) F = mix init F + mix l F := by
  induction l generalizing init with
  | nil => simp
  | cons x l ih =>
    rw [List.foldl_cons, ih _ (addTo_keys_nodup init x.1 x.2 h0), mix_addTo _ _ _ _ h0, mix_cons,
      add_assoc]

theorem mix_ofPairs (l : List (α × Q)) (F : α → Q) : mix (KD.ofPairs l) F = mix l F := by
  unfold KD.ofPairs
  rw [mix_foldl_addTo l [] F List.nodup_nil]
  simp

end KeyedAlg

section Read
variable {α Q : Type} [BEq α] [LawfulBEq α] [DecidableEq α] [Semiring Q]

theorem getD_eq_mix (d : KD α Q) (hd : (d.map (·.1)).Nodup) (r : α) :
    (KD.get? d r).getD 0 = mix d (fun k => if k = r then 1 else 0) := by
  induction d with
  | nil => rfl
  | cons x d ih =>
    rw [List.map_cons, List.nodup_cons] at hd
    rw [get?_cons, mix_cons, ← ih hd.2]
    by_cases h : x.1 = r
    · rw [if_pos h, if_pos h, mul_one, get?_eq_none_of_not_mem d r (h ▸ hd.1)]
      exact (add_zero _).symm
    · rw [if_neg h, if_neg h, mul_zero, zero_add]

end Read

section KeyedComm
variable {α β Q : Type} [BEq α] [LawfulBEq α] [CommSemiring Q]

omit [LawfulBEq α] in
/-- the double loop `for (b, w) in cs: for (k, p) in D b: d[k] += w * p` accumulates the two-stage
experiment -/
theorem foldl_foldl_bind (cs : List (β × Q)) (D : β → KD α Q) :
    cs.foldl (fun d c => (D c.1).foldl (fun d o => KD.addTo d o.1 (c.2 * o.2)) d) [] =
      KD.ofPairs (bind cs D) :=
  foldl_foldl_addTo cs (fun c => D c.1) (fun _ o => o.1) (fun c o => c.2 * o.2) []

end KeyedComm

section Ordered
variable {α Q : Type} [Field Q] [LinearOrder Q]

theorem mix_filter_pos (d : List (α × Q)) (F : α → Q) (h : ∀ x ∈ d, 0 ≤ x.2) :
    mix (d.filter fun x => decide (0 < x.2)) F = mix d F :=
  sum_filter_of_zero d (fun x => 0 < x.2) (fun x => x.2 * F x.1) fun x hx hc => by
    rw [le_antisymm (not_lt.1 hc) (h x hx), zero_mul]

theorem mem_filter_pos_nonneg (d : List (α × Q)) :
    ∀ x ∈ d.filter (fun x => decide (0 < x.2)), 0 < x.2 := by
  intro x hx
  have := (List.mem_filter.1 hx).2
  simpa using this

end Ordered

section Normalise
variable {β Q : Type} [Field Q]

theorem sum_map_div_sum (l : List β) (f : β → Q) (h : (l.map f).sum ≠ 0) :
    (l.map fun x => f x / (l.map f).sum).sum = 1 := by
  simp only [div_eq_mul_inv]
  rw [List.sum_map_mul_right, mul_inv_cancel₀ h]

end Normalise

section Sign
variable {α Q : Type} [BEq α] [Field Q] [LinearOrder Q] [IsStrictOrderedRing Q]

theorem addTo_nonneg (d : KD α Q) (s : α) (p : Q) (hd : ∀ x ∈ d, 0 ≤ x.2) (hp : 0 ≤ p) :
    ∀ x ∈ KD.addTo d s p, 0 ≤ x.2 := by
  intro x hx
  rcases Assoc.mem_upd d s _ p hx with hx | ⟨y, hy, rfl⟩ | rfl
  · exact hd x hx
  · exact add_nonneg (hd y hy) hp
  · exact hp

theorem foldl_addTo_nonneg (l : List (α × Q)) (init : KD α Q) (h0 : ∀ x ∈ init, 0 ≤ x.2)
    (hl : ∀ x ∈ l, 0 ≤ x.2) : ∀ x ∈ l.foldl (fun d x => KD.addTo d x.1 x.2) init, 0 ≤ x.2 := by
  induction l generalizing init with
  | nil => exact h0
  | cons y l ih =>
    exact ih _ (addTo_nonneg init y.1 y.2 h0 (hl y List.mem_cons_self))
      (fun x hx => hl x (List.mem_cons_of_mem _ hx))

theorem ofPairs_nonneg (l : List (α × Q)) (hl : ∀ x ∈ l, 0 ≤ x.2) : ∀ x ∈ KD.ofPairs l, 0 ≤ x.2 :=
  foldl_addTo_nonneg l [] (fun _ h => absurd h List.not_mem_nil) hl

end Sign

theorem pdist_total {Q : Type} [Add Q] [Zero Q] (d : PDist Q) : d.total = KD.total d := rfl

end LW.Proofs.C06
