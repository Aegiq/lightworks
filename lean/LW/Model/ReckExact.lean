/-
  LW.Model.ReckExact — exact evaluation of the float operations of `reck_decomposition` on the
  scalars `Q2 = GQ[√2]` (LW.Model.Q2): sign decisions for the tolerances of `check_unitary` /
  `check_null` / `abs(·) < 1e-20`, rational square roots, and the instance `Reck.Num Q2` used by
  the driver.  Core Lean only.

  The theorems of C14 are about every `Reck.Num` that satisfies `NumOk` / `ChecksOk`, and
  `LW.Proofs.C14.complexNum` (the real functions over ℂ) is shown to be one.  `exactNum` is not:
  its `small` is the code's threshold, not a test for zero, and `trig` / `ang` answer `junk` / `0`
  where the value is not representable in `Q2`.  The driver therefore checks on every run that
  the cells it used meet those conditions (`LW.Driver.C14.traceValid`).
-/
import LW.Model.Q2
import LW.Model.Reck

namespace LW
namespace Reck
namespace Exact

open LW.Q2 (ofGQ ofRat)

def ratSign (x : Rat) : Int := if x > 0 then 1 else if x < 0 then -1 else 0

/-- sign of the real number `x + y·√2` (`x, y` rational) -/
def sgn (x y : Rat) : Int :=
  if y == 0 then ratSign x
  else if x == 0 then ratSign y
  else if x > 0 && y > 0 then 1
  else if x < 0 && y < 0 then -1
  else if x > 0 then (if x * x > 2 * y * y then 1 else -1)
  else (if 2 * y * y > x * x then 1 else -1)

/-- real and imaginary part as `x + y√2` -/
def reP (z : Q2) : Rat × Rat := (z.a.re, z.b.re)
def imP (z : Q2) : Rat × Rat := (z.a.im, z.b.im)

/-- `|z|²` as `x + y√2` -/
def normSqP (z : Q2) : Rat × Rat :=
  (z.a.normSq + 2 * z.b.normSq, 2 * (z.a.re * z.b.re + z.a.im * z.b.im))

/-- `x + y√2 < t`, `> t`, `= t` for rational `t` -/
def ltR (v : Rat × Rat) (t : Rat) : Bool := sgn (v.1 - t) v.2 < 0
def gtR (v : Rat × Rat) (t : Rat) : Bool := sgn (v.1 - t) v.2 > 0
def eqR (v : Rat × Rat) (t : Rat) : Bool := sgn (v.1 - t) v.2 == 0

/-! ### exact square roots of rationals -/

def natSqrt? (n : Nat) : Option Nat :=
  let r := Nat.sqrt n
  if r * r == n then some r else none

/-- `√q` when it is rational -/
def ratSqrt? (q : Rat) : Option Rat :=
  if q < 0 then none
  else do
    let n ← natSqrt? q.num.toNat
    let d ← natSqrt? q.den
    some (mkRat n d)

def tenPow (k : Nat) : Rat := mkRat 1 (10 ^ k)

/-- a cell that fails every validity check: marks "not representable exactly" -/
def junk : Reck.Cell Q2 := ⟨0, 0, 0, 0⟩

/-- exact evaluation of `theta = 2*arctan(|u1|/|u0|)`, `phi = angle(u0) - angle(u1)` as
`(cos θ/2, sin θ/2, e^{iθ/2}, e^{iφ})` for Gaussian-rational `u0 ≠ 0`, `u1` whenever all four are
Gaussian rationals; `junk` otherwise (the driver then reports the case as not exactly
representable instead of an answer) -/
def trigGQ (u0 u1 : GQ) : Reck.Cell Q2 :=
  let n0 := u0.normSq
  let n1 := u1.normSq
  let r2 := n0 + n1
  match ratSqrt? (n0 / r2), ratSqrt? (n1 / r2) with
  | some c, some s =>
    -- e^{i·angle u} = u/|u| (and 1 for u = 0: numpy's angle(0) = 0)
    let unit (u : GQ) (nn : Rat) : Option GQ :=
      if nn == 0 then some 1 else (ratSqrt? nn).map fun m => GQ.smul (1 / m) u
    match unit u0 n0, unit u1 n1 with
    | some e0, some e1 =>
      ⟨ofRat c, ofRat s, ofGQ ⟨c, s⟩, ofGQ (e0 * conj e1)⟩
    | _, _ => junk
  | _, _ => junk

def exactNum : Reck.Num Q2 where
  -- the tolerances are compared with `|·|²`: `tenPow 40`, `tenPow 20` are the squares of `1e-20`, `1e-10`
  small z := ltR (normSqP z) (tenPow 40)
  trig u0 u1 := if u0.b == 0 && u1.b == 0 then trigGQ u0.a u1.a else junk
  ang z := if z.b == 0 && z.a.normSq == 1 then z else 0
  -- np.allclose(U^H U, 1, rtol=0, atol=1e-10): |d| ≤ 1e-10 entrywise
  isUnitary U :=
    let P := U.dagger.mul U
    (List.range U.n).all fun r => (List.range U.n).all fun k =>
      let d := P.get r k - (if r = k then 1 else 0)
      !gtR (normSqP d) (tenPow 20)
  -- check_null: off-diagonal `mat[i,j] > 1e-10` (numpy orders complex numbers
  -- lexicographically) or `imag > 1e-10` fails
  isNull U :=
    (List.range U.n).all fun r => (List.range U.n).all fun k =>
      r == k ||
        let z := U.get r k
        !(gtR (reP z) (tenPow 10) || (eqR (reP z) (tenPow 10) && sgn (imP z).1 (imP z).2 > 0)
          || gtR (imP z) (tenPow 10))


end Exact
end Reck
end LW
