/-
  LW.Proofs.C14 — the float operations of `reck_decomposition` instantiated with the real functions
  they approximate (arctan, cos, sin, exp, angle over ℂ), written exactly as in the code, and the
  proof that this instance satisfies `NumOk` / `ChecksOk` (what remains trusted is only that the
  floats approximate them); `map_U_eq` over ℂ; the concrete instances used as non-vacuity witnesses.
-/
import Mathlib.Analysis.SpecialFunctions.Trigonometric.Arctan
import Mathlib.Analysis.SpecialFunctions.Complex.Arg
import Mathlib.Analysis.Complex.Trigonometric
import LW.Proofs.C14ReckMap

open Matrix

namespace LW.Proofs.C14

open LW.Reck Complex

/-- `theta = 2*arctan(|u1|/|u0|)` -/
noncomputable def thetaOf (u0 u1 : ℂ) : ℝ := 2 * Real.arctan (‖u1‖ / ‖u0‖)
/-- `phi = angle(u0) - angle(u1)` -/
noncomputable def phiOf (u0 u1 : ℂ) : ℝ := Complex.arg u0 - Complex.arg u1

open Classical in
/-- the operations of the code over the complex numbers: `cos(theta/2)`, `sin(theta/2)`,
`exp(1j*theta/2)`, `exp(1j*phi)`, `exp(1j*angle(z))`; thresholds idealised to exact tests -/
noncomputable def complexNum : Num ℂ where
  small z := decide (z = 0)
  trig u0 u1 :=
    ⟨(Real.cos (thetaOf u0 u1 / 2) : ℂ), (Real.sin (thetaOf u0 u1 / 2) : ℂ),
     Complex.exp (I * (thetaOf u0 u1 : ℂ) / 2), Complex.exp (I * (phiOf u0 u1 : ℂ))⟩
  ang z := Complex.exp (I * (Complex.arg z : ℂ))
  isUnitary V := decide (V.toMatN V.n ∈ Matrix.unitaryGroup (Fin V.n) ℂ)
  isNull V := decide (∀ r k : Fin V.n, r ≠ k → V.toMatN V.n r k = 0)

theorem imagUnit_I : IsImagUnit Complex.I := ⟨Complex.I_mul_I, Complex.conj_I⟩

theorem exp_I_unit (x : ℝ) : Complex.exp (I * (x : ℂ)) * star (Complex.exp (I * (x : ℂ))) = 1 := by
  have h : star (Complex.exp (I * (x : ℂ))) = Complex.exp (-(I * (x : ℂ))) := by
    rw [Complex.star_def, ← Complex.exp_conj]
    congr 1
    simp [Complex.conj_ofReal]
  rw [h, ← Complex.exp_add, add_neg_cancel, Complex.exp_zero]

theorem half_theta (u0 u1 : ℂ) : thetaOf u0 u1 / 2 = Real.arctan (‖u1‖ / ‖u0‖) := by
  unfold thetaOf; ring

theorem complexNum_ok : NumOk Complex.I complexNum := by
  refine ⟨?_, ?_, ?_, ?_⟩
  · intro z hz
    exact of_decide_eq_true hz
  · intro u0 u1 _
    refine ⟨?_, ?_, ?_, ?_, ?_⟩
    · simp only [complexNum]
      exact Complex.conj_ofReal _
    · simp only [complexNum]
      exact Complex.conj_ofReal _
    · simp only [complexNum]
      rw [← Complex.ofReal_mul, ← Complex.ofReal_mul, ← Complex.ofReal_add, ← sq, ← sq,
        Real.cos_sq_add_sin_sq]
      exact Complex.ofReal_one
    · simp only [complexNum]
      rw [show I * (thetaOf u0 u1 : ℂ) / 2 = ((thetaOf u0 u1 / 2 : ℝ) : ℂ) * I by push_cast; ring,
        Complex.exp_mul_I, ← Complex.ofReal_cos, ← Complex.ofReal_sin]
      ring
    · exact exp_I_unit _
  · intro u0 u1 hs
    have hu0 : u0 ≠ 0 := by
      intro h
      simp [complexNum, h] at hs
    have hn0 : ‖u0‖ ≠ 0 := norm_ne_zero_iff.mpr hu0
    simp only [complexNum]
    rw [half_theta]
    set x := ‖u1‖ / ‖u0‖ with hx
    have hcos := Real.cos_arctan_pos x
    have hsin : Real.sin (Real.arctan x) = x * Real.cos (Real.arctan x) := by
      have := Real.tan_arctan x
      rw [Real.tan_eq_sin_div_cos] at this
      field_simp at this
      linarith
    have hsu : Real.sin (Real.arctan x) * ‖u0‖ = Real.cos (Real.arctan x) * ‖u1‖ := by
      rw [hsin, hx]; field_simp
    have e0 := Complex.norm_mul_exp_arg_mul_I u0
    have e1 := Complex.norm_mul_exp_arg_mul_I u1
    have hp : star (Complex.exp (I * (phiOf u0 u1 : ℂ))) =
        Complex.exp (-(Complex.arg u0 : ℂ) * I) * Complex.exp ((Complex.arg u1 : ℂ) * I) := by
      rw [Complex.star_def, ← Complex.exp_conj, ← Complex.exp_add]
      congr 1
      simp [phiOf, Complex.conj_ofReal]
      ring
    rw [hp]
    have hsuC : (Real.sin (Real.arctan x) : ℂ) * (‖u0‖ : ℂ) =
        (Real.cos (Real.arctan x) : ℂ) * (‖u1‖ : ℂ) := by exact_mod_cast hsu
    have hcancel : Complex.exp (-(Complex.arg u0 : ℂ) * I) * Complex.exp ((Complex.arg u0 : ℂ) * I) = 1 := by
      rw [← Complex.exp_add]; simp
    -- with `u = |u|·e^{i·arg u}` both sides are `cos·|u1|·e^{i·arg u1}`
    generalize Complex.exp (-(Complex.arg u0 : ℂ) * I) = E0' at hcancel ⊢
    generalize Complex.exp ((Complex.arg u0 : ℂ) * I) = E0 at e0 hcancel
    generalize Complex.exp ((Complex.arg u1 : ℂ) * I) = E1 at e1 ⊢
    linear_combination (-(Real.cos (Real.arctan x) : ℂ)) * e1
      + (E0' * E1 * (Real.sin (Real.arctan x) : ℂ)) * e0 - E1 * hsuC
      - (E1 * (Real.sin (Real.arctan x) : ℂ) * (‖u0‖ : ℂ)) * hcancel
  · intro z hz
    simp only [complexNum]
    have hnorm : ‖z‖ = 1 := by
      have h1 : (Complex.normSq z : ℂ) = 1 := by rw [← Complex.mul_conj]; exact hz
      have h2 : Complex.normSq z = 1 := by exact_mod_cast h1
      rw [Complex.normSq_eq_norm_sq] at h2
      exact (pow_eq_one_iff_of_nonneg (norm_nonneg z) two_ne_zero).mp h2
    have := Complex.norm_mul_exp_arg_mul_I z
    rw [hnorm] at this
    simp only [Complex.ofReal_one, one_mul] at this
    rw [mul_comm]
    exact this

theorem complexNum_checks : ChecksOk complexNum := by
  classical
  refine ⟨fun V h => ?_, fun V h => ?_⟩
  · simp only [complexNum]; exact decide_eq_true h
  · simp only [complexNum]; exact decide_eq_true h

noncomputable def rtHalfC : ℂ := ((Real.sqrt 2 / 2 : ℝ) : ℂ)

theorem rtHalfC_sq : 2 * (rtHalfC * rtHalfC) = 1 := by
  unfold rtHalfC
  have h : Real.sqrt 2 * Real.sqrt 2 = 2 := Real.mul_self_sqrt (by norm_num)
  have : (2 * ((Real.sqrt 2 / 2) * (Real.sqrt 2 / 2)) : ℝ) = 1 := by
    linear_combination (1 / 2 : ℝ) * h
  exact_mod_cast this

theorem rtHalfC_real : star rtHalfC = rtHalfC := by
  unfold rtHalfC
  rw [Complex.star_def, Complex.conj_ofReal]

end LW.Proofs.C14

-- `Complex` is not open from here on: the witnesses write `Complex.I`
namespace LW.Proofs.C14

open LW.Reck

theorem map_U_eq_complex (src : Src ℂ) (hn : src.U.n = src.n)
    (hU : src.U.toMatN src.n ∈ Matrix.unitaryGroup (Fin src.n) ℂ)
    (hH : HeraldsOk src.n src.inHer src.outHer) :
    ∃ c', Reck.map complexNum (EM.ideal rtHalfC) Complex.I src = .ok c' ∧ c'.n = src.n ∧
      c'.inHer = src.inHer ∧ c'.outHer = src.outHer ∧
      ∀ r k, r < src.n → k < src.n → (c'.U Complex.I).get r k = src.U.get r k :=
  map_U_eq imagUnit_I rtHalfC_sq rtHalfC_real complexNum_ok complexNum_checks src hn hU hH

noncomputable def exU : M ℂ :=
  M.ofFn 2 fun r k =>
    if r = 0 ∧ k = 0 then 3 / 5 else if r = 0 ∧ k = 1 then 4 / 5 * Complex.I
    else if r = 1 ∧ k = 0 then 4 / 5 * Complex.I else 3 / 5

noncomputable def exSrc : Src ℂ := ⟨2, exU, [(0, 1)], [(1, 1)]⟩

theorem exU_toMatN : exU.toMatN 2 = !![3 / 5, 4 / 5 * Complex.I; 4 / 5 * Complex.I, 3 / 5] := by
  unfold exU M.toMatN
  ext r k
  rw [M.get_ofFn _ r.2 k.2]
  fin_cases r <;> fin_cases k <;> simp

theorem exSrc_unitary : exSrc.U.toMatN exSrc.n ∈ Matrix.unitaryGroup (Fin exSrc.n) ℂ := by
  show exU.toMatN 2 ∈ Matrix.unitaryGroup (Fin 2) ℂ
  have h35 : star (3 / 5 : ℂ) = 3 / 5 := by rw [Complex.star_def, map_div₀, map_ofNat, map_ofNat]
  have h45 : star (4 / 5 * Complex.I : ℂ) = -(4 / 5 * Complex.I) := by
    rw [star_mul', Complex.star_def, Complex.conj_I, map_div₀, map_ofNat, map_ofNat]; ring
  rw [exU_toMatN, Matrix.mem_unitaryGroup_iff]
  ext r k
  fin_cases r <;> fin_cases k <;>
    simp only [Fin.zero_eta, Fin.mk_one, Fin.isValue, Matrix.mul_apply, Fin.sum_univ_two,
      Matrix.star_apply, Matrix.of_apply, Matrix.cons_val', Matrix.cons_val_zero,
      Matrix.cons_val_one, Matrix.empty_val', Matrix.cons_val_fin_one, h35, h45,
      Matrix.one_apply_eq, ne_eq, zero_ne_one, one_ne_zero, not_false_eq_true, Matrix.one_apply_ne]
  · linear_combination (-16 / 25 : ℂ) * Complex.I_mul_I
  · ring
  · ring
  · linear_combination (-16 / 25 : ℂ) * Complex.I_mul_I

theorem exSrc_heralds : HeraldsOk exSrc.n exSrc.inHer exSrc.outHer := by
  refine ⟨rfl, ?_, ?_, ?_, ?_, ?_⟩
  · intro io hio; simp [exSrc] at hio; subst hio; rfl
  · simp [exSrc, Dict.keys]
  · simp [exSrc, Dict.keys]
  · intro k hk; simp [exSrc, Dict.keys] at hk; subst hk; decide
  · intro k hk; simp [exSrc, Dict.keys] at hk; subst hk; decide

/-- theta/2 from the 3-4-5 triangle, phi = pi/2 -/
noncomputable def exCell : Cell ℂ := ⟨3 / 5, 4 / 5, 3 / 5 + Complex.I * (4 / 5), Complex.I⟩

theorem exCell_ok : CellOk Complex.I exCell := by
  refine ⟨?_, ?_, ?_, rfl, ?_⟩
  · simp [exCell]
  · simp [exCell]
  · simp [exCell]; norm_num
  · simp [exCell]

end LW.Proofs.C14
