/-
  LW.Proofs.CompMat — the matrices of the components, entrywise: the matrix `permF t n` of a function on modes
  (`permMat σ n` is `permF (Dict.fn σ) n`) and how it acts when `t` permutes the modes below a bound; entries of
  `embed2`, `embed1`, `embedBlock` and products with an embedded 2×2 block.
-/
import LW.Proofs.MatAlg
import LW.Proofs.SwapDict

open scoped BigOperators

namespace LW

variable {K : Type}

section PermF
variable [CommRing K]

def permF (t : Nat → Nat) (n : Nat) : M K := M.ofFn n fun r c => if t c = r then 1 else 0

theorem permMat_eq_permF (σ : Dict) (n : Nat) :
    (permMat σ n : M K) = permF (Dict.fn σ) n := rfl

theorem isOfFn_permF (t : Nat → Nat) (n : Nat) : (permF t n : M K).IsOfFn := M.isOfFn_ofFn _ _

@[simp] theorem permF_n (t : Nat → Nat) (n : Nat) : (permF t n : M K).n = n := rfl

theorem get_permF (t : Nat → Nat) {n r c : Nat} (hr : r < n) (hc : c < n) :
    (permF t n : M K).get r c = if t c = r then 1 else 0 := by
  rw [permF, M.get_ofFn _ hr hc]

theorem permF_mul_one_get (t : Nat → Nat) {n r c : Nat} (hr : r < n) (hc : c < n) :
    ((permF t n : M K).mul (M.one n)).get r c = if t c = r then 1 else 0 :=
  (M.get_mul_one _ rfl hr hc).trans (get_permF t hr hc)

variable {n N : Nat} {t g : Nat → Nat}

theorem permF_mul_get (h : PermBelow n t g) (hN : n ≤ N) (A : M K) {r c : Nat}
    (hr : r < N) (hc : c < N) : ((permF t N).mul A).get r c = A.get (g r) c := by
  have hg := h.symm.lt hN hr
  rw [M.get_mul _ _ hr hc, permF_n, Finset.sum_eq_single_of_mem (g r) (Finset.mem_range.mpr hg)]
  · rw [get_permF t hr hg, if_pos (h.right r), one_mul]
  · intro k hk hne
    rw [get_permF t hr (Finset.mem_range.mp hk), if_neg (fun e => hne (by rw [← e, h.left])),
      zero_mul]

theorem mul_permF_get (t : Nat → Nat) (A : M K) (hA : A.n = N) {r c : Nat} (hr : r < N)
    (hc : c < N) (ht : t c < N) : (A.mul (permF t N)).get r c = A.get r (t c) := by
  subst hA
  rw [M.get_mul _ _ hr hc, Finset.sum_eq_single_of_mem (t c) (Finset.mem_range.mpr ht)]
  · rw [get_permF t ht hc, if_pos rfl, mul_one]
  · intro k hk hne
    rw [get_permF t (Finset.mem_range.mp hk) hc, if_neg (Ne.symm hne), mul_zero]

theorem permF_mul_permF {t1 : Nat → Nat} (h1 : ∀ c, c < N → t1 c < N)
    (t2 : Nat → Nat) : ((permF t2 N).mul (permF t1 N) : M K) = permF (fun c => t2 (t1 c)) N := by
  refine M.ext_get (M.isOfFn_mul _ _) (isOfFn_permF _ _) rfl ?_
  intro r c hr hc
  simp only [M.mul_n, permF_n] at hr hc
  rw [mul_permF_get (N := N) t1 (permF t2 N : M K) rfl hr hc (h1 c hc),
    get_permF t2 hr (h1 c hc), get_permF _ hr hc]

/- the next two are stated with `σ.getD k k` (which is `Dict.fn σ k`) for the gate tables of C13Field, whose
rewrites meet the model's spelling -/
theorem get_mul_permMat {n : Nat} (σ : Dict) (X : M K) (hX : X.n = n) {r k : Nat} (hr : r < n)
    (hk : k < n) (hσ : σ.getD k k < n) : (X.mul (permMat σ n)).get r k = X.get r (σ.getD k k) :=
  mul_permF_get _ X hX hr hk hσ

theorem get_permMat_transpose_mul {n : Nat} (σ : Dict) (X : M K) {r k : Nat} (hr : r < n)
    (hk : k < n) (hσ : σ.getD r r < n) :
    ((permMat σ n : M K).transpose.mul X).get r k = X.get (σ.getD r r) k := by
  have e : ((permMat σ n : M K).transpose).n = n := rfl
  have ht : ∀ j, j < n → (permMat σ n : M K).transpose.get r j = if σ.getD r r = j then 1 else 0 := by
    intro j hj
    show (M.ofFn n fun i j => (permMat σ n : M K).get j i).get r j = _
    rw [M.get_ofFn _ hr hj, permMat, M.get_ofFn _ hj hr]
  rw [M.get_mul _ _ (by rw [e]; exact hr) (by rw [e]; exact hk), e,
    Finset.sum_eq_single_of_mem _ (Finset.mem_range.mpr hσ)]
  · rw [ht _ hσ, if_pos rfl, one_mul]
  · intro j hj hne
    rw [ht _ (Finset.mem_range.mp hj), if_neg (Ne.symm hne), zero_mul]

end PermF

section Embed
variable [CommRing K] {n N : Nat} {t g : Nat → Nat}

@[simp] theorem embed2_n (n m1 m2 : Nat) (a b c d : K) : (embed2 n m1 m2 a b c d).n = n := rfl
@[simp] theorem embed1_n (n m : Nat) (p : K) : (embed1 n m p).n = n := rfl
@[simp] theorem embedBlock_n (n m : Nat) (u : M K) : (embedBlock n m u).n = n := rfl
@[simp] theorem permMat_n (σ : Dict) (n : Nat) : (permMat σ n : M K).n = n := rfl

theorem get_embed2 (m1 m2 : Nat) (a b c d : K) {r k : Nat} (hr : r < n) (hk : k < n) :
    (embed2 n m1 m2 a b c d).get r k =
      if r = m1 ∧ k = m1 then a else if r = m1 ∧ k = m2 then b
      else if r = m2 ∧ k = m1 then c else if r = m2 ∧ k = m2 then d
      else if r = k then 1 else 0 := by
  rw [embed2, M.get_ofFn _ hr hk]

theorem get_embed1 (m : Nat) (p : K) {r k : Nat} (hr : r < n) (hk : k < n) :
    (embed1 n m p).get r k = if r = k then (if r = m then p else 1) else 0 := by
  rw [embed1, M.get_ofFn _ hr hk]

theorem get_embedBlock (m : Nat) (u : M K) {r k : Nat} (hr : r < n) (hk : k < n) :
    (embedBlock n m u).get r k =
      if m ≤ r ∧ r < m + u.n ∧ m ≤ k ∧ k < m + u.n then u.get (r - m) (k - m)
      else if r = k then 1 else 0 := by
  rw [embedBlock, M.get_ofFn _ hr hk]

theorem one_get_perm (h : PermBelow n t g) (hN : n ≤ N) {r k : Nat} (hr : r < N) (hk : k < N) :
    (M.one N : M K).get (t r) (t k) = (M.one N : M K).get r k := by
  rw [M.get_one (h.lt hN hr) (h.lt hN hk), M.get_one hr hk]
  simp only [h.eq_iff]

theorem get_embedBlock_mul {n m : Nat} (u X : M K) (hm : m + u.n ≤ n)
    {r c : Nat} (hr : r < n) (hc : c < n) :
    ((embedBlock n m u).mul X).get r c =
      if m ≤ r ∧ r < m + u.n then ∑ j ∈ Finset.range u.n, u.get (r - m) j * X.get (m + j) c
      else X.get r c := by
  have hn : (embedBlock n m u).n = n := rfl
  rw [M.get_mul _ _ (by rw [hn]; exact hr) (by rw [hn]; exact hc), hn]
  split_ifs with hb
  · rw [← Finset.sum_subset (s₁ := (Finset.range u.n).image (m + ·))]
    · rw [Finset.sum_image fun a _ b _ e => Nat.add_left_cancel e]
      apply Finset.sum_congr rfl
      intro j hj
      have hj' := Finset.mem_range.mp hj
      rw [get_embedBlock _ _ hr (by omega), if_pos (by omega), Nat.add_sub_cancel_left]
    · intro k hk
      obtain ⟨j, hj, rfl⟩ := Finset.mem_image.mp hk
      have := Finset.mem_range.mp hj
      exact Finset.mem_range.mpr (by omega)
    · intro k hk hnk
      have hkn := Finset.mem_range.mp hk
      have hout : ¬ (m ≤ k ∧ k < m + u.n) := fun h => hnk (Finset.mem_image.mpr
        ⟨k - m, Finset.mem_range.mpr (by omega), by omega⟩)
      rw [get_embedBlock _ _ hr hkn, if_neg (by omega), if_neg (by omega), zero_mul]
  · rw [Finset.sum_eq_single_of_mem r (Finset.mem_range.mpr hr)]
    · rw [get_embedBlock _ _ hr hr, if_neg (by omega), if_pos rfl, one_mul]
    · intro k hk hne
      rw [get_embedBlock _ _ hr (Finset.mem_range.mp hk), if_neg (by omega), if_neg (Ne.symm hne),
        zero_mul]

theorem get_embedBlock2_mul {n m : Nat} (h X : M K) (hh : h.n = 2) (hm : m + 2 ≤ n) {r c : Nat}
    (hr : r < n) (hc : c < n) :
    ((embedBlock n m h).mul X).get r c =
      if m ≤ r ∧ r < m + 2 then h.get (r - m) 0 * X.get m c + h.get (r - m) 1 * X.get (m + 1) c
      else X.get r c := by
  rw [get_embedBlock_mul h X (by rw [hh]; exact hm) hr hc, hh, Finset.sum_range_succ,
    Finset.sum_range_one]
  rfl

theorem get_mul_embedBlock2 {n m : Nat} (h X : M K) (hh : h.n = 2) (hX : X.n = n) (hm : m + 2 ≤ n)
    {r c : Nat} (hr : r < n) (hc : c < n) :
    (X.mul (embedBlock n m h)).get r c =
      if m ≤ c ∧ c < m + 2 then X.get r m * h.get 0 (c - m) + X.get r (m + 1) * h.get 1 (c - m)
      else X.get r c := by
  rw [M.get_mul _ _ (by rw [hX]; exact hr) (by rw [hX]; exact hc), hX]
  have he : ∀ k, k < n → (embedBlock n m h).get k c =
      if m ≤ k ∧ k < m + 2 ∧ m ≤ c ∧ c < m + 2 then h.get (k - m) (c - m)
      else if k = c then 1 else 0 := fun k hk => by rw [get_embedBlock _ _ hk hc, hh]
  split_ifs with hb
  · rw [Finset.sum_eq_add_of_mem m (m + 1) (Finset.mem_range.mpr (by omega))
      (Finset.mem_range.mpr (by omega)) (by omega)]
    · rw [he m (by omega), he (m + 1) (by omega), if_pos (by omega), if_pos (by omega),
        Nat.sub_self, Nat.add_sub_cancel_left]
    · intro k hk hne
      rw [he k (Finset.mem_range.mp hk), if_neg (by omega), if_neg (by omega), mul_zero]
  · rw [Finset.sum_eq_single_of_mem c (Finset.mem_range.mpr hc)]
    · rw [he c hc, if_neg (by omega), if_pos rfl, mul_one]
    · intro k hk hne
      rw [he k (Finset.mem_range.mp hk), if_neg (by omega), if_neg hne, mul_zero]

end Embed

end LW
