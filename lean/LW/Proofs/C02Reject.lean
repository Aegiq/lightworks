/-
  LW.Proofs.C02Reject — C02: which additions `add` accepts and what it then returns: at a port, the
  two range checks together ask that the user-visible span fits on the ports (`add_eq_of_port`);
  anywhere else `add` raises (`add_error_of_not_port`); `add_accepts_iff`.
-/
import LW.Proofs.C02AddShape
namespace LW.Proofs.C02
variable {K : Type}

theorem length_split (l : List Nat) (x : Nat) (hx : x ∉ l) :
    l.length = C02Sem.cntLt l x + (l.filter fun a => decide (x < a)).length := by
  unfold C02Sem.cntLt
  induction l with
  | nil => rfl
  | cons a t ih =>
    have hax : a ≠ x := fun e => hx (by simp [e])
    have := ih (fun h => hx (by simp [h]))
    by_cases h1 : a < x
    · have h2 : ¬ x < a := by omega
      simp only [List.filter_cons, h1, h2, decide_true, decide_false, if_true, List.length_cons]
      simp only [Bool.false_eq_true, if_false]
      omega
    · have h2 : x < a := by omega
      simp only [List.filter_cons, h1, h2, decide_true, decide_false, if_true, List.length_cons]
      simp only [Bool.false_eq_true, if_false]
      omega

theorem mapMode_count (c : Circ K) (hwf : c.WF) (m : Int) (hm : 0 ≤ m) :
    (c.mapMode m).toNat = m.toNat + C02Sem.cntLt (sortNat c.internal) (c.mapMode m).toNat ∧
    (c.mapMode m).toNat ∉ sortNat c.internal := by
  have h1 := C02Sem.bumps_not_mem_of_le _ (sorted_sortNat c.internal) m.toNat
  have h2 := C02Sem.bumps_rank _ (strictSorted_sortNat hwf.intNodup) m.toNat
  have e : c.mapMode m = (C02Sem.bumps (sortNat c.internal) m.toNat : Nat) := by
    rw [C02Sem.natCast_bumps, Int.toNat_of_nonneg hm]; rfl
  rw [e, Int.toNat_natCast]
  exact ⟨h2.symm, h1⟩

theorem modeInRange_mapMode (c : Circ K) (hwf : c.WF) (m : Int) (hm0 : 0 ≤ m)
    (hmp : m < (c.ports : Int)) : c.modeInRange (c.mapMode m) = .ok (c.mapMode m).toNat := by
  have hR1 : c.mapMode m < (c.n : Int) := (mapMode_lt_iff' c hwf m).mpr hmp
  have hR0 : m ≤ c.mapMode m := le_skipFold _ m
  unfold Circ.modeInRange
  rw [if_pos ⟨by omega, hR1⟩]

section
variable [Zero K] [One K]

/-- every ancilla of the parent above `mode` is passed through if the added circuit would otherwise
reach beyond the parent -/
theorem ptTargets_length_ge (n0 h mode : Nat) (l : List Nat) (hs : l.Pairwise (· < ·))
    (hlt : ∀ a ∈ l, a < n0) (hne : mode ∉ l) (n : Nat) (H : Dict) (hnd : H.keys.Nodup)
    (hH : H.keys.length = h)
    (hA : mode + n + (l.filter fun a => decide (mode < a)).length > n0 + h) :
    mode + (n + (ptTargets mode l n H).length) > n0 + h := by
  induction l generalizing n H with
  | nil => simpa [ptTargets] using hA
  | cons i t ih =>
    obtain ⟨b1, b2, b3⟩ := targetOf_bounds H.keys ((i : Int) - (mode : Int))
    rw [hH] at b2
    have hne' : mode ∉ t := fun hh => hne (by simp [hh])
    have hi : i ≠ mode := fun e => hne (by simp [e])
    rw [ptTargets]
    by_cases him : i < mode
    · rw [if_neg (by have := b3 (by omega); omega)]
      apply ih hs.of_cons (fun a ha => hlt a (by simp [ha])) hne' n H hnd hH
      have : ¬ mode < i := by omega
      simpa [List.filter_cons, this] using hA
    · have him' : mode < i := by omega
      have hft : t.filter (fun a => decide (mode < a)) = t := List.filter_eq_self.mpr fun a ha => by
        have := List.rel_of_pairwise_cons hs ha
        simp only [decide_eq_true_eq]; omega
      have hlen := head_add_length_le i t n0 hs hlt
      have hA' : mode + n + (t.length + 1) > n0 + h := by
        simpa [List.filter_cons, him', hft] using hA
      have hH' : (bumpDict (targetOf H.keys ((i : Int) - (mode : Int))).toNat H).keys =
          H.keys.map (bump (targetOf H.keys ((i : Int) - (mode : Int))).toNat) := by
        rw [bumpDict_of_nodup hnd, keys_mapKeys]
      rw [if_pos (by omega), List.length_cons]
      have := ih hs.of_cons (fun a ha => hlt a (by simp [ha])) hne' (n + 1) _
        (hH' ▸ nodup_map_of_inj (fun a b => bump_inj) hnd) (by rw [hH', List.length_map, hH])
        (by rw [hft]; omega)
      omega

/-- at most the ancillas above `mode` are passed through -/
theorem ptTargets_length_le (mode : Nat) (l : List Nat) (hne : mode ∉ l) (n : Nat) (H : Dict) :
    (ptTargets mode l n H).length ≤ (l.filter fun a => decide (mode < a)).length := by
  induction l generalizing n H with
  | nil => exact Nat.le_refl 0
  | cons i t ih =>
    have hne' : mode ∉ t := fun hh => hne (List.mem_cons_of_mem _ hh)
    rw [ptTargets, List.filter_cons]
    split
    · rename_i hc
      obtain ⟨-, -, b3⟩ := targetOf_bounds H.keys ((i : Int) - (mode : Int))
      have him : mode < i := Decidable.byContradiction fun hcon => by
        have : i ≠ mode := fun e => hne (e ▸ List.mem_cons_self)
        have := b3 (by omega); omega
      rw [if_pos (decide_eq_true him)]
      exact Nat.succ_le_succ (ih hne' _ _)
    · split
      · exact Nat.le_succ_of_le (ih hne' _ _)
      · exact ih hne' _ _

/-- the second range check of `add`, on the counts: the added circuit with its pass-through modes
fits iff it fits beside all the parent's ancillas above `mode` -/
theorem ptTargets_fit_iff (n0 h mode : Nat) (l : List Nat) (hs : l.Pairwise (· < ·))
    (hlt : ∀ a ∈ l, a < n0) (hne : mode ∉ l) (n : Nat) (H : Dict) (hnd : H.keys.Nodup)
    (hH : H.keys.length = h) :
    mode + (n + (ptTargets mode l n H).length) ≤ n0 + h ↔
      mode + n + (l.filter fun a => decide (mode < a)).length ≤ n0 + h := by
  constructor
  · intro h1
    exact Nat.le_of_not_gt fun hA =>
      Nat.not_le.mpr (ptTargets_length_ge n0 h mode l hs hlt hne n H hnd hH hA) h1
  · intro h2
    have := ptTargets_length_le mode l hne n H
    omega

/-- the span beside the ancillas above `mode`, in full modes, against the span on the ports:
`mode = mt + lo` skips the `lo` ancillas below it, `hi` ancillas lie above it -/
theorem fits_iff_ports {mode mt lo hi il n sn h : Nat} (h1 : mode = mt + lo) (h2 : il = lo + hi)
    (h3 : il ≤ n) (h4 : h ≤ sn) : mode + sn + hi ≤ n + h ↔ mt + (sn - h) ≤ n - il := by
  omega

/-- `add` at a port: the two range checks together ask that the user-visible span of the added
circuit fits on the ports -/
theorem add_eq_of_port (self sub : Circ K) (hs : self.WF) (hsub : sub.WF) (m : Int) (g : Bool)
    (hm0 : 0 ≤ m) (hmp : m < (self.ports : Int)) :
    self.add sub m g =
      if m.toNat + (sub.n - sub.inHer.length) ≤ self.ports then
        .ok (addFinal self (subIns sub g
          (ptTargets (self.mapMode m).toNat (sortNat self.internal) sub.n sub.inHer))
          (self.mapMode m).toNat (pick sub g).2)
      else .error .modeRange := by
  rw [add_eq_ins, modeInRange_mapMode self hs m hm0 hmp]
  simp only [Except.bind]
  obtain ⟨hcount, hnot⟩ := mapMode_count self hs m hm0
  have hsplit := length_split (sortNat self.internal) _ hnot
  rw [length_sortNat] at hsplit
  have fit := (ptTargets_fit_iff self.n sub.inHer.length (self.mapMode m).toNat (sortNat self.internal)
    (strictSorted_sortNat hs.intNodup) (fun a ha => WF.internal_lt hs a (mem_sortNat.mp ha)) hnot
    sub.n sub.inHer hsub.inNodup (C02Sem.keys_length _)).trans
    (fits_iff_ports hcount hsplit (WF.internal_length_le hs) (WF.inHer_length_le hsub))
  by_cases hfit : m.toNat + (sub.n - sub.inHer.length) ≤ self.ports
  · have h2 := Nat.sub_le_iff_le_add.mpr (fit.mpr hfit)
    rw [if_pos hfit, if_neg (Nat.not_lt.mpr h2), if_neg (Nat.not_lt.mpr (Nat.le_trans
      (Nat.sub_le_sub_right (Nat.add_le_add_left (Nat.le_add_right _ _) _) _) h2))]
  · rw [if_neg hfit]
    split
    · rfl
    · exact if_pos (Nat.lt_of_not_le fun h2 => hfit (fit.mp (Nat.sub_le_iff_le_add.mp h2)))

theorem add_error_of_not_port (self sub : Circ K) (hs : self.WF) (m : Int) (g : Bool)
    (h : ¬ (0 ≤ m ∧ m < (self.ports : Int))) : self.add sub m g = .error .modeRange := by
  rw [add_eq_ins]
  have herr : ∀ x : Int, ¬ (0 ≤ x ∧ x < (self.n : Int)) → self.modeInRange x = .error .modeRange := by
    intro x hx; unfold Circ.modeInRange; rw [if_neg hx]
  by_cases hm0 : m < 0
  · have : self.mapMode m = m := skipFold_of_lt _ m (fun a _ => by omega)
    rw [this, herr m (by omega)]; rfl
  · have : ¬ self.mapMode m < (self.n : Int) := fun hh =>
      h ⟨by omega, (mapMode_lt_iff' self hs m).mp hh⟩
    rw [herr _ (by omega)]; rfl

theorem add_accepts_iff (self sub : Circ K) (hs : self.WF) (hsub : sub.WF) (m : Int) (g : Bool) :
    (∃ self', self.add sub m g = .ok self') ↔
      0 ≤ m ∧ m < (self.ports : Int) ∧ m.toNat + (sub.n - sub.inHer.length) ≤ self.ports := by
  by_cases hp : 0 ≤ m ∧ m < (self.ports : Int)
  · rw [add_eq_of_port self sub hs hsub m g hp.1 hp.2]
    split
    · exact ⟨fun _ => ⟨hp.1, hp.2, ‹_›⟩, fun _ => ⟨_, rfl⟩⟩
    · exact ⟨fun h => h.elim (fun _ h => nomatch h), fun h => absurd h.2.2 ‹_›⟩
  · rw [add_error_of_not_port self sub hs m g hp]
    exact ⟨fun h => h.elim (fun _ h => nomatch h), fun h => absurd ⟨h.1, h.2.1⟩ hp⟩

end

end LW.Proofs.C02
