/-
  LW.Proofs.C12InstrPlan — the placements of one qiskit instruction (`placeInstr`) compose to the
  instruction's homomorphism `instrHom` (`placeInstr_hom`).

  Two vocabularies meet here.  `buildCirc` folds over the placements of the plan, so C12PlanHom speaks
  of `placedHer`, `placedHom`, `planHom`, `planHer`, with the window maps `fwdS` / `invS'` of
  `Circuit.add`; the induction of C12Ind runs over the qiskit instructions and speaks of `instrHer`,
  `instrHom`, `listHom`, `listHer`, with the maps `fwdQ` / `invQ` onto a list of qubits.  The SWAPs
  that `convert_two_qubits_to_adjacent` inserts exist on the plan side only.
-/
import LW.Proofs.C12Modes
import LW.Proofs.C12PlanHom
import LW.Proofs.C12Sub
import LW.Proofs.C12Shape
import LW.Proofs.C13Swap
import LW.Proofs.C12

open MvPolynomial

namespace LW.C12F

open LW LW.QC LW.Gates LW.QF LW.Proofs.C02Sem

variable {R : Type} [CommRing R]

theorem swapDict_fn (a b : Nat) (hab : a ≠ b) (j : Nat) :
    Dict.fn (swapDict a b) j = qswap a b j := by
  obtain ⟨h1, h2, h3, h4⟩ := Gates.swapDict_fn (2 * a) (2 * a + 1) (2 * b) (2 * b + 1)
    (modes_nodup a b hab)
  obtain ⟨q, e, he, rfl⟩ : ∃ q e, e < 2 ∧ j = 2 * q + e := ⟨j / 2, j % 2, by omega, by omega⟩
  rw [qswap_eq, qlift_port _ _ _ he]
  have he' : e = 0 ∨ e = 1 := by omega
  by_cases ha : q = a
  · rw [ha, applySwap_left]
    rcases he' with rfl | rfl
    · exact h1
    · exact h2
  by_cases hb : q = b
  · rw [hb, applySwap_right]
    rcases he' with rfl | rfl
    · exact h3
    · exact h4
  rw [applySwap_of_ne ha hb]
  apply Dict.fn_of_not_mem
  show 2 * q + e ∉ [2 * a, 2 * b, 2 * a + 1, 2 * b + 1]
  simp only [List.mem_cons, List.not_mem_nil, or_false, not_or]
  omega

theorem qswap_lt_max (a b : Nat) {j : Nat} (hj : j < 2 * max a b + 2) :
    qswap a b j < 2 * max a b + 2 := by
  have ha : a < max a b + 1 := by omega
  have hb : b < max a b + 1 := by omega
  have := (qswap_lt (z := j) ha hb).mpr (by omega)
  omega

theorem closedE_swap (i : R) (a b : Nat) (hab : a ≠ b) {r k : Nat} (hr : r < 2 * max a b + 2)
    (hk : k < 2 * max a b + 2) :
    closedE i (swapCirc R a b) r k = if r = qswap a b k then 1 else 0 := by
  show ((swapCirc R a b).Ufull i).get (layout [] (2 * max a b + 2) r)
    (layout [] (2 * max a b + 2) k) = _
  rw [layout_nil _ hr, layout_nil _ hk, ← swapCirc_eq,
    swapCirc_Ufull_get i _ _ _ _ (by omega) (by omega)]
  exact if_congr ((swapDict_fn a b hab k).symm ▸ eq_comm) rfl rfl

theorem circHom_swap (i : R) (a b : Nat) (hab : a ≠ b) (j : Nat) (hj : j < 2 * max a b + 2) :
    circHom i (swapCirc R a b) (X j) = X (qswap a b j) := by
  show homOf (closedE i (swapCirc R a b)) (2 * max a b + 2) (X j) = _
  rw [homOf_X_lt _ hj]
  exact colForm_single _ (qswap_lt_max a b hj) fun r hr => closedE_swap i a b hab hr hj

theorem placed_swap_hom [StarRing R] (i : R) (a b : ℕ) (hab : a ≠ b) (P : ℕ)
    (hP : 2 * max a b + 2 ≤ P) :
    placeHomG (circHom i (swapCirc R a b)) (fwdS 0 (2 * max a b + 2) P)
      (invS' 0 (2 * max a b + 2) P) P = (rename (qswap a b) : Hom R) := by
  apply algHom_ext
  intro j
  rw [rename_X]
  by_cases hj : j < P
  · by_cases hjN : j < 2 * max a b + 2
    · have hi : invS' 0 (2 * max a b + 2) P j = some j := by
        unfold invS'
        rw [if_pos (by omega)]
        congr 1
      rw [placeHomG_X_some _ _ _ hj hi, circHom_swap i a b hab j hjN, rename_X]
      have := qswap_lt_max a b hjN
      unfold fwdS
      rw [if_pos this, Nat.zero_add]
    · have hi : invS' 0 (2 * max a b + 2) P j = none := by
        unfold invS'
        rw [if_neg (by omega), if_neg (by omega)]
      rw [placeHomG_X_none _ _ _ (fun _ => hi), qswap_of_ge a b j (by omega)]
  · rw [placeHomG_X_none _ _ _ (fun hh => absurd hh hj), qswap_of_ge a b j (by omega)]

theorem fwdQ_range' (l r P x : ℕ) : fwdQ (List.range' l r) P x = fwdS (2 * l) (2 * r) P x := by
  unfold fwdQ fwdS
  rw [List.length_range']
  by_cases hx : x < 2 * r
  · rw [if_pos hx, if_pos hx, List.getD_eq_getElem _ _ (by rw [List.length_range']; omega),
      List.getElem_range']
    omega
  · rw [if_neg hx, if_neg hx]

theorem place_consecutive (U : ℕ → ℕ → R) (l r h P : ℕ) (hP : 2 * (l + r) ≤ P) :
    placeHomG (homOf U (2 * r + h)) (fwdS (2 * l) (2 * r) P) (invS' (2 * l) (2 * r) P) (P + h) =
      placeHomG (homOf U (2 * r + h)) (fwdQ (List.range' l r) P) (invQ (List.range' l r) P)
        (P + h) := by
  have hp := pinj_fwdQ (List.range' l r) P h (List.nodup_range' (step := 1) (by omega))
    (by
      intro q hq
      rw [List.mem_range'_1] at hq
      omega)
  rw [List.length_range'] at hp
  exact placeHomG_eq_of_pinj hp (pinj_invS' (2 * l) (2 * r) P h (by omega)) U
    (fun x _ => (fwdQ_range' l r P x).symm)

theorem place_conj_qlift (U : ℕ → ℕ → R) {σ : ℕ → ℕ} {nq : ℕ} (hσ : ∀ q, σ (σ q) = q)
    (hσlt : ∀ q, q < nq → σ q < nq) (hσfix : ∀ q, nq ≤ q → σ q = q) (Q : List ℕ) (hnd : Q.Nodup)
    (hQ : ∀ q ∈ Q, q < nq) (P h : ℕ) (hP : 2 * nq ≤ P) :
    (rename (qlift σ) : Hom R).comp
        ((placeHomG (homOf U (2 * Q.length + h)) (fwdQ Q P) (invQ Q P) (P + h)).comp
          (rename (qlift σ))) =
      placeHomG (homOf U (2 * Q.length + h)) (fwdQ (Q.map σ) P) (invQ (Q.map σ) P) (P + h) := by
  have hτinv := qlift_invol hσ
  have hτlt : ∀ z, z < P + h → qlift σ z < P + h := fun z hz =>
    qlift_lt hσlt hσfix (Nat.le_add_right_of_le hP) hz
  have hinj : Function.Injective σ := fun x y e => by rw [← hσ x, e, hσ]
  have hp' := pinj_fwdQ (Q.map σ) P h (hnd.map hinj) (by
    intro q hq
    obtain ⟨q', hq', rfl⟩ := List.mem_map.mp hq
    have := hσlt q' (hQ q' hq')
    omega)
  rw [List.length_map] at hp'
  rw [rename_conj_place _ hτinv hτlt]
  refine placeHomG_eq_of_pinj hp'
    ((pinj_fwdQ Q P h hnd (fun q hq => by have := hQ q hq; omega)).conj _ hτinv hτlt) U ?_
  intro x _
  show qlift σ (fwdQ Q P x) = fwdQ (Q.map σ) P x
  by_cases hx : x < 2 * Q.length
  · rw [fwdQ_lt_port hx, fwdQ_lt_port (by rw [List.length_map]; exact hx),
      qlift_port _ _ _ (Nat.mod_lt x Nat.two_pos), List.getD_eq_getElem _ _ (by omega),
      List.getD_eq_getElem _ _ (by rw [List.length_map]; omega), List.getElem_map]
  · rw [fwdQ_ge_port (by omega), fwdQ_ge_port (by rw [List.length_map]; omega), List.length_map]
    exact qlift_fix _ _ (hσfix _ (by omega))

theorem place_conj_swapsFor (U : ℕ → ℕ → R) {lo hi l nq : ℕ} (h P : ℕ) (h1 : lo ≤ l)
    (h2 : l + 1 ≤ hi) (hhi : hi < nq) (hP : 2 * nq ≤ P) :
    (rename (qlift (applySwaps (swapsFor lo hi l))) : Hom R).comp
        ((placeHomG (homOf U (2 * [lo, hi].length + h)) (fwdS (2 * l) 4 P) (invS' (2 * l) 4 P)
          (P + h)).comp (rename (qlift (applySwaps (swapsFor lo hi l))))) =
      placeHomG (homOf U (2 * [lo, hi].length + h)) (fwdQ [lo, hi] P) (invQ [lo, hi] P) (P + h) := by
  have e : [lo, hi] = (List.range' l 2).map (applySwaps (swapsFor lo hi l)) := by
    show _ = [applySwaps _ l, applySwaps _ (l + 1)]
    rw [applySwaps_swapsFor_l _ _ _ h1 h2, applySwaps_swapsFor_succ _ _ _ h1 h2]
  have key := place_conj_qlift U (applySwaps_swapsFor_invol lo hi l h1 h2)
    (fun q hq => applySwaps_lt _ nq (fun p hp => by
      rcases mem_swapsFor.mp hp with ⟨_, rfl⟩ | ⟨_, rfl⟩ <;> exact ⟨by omega, by omega⟩) hq)
    (fun q hq => applySwaps_swapsFor_of_gt h1 h2 (by omega)) (List.range' l 2)
    (List.nodup_range' (step := 1) Nat.one_pos)
    (fun q hq => by rw [List.mem_range'_1] at hq; omega) P h hP
  rw [← e, List.length_range', ← place_consecutive U l 2 h P (by omega)] at key
  exact key

variable [StarRing R]

theorem planHom_swap (c : GC R) (par : ℕ → R × R) (nq a b P : ℕ) (hab : a ≠ b) (ha : a < nq)
    (hb : b < nq) (hP : 2 * nq ≤ P) :
    planHom c par [.swap a b] P = (rename (qswap a b) : Hom R) := by
  simp only [planHom]
  rw [AlgHom.id_comp]
  exact placed_swap_hom c.i a b hab P (by omega)

theorem planHom_swaps (c : GC R) (par : ℕ → R × R) (nq P : ℕ) (hP : 2 * nq ≤ P)
    (sw : List (ℕ × ℕ)) (hsw : ∀ p ∈ sw, p.1 ≠ p.2 ∧ p.1 < nq ∧ p.2 < nq) :
    (∀ p ∈ sw.map (fun p => Placed.swap p.1 p.2), PlacedOk nq p) ∧
    planHer (sw.map (fun p => Placed.swap p.1 p.2)) = [] ∧
    planHom c par (sw.map (fun p => Placed.swap p.1 p.2)) P =
      (rename (qlift (applySwaps sw)) : Hom R) := by
  induction sw with
  | nil =>
    refine ⟨fun p hp => absurd hp List.not_mem_nil, rfl, ?_⟩
    have : qlift (applySwaps []) = id := funext fun z => qlift_fix _ z rfl
    rw [this, rename_id]
    rfl
  | cons p sw ih =>
    obtain ⟨hne, h1, h2⟩ := hsw p List.mem_cons_self
    obtain ⟨ok, her, hom⟩ := ih fun p' hp' => hsw p' (List.mem_cons_of_mem _ hp')
    refine ⟨?_, her, ?_⟩
    · intro x hx
      rcases List.mem_cons.mp hx with rfl | hx
      · exact ⟨hne, h1, h2⟩
      · exact ok x hx
    · have e : planHom c par ((p :: sw).map fun p => Placed.swap p.1 p.2) P =
          (planHom c par (sw.map fun p => Placed.swap p.1 p.2) P).comp
            (planHom c par [.swap p.1 p.2] P) := by
        simp only [List.map_cons, planHom]
        rw [AlgHom.id_comp]
        rfl
      rw [e, hom, planHom_swap c par nq p.1 p.2 P hne h1 h2 hP, rename_comp_rename]
      congr 1
      funext z
      rw [Function.comp_apply, qswap_eq, qlift_comp]
      rfl

theorem swapsFor_ok {lo hi l nq : ℕ} (h1 : lo ≤ l) (h2 : l + 1 ≤ hi) (hhi : hi < nq) :
    ∀ p ∈ swapsFor lo hi l, p.1 ≠ p.2 ∧ p.1 < nq ∧ p.2 < nq := by
  intro p hp
  rcases mem_swapsFor.mp hp with ⟨h, rfl⟩ | ⟨h, rfl⟩
  · exact ⟨h, by omega, by omega⟩
  · exact ⟨h, hhi, by omega⟩

omit [StarRing R] in
theorem planHom_single (c : GC R) (par : ℕ → R × R) (p : Placed) (P : ℕ) :
    planHom c par [p] P = placedHom c par p P := by
  simp only [planHom]
  rw [AlgHom.id_comp]

theorem placeInstr_hom (c : GC R) (par : ℕ → R × R) (nq idx : ℕ) (g : Instr) (f : Bool)
    (plan : List Placed) (P : ℕ) (hnd : g.qubits.Nodup) (hlt : ∀ q ∈ g.qubits, q < nq)
    (hpl : placeInstr idx g f = .ok plan) (hP : 2 * nq ≤ P) :
    Shape nq g f ∧ (∀ p ∈ plan, PlacedOk nq p) ∧ planHer plan = instrHer g f ∧
      planHom c par plan P = instrHom c par idx g f P := by
  rcases (QC.placeInstr_cases idx g f plan hpl).2 with ⟨q, hq, rfl⟩ |
    ⟨a, b, hq, hn, rfl⟩ | ⟨a, b, hq, hn, rfl⟩ | ⟨a, b, t, hq, hf, hs, hname, rfl⟩
  · have hl : q < nq := hlt q (by rw [hq]; exact List.mem_cons_self)
    have hS := sits_single c par f hq hl
    obtain ⟨-, hQ, hH, hsub, -⟩ := instr_single (K := R) f hq
    refine ⟨.single q hq hl, ?_, by rw [hH]; rfl, ?_⟩
    · intro p hp
      rw [List.mem_singleton] at hp
      subst hp
      show 2 * q + 2 ≤ 2 * nq
      omega
    · rw [planHom_single, hS.hom, hQ, hH, hsub]
      exact place_consecutive _ q 1 0 P (by omega)
  · rw [hq] at hnd hlt
    have hab : a ≠ b := fun e => by simp [e] at hnd
    have ha : a < nq := hlt a (by simp)
    have hb : b < nq := hlt b (by simp)
    obtain ⟨-, hH, -⟩ := instr_swap (K := R) f hq hn
    refine ⟨.swap a b hq hab ha hb hn, ?_, by rw [hH]; rfl, ?_⟩
    · intro p hp
      rw [List.mem_singleton] at hp
      subst hp
      exact ⟨hab, ha, hb⟩
    · rw [planHom_swap c par nq a b P hab ha hb hP, instrHom_swap c par idx f hq hn]
  · -- cx / cz: the plan is swaps ++ [gate on (l, l+1)] ++ swaps.  By `planHom_append` its hom is a
    -- composition of three; the two outer ones are `rename (qlift σ)`, `σ` the composite of the
    -- swaps (`planHom_swaps`); `place_conj_swapsFor` turns the conjugate into the placement on the
    -- two qubits themselves.
    rw [hq] at hnd hlt
    have hab : a ≠ b := fun e => by simp [e] at hnd
    have ha : a < nq := hlt a (by simp)
    have hb : b < nq := hlt b (by simp)
    have hS := sits_two c par f hq hab ha hb hn
    obtain ⟨-, hQ, hherg, hsub, -⟩ := instr_two (K := R) f hq hn
    obtain ⟨l, h1, h2, hta, htgt, hlo⟩ := toAdjacent_minmax a b hab
    rw [hta, htgt, hlo]
    have hhi : max a b < nq := by omega
    have hlh : min a b < max a b := by omega
    clear hta htgt hlo hnd hlt
    generalize min a b = lo at *
    generalize max a b = hi at *
    have hsw' := swapsFor_ok h1 h2 hhi
    obtain ⟨hS1, hS2, hS3⟩ := planHom_swaps c par nq P hP _ hsw'
    have hS3' := (planHom_swaps c par nq (P + (instrHer g f).length) (by omega) _ hsw').2.2
    have htw : PlacedOk nq (.two (g.name = "cx") f
        (if g.name = "cx" then (if a < b then 1 else 0) else 0) (2 * l)) := by
      refine ⟨?_, ?_, ?_⟩
      · split_ifs <;> omega
      · intro hcx
        have : ¬ g.name = "cx" := by simpa using hcx
        rw [if_neg this]
      · omega
    refine ⟨.two a b hq hab ha hb hn, ?_, ?_, ?_⟩
    · intro p hp
      rw [List.mem_append, List.mem_append, List.mem_singleton] at hp
      rcases hp with (hp | rfl) | hp
      · exact hS1 p hp
      · exact htw
      · exact hS1 p hp
    · rw [planHer_append, planHer_append, hS2, hherg]
      simp [planHer, placedHer]
    · rw [planHom_append, planHom_append, hS3, hS2, planHom_single]
      have hP0 : P + ([] : List ℕ).length = P := rfl
      have hPl : P +
          (planHer [Placed.two (g.name = "cx") f
            (if g.name = "cx" then (if a < b then 1 else 0) else 0) (2 * l)]).length
          = P + (instrHer g f).length := by
        rw [hherg]; simp [planHer, placedHer]
      rw [planHer_append, hS2, List.nil_append, hP0, hPl, hS3']
      rw [hS.hom, hQ, hherg, hsub c par idx]
      unfold placedHom
      simp only [placedSub, placedMode, placedQ, placedHer]
      have hdim := hS.dim idx
      rw [hQ, hherg, hsub c par idx] at hdim
      unfold circHom
      rw [hdim]
      exact place_conj_swapsFor _ _ P h1 h2 hhi hP
  · rw [hq] at hnd hlt
    have ha : a < nq := hlt a (by simp)
    have hb : b < nq := hlt b (by simp)
    have ht : t < nq := hlt t (by simp)
    have hS := sits_three c par f hq hnd ha hb ht hs
    obtain ⟨-, hQ, hH, hsub, -⟩ := instr_three (K := R) f hq
    have hmn : min a (min b t) + 2 < nq := by omega
    refine ⟨.three a b t hq hnd ha hb ht hf hs hname, ?_, by rw [hH]; rfl, ?_⟩
    · intro p hp
      rw [List.mem_singleton] at hp
      subst hp
      refine ⟨?_, ?_, ?_⟩
      · split_ifs <;> omega
      · intro hcx
        have : ¬ g.name = "ccx" := by simpa using hcx
        rw [if_neg this]
      · omega
    · rw [planHom_single, hS.hom, hQ, hH, hsub]
      exact place_consecutive _ (min a (min b t)) 3 4 P (by omega)

end LW.C12F
