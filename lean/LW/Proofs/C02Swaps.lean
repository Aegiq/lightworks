/-
  LW.Proofs.C02Swaps — C02: what the herald-returning swap dictionary of `add` is.  One analysis of the loop
  `synthGo`, general in the accumulator, gives `synthSwaps_char`: the keys of `prov` go to their values, the other
  modes below `n` go, in order, to the first modes that are not values; `add` uses it at `prov = ks.zip vs`.
-/
import LW.Proofs.C02Modes

namespace LW.Proofs.C02Sem
open LW LW.Proofs.C02

def freeFrom (l : List Nat) (s k : Nat) : List Nat := (List.range' s k).filter fun m => !l.contains m

theorem freeOf_eq_freeFrom (n : Nat) (l : List Nat) : freeOf n l = freeFrom l 0 n := by
  unfold freeOf freeFrom
  rw [List.range_eq_range']

theorem freeFrom_zero (l : List Nat) (s : Nat) : freeFrom l s 0 = [] := rfl

theorem freeFrom_succ_mem {l : List Nat} {s : Nat} (k : Nat) (h : s ∈ l) :
    freeFrom l s (k + 1) = freeFrom l (s + 1) k := by
  unfold freeFrom
  rw [List.range'_succ, List.filter_cons]
  simp [h]

theorem freeFrom_succ_not_mem {l : List Nat} {s : Nat} (k : Nat) (h : s ∉ l) :
    freeFrom l s (k + 1) = s :: freeFrom l (s + 1) k := by
  unfold freeFrom
  rw [List.range'_succ, List.filter_cons]
  simp [h]

/-! ### the skip loop finds the first free value -/

theorem synthSkip_freeFrom (prov : Dict) (fuel cur m : Nat) (hm : m ≤ fuel)
    (hne : freeFrom prov.vals cur m ≠ []) :
    freeFrom prov.vals cur m = Circ.synthSkip prov fuel cur ::
      freeFrom prov.vals (Circ.synthSkip prov fuel cur + 1)
        (cur + m - (Circ.synthSkip prov fuel cur + 1)) := by
  induction fuel generalizing cur m with
  | zero =>
    have : m = 0 := by omega
    subst this
    exact absurd (freeFrom_zero _ _) hne
  | succ fuel ih =>
    cases m with
    | zero => exact absurd (freeFrom_zero _ _) hne
    | succ m =>
      simp only [Circ.synthSkip]
      by_cases hc : cur ∈ prov.vals
      · have hc' : prov.vals.contains cur = true := by simp [hc]
        rw [if_pos hc']
        rw [freeFrom_succ_mem m hc] at hne ⊢
        have := ih (cur + 1) m (by omega) hne
        rw [this]
        congr 2
        omega
      · have hc' : ¬ prov.vals.contains cur = true := by simp [hc]
        rw [if_neg hc']
        rw [freeFrom_succ_not_mem m hc]
        congr 2
        omega

theorem synthGo_frame (n : Nat) (prov : Dict) (fuel i cur : Nat) (acc : Dict) (j : Nat) (hj : j < i) :
    Dict.fn (Circ.synthGo n prov fuel i cur acc) j = Dict.fn acc j := by
  induction fuel generalizing i cur acc with
  | zero => rfl
  | succ fuel ih =>
    have hne : ¬ i = j := by omega
    simp only [Circ.synthGo]
    split
    · rw [ih (i + 1) _ _ (by omega), Dict.fn_set, if_neg hne]
    · rw [ih (i + 1) _ _ (by omega)]
      split
      · rw [Dict.fn_set, if_neg hne]
      · rfl

theorem synthGo_key (n : Nat) (prov : Dict) (fuel i cur : Nat) (acc : Dict) (j : Nat)
    (hij : i ≤ j) (hj : j < i + fuel) (hc : prov.contains j = true) :
    Dict.fn (Circ.synthGo n prov fuel i cur acc) j = prov.getD j 0 := by
  induction fuel generalizing i cur acc with
  | zero => omega
  | succ fuel ih =>
    by_cases e : i = j
    · subst e
      simp only [Circ.synthGo]
      rw [if_pos hc, synthGo_frame _ _ _ _ _ _ _ (by omega), Dict.fn_set, if_pos rfl]
    · simp only [Circ.synthGo]
      split
      · exact ih (i + 1) _ _ (by omega) (by omega)
      · exact ih (i + 1) _ _ (by omega) (by omega)

theorem synthGo_free (n : Nat) (prov : Dict) (fuel i cur : Nat) (acc : Dict) (hfi : fuel + i = n)
    (hacc : ∀ j, i ≤ j → Dict.fn acc j = j)
    (hlen : (freeFrom prov.keys i fuel).length ≤ (freeFrom prov.vals cur (n - cur)).length) :
    (freeFrom prov.keys i fuel).map (Dict.fn (Circ.synthGo n prov fuel i cur acc))
      = (freeFrom prov.vals cur (n - cur)).take (freeFrom prov.keys i fuel).length := by
  induction fuel generalizing i cur acc with
  | zero => simp [freeFrom_zero]
  | succ fuel ih =>
    simp only [Circ.synthGo]
    by_cases hc : prov.contains i = true
    · rw [if_pos hc]
      have hik : i ∈ prov.keys := contains_iff.mp hc
      rw [freeFrom_succ_mem fuel hik] at hlen ⊢
      apply ih (i + 1) cur _ (by omega) _ hlen
      intro j hj
      rw [Dict.fn_set, if_neg (by omega)]
      exact hacc j (by omega)
    · rw [if_neg hc]
      have hik : i ∉ prov.keys := fun h => hc (contains_iff.mpr h)
      rw [freeFrom_succ_not_mem fuel hik] at hlen ⊢
      have hne : freeFrom prov.vals cur (n - cur) ≠ [] := by
        intro h
        rw [h] at hlen
        simp at hlen
      have hcn : cur < n := by
        rcases Nat.lt_or_ge cur n with h | h
        · exact h
        · exfalso
          apply hne
          have : n - cur = 0 := by omega
          rw [this]
          rfl
      have hsk := synthSkip_freeFrom prov (n + 1) cur (n - cur) (by omega) hne
      have e : cur + (n - cur) - (Circ.synthSkip prov (n + 1) cur + 1)
          = n - (Circ.synthSkip prov (n + 1) cur + 1) := by omega
      rw [e] at hsk
      rw [hsk] at hlen ⊢
      simp only [List.length_cons, Nat.add_le_add_iff_right] at hlen
      simp only [List.map_cons, List.length_cons, List.take_succ_cons]
      have hacc' : ∀ j, i + 1 ≤ j →
          Dict.fn (if i ≠ Circ.synthSkip prov (n + 1) cur
            then acc.set i (Circ.synthSkip prov (n + 1) cur) else acc) j = j := by
        intro j hj
        split
        · rw [Dict.fn_set, if_neg (by omega)]
          exact hacc j (by omega)
        · exact hacc j (by omega)
      congr 1
      · rw [synthGo_frame _ _ _ _ _ _ _ (by omega)]
        split
        · rw [Dict.fn_set, if_pos rfl]
        · rename_i h
          have h' : i = Circ.synthSkip prov (n + 1) cur := Classical.not_not.mp h
          rw [hacc i (Nat.le_refl _)]
          exact h'
      · exact ih (i + 1) _ _ (by omega) hacc' hlen

theorem synthGo_keys (n : Nat) (prov : Dict) (fuel i cur : Nat) (acc : Dict) :
    ∀ x ∈ (Circ.synthGo n prov fuel i cur acc).keys, x ∈ acc.keys ∨ (i ≤ x ∧ x < i + fuel) := by
  induction fuel generalizing i cur acc with
  | zero => exact fun x hx => Or.inl hx
  | succ fuel ih =>
    intro x hx
    simp only [Circ.synthGo] at hx
    have step : ∀ cur' acc', (∀ y ∈ acc'.keys, y = i ∨ y ∈ acc.keys) →
        x ∈ (Circ.synthGo n prov fuel (i + 1) cur' acc').keys → x ∈ acc.keys ∨ (i ≤ x ∧ x < i + (fuel + 1)) := by
      intro cur' acc' hacc h
      rcases ih (i + 1) cur' acc' x h with h | h
      · rcases hacc x h with rfl | h
        · exact Or.inr ⟨Nat.le_refl _, by omega⟩
        · exact Or.inl h
      · exact Or.inr ⟨by omega, by omega⟩
    split at hx
    · exact step _ _ (fun y hy => mem_keys_set.mp hy) hx
    · refine step _ _ (fun y hy => ?_) hx
      split at hy
      · exact mem_keys_set.mp hy
      · exact Or.inr hy

theorem synthGo_keys_nodup (n : Nat) (prov : Dict) (fuel i cur : Nat) (acc : Dict)
    (h : acc.keys.Nodup) : (Circ.synthGo n prov fuel i cur acc).keys.Nodup := by
  induction fuel generalizing i cur acc with
  | zero => exact h
  | succ fuel ih =>
    simp only [Circ.synthGo]
    split
    · exact ih _ _ _ (nodup_keys_set h)
    · refine ih _ _ _ ?_
      split
      · exact nodup_keys_set h
      · exact h

theorem length_freeOf_add (n : Nat) (l : List Nat) :
    (freeOf n l).length + ((List.range n).filter fun m => l.contains m).length = n := by
  have h1 := List.length_eq_countP_add_countP (fun m => !l.contains m) (l := List.range n)
  rw [List.countP_eq_length_filter, List.countP_eq_length_filter, List.length_range] at h1
  unfold freeOf
  have : ((List.range n).filter fun a => decide ¬ ((!l.contains a) = true))
      = (List.range n).filter fun m => l.contains m := by
    apply List.filter_congr
    intro x _
    cases l.contains x <;> rfl
  rw [this] at h1
  omega

theorem length_filter_mem_le (n : Nat) (l : List Nat) :
    ((List.range n).filter fun m => l.contains m).length ≤ l.length :=
  List.Nodup.length_le_of_subset (List.nodup_range.filter _) fun x hx => by
    simpa using (List.mem_filter.mp hx).2

theorem length_freeOf (n : Nat) (l : List Nat) (hnd : l.Nodup) (hlt : ∀ x ∈ l, x < n) :
    (freeOf n l).length = n - l.length := by
  have := length_freeOf_add_cntLt hnd n
  rw [cntLt_all l n hlt] at this
  omega

theorem length_freeOf_le (n : Nat) (ks vs : List Nat) (hnd : ks.Nodup) (hlt : ∀ x ∈ ks, x < n)
    (hlen : vs.length = ks.length) : (freeOf n ks).length ≤ (freeOf n vs).length := by
  have h1 := length_freeOf_add n ks
  have h2 := length_freeOf_add n vs
  have h3 := (perm_filter_range_contains hnd hlt).length_eq
  have h4 := length_filter_mem_le n vs
  omega

theorem synthSwaps_char (n : Nat) (prov : Dict) (hnd : prov.keys.Nodup) (hk : ∀ x ∈ prov.keys, x < n) :
    (Circ.synthSwaps n prov).keys.Nodup ∧ (∀ x ∈ (Circ.synthSwaps n prov).keys, x < n) ∧
    prov.keys.map (Dict.fn (Circ.synthSwaps n prov)) = prov.vals ∧
    (freeOf n prov.keys).map (Dict.fn (Circ.synthSwaps n prov))
      = (freeOf n prov.vals).take (freeOf n prov.keys).length := by
  unfold Circ.synthSwaps
  refine ⟨synthGo_keys_nodup n prov n 0 0 [] List.nodup_nil, fun x hx => ?_, ?_, ?_⟩
  · rcases synthGo_keys n prov n 0 0 [] x hx with h | h
    · cases h
    · omega
  · show (prov.map (·.1)).map _ = prov.map (·.2)
    rw [List.map_map]
    refine List.map_congr_left fun p hp => ?_
    have hpk : p.1 ∈ prov.keys := Dict.mem_keys_of_mem (v := p.2) hp
    show Dict.fn _ p.1 = p.2
    rw [synthGo_key n prov n 0 0 [] p.1 (Nat.zero_le _) (by have := hk _ hpk; omega)
      (contains_iff.mpr hpk)]
    exact Dict.getD_eq_of_mem hnd hp 0
  · have hl := length_freeOf_le n prov.keys prov.vals hnd hk (by simp [Dict.keys, Dict.vals])
    have := synthGo_free n prov n 0 0 [] (by omega) (fun j _ => rfl)
      (by rw [Nat.sub_zero, ← freeOf_eq_freeFrom, ← freeOf_eq_freeFrom]; exact hl)
    rwa [Nat.sub_zero, ← freeOf_eq_freeFrom, ← freeOf_eq_freeFrom] at this

end LW.Proofs.C02Sem

namespace LW.Proofs.C02
open LW LW.Proofs.C02Sem

theorem synthSwaps_lt (n : Nat) (prov : Dict) (hnd : prov.keys.Nodup) (hk : ∀ x ∈ prov.keys, x < n)
    (hv : ∀ x ∈ prov.vals, x < n) :
    (∀ x ∈ (Circ.synthSwaps n prov).keys, x < n) ∧ (∀ x ∈ (Circ.synthSwaps n prov).vals, x < n) := by
  obtain ⟨h1, h2, h3, h4⟩ := synthSwaps_char n prov hnd hk
  refine ⟨h2, fun v hv' => ?_⟩
  obtain ⟨p, hp, rfl⟩ := List.mem_map.mp hv'
  have hkn := h2 p.1 (Dict.mem_keys_of_mem (v := p.2) hp)
  rw [← Dict.getD_eq_of_mem h1 hp p.1]
  -- the value is the image of its key, which is a key of `prov` or a free mode
  by_cases hpk : p.1 ∈ prov.keys
  · exact hv _ (h3 ▸ List.mem_map.mpr ⟨p.1, hpk, rfl⟩)
  · have hm : Dict.fn (Circ.synthSwaps n prov) p.1 ∈ (freeOf n prov.keys).map (Dict.fn (Circ.synthSwaps n prov)) :=
      List.mem_map.mpr ⟨p.1, mem_freeOf.mpr ⟨hkn, hpk⟩, rfl⟩
    rw [h4] at hm
    exact (mem_freeOf.mp (List.mem_of_mem_take hm)).1

theorem synthSkip_nil (fuel cur : Nat) : Circ.synthSkip [] fuel cur = cur := by
  cases fuel <;> simp [Circ.synthSkip, Dict.vals]

theorem synthGo_nil (n fuel i : Nat) (acc : Dict) : Circ.synthGo n [] fuel i i acc = acc := by
  induction fuel generalizing i with
  | zero => rfl
  | succ f ih => simp [Circ.synthGo, Dict.contains, synthSkip_nil, ih]

end LW.Proofs.C02

namespace LW.Proofs.C02Sem
open LW

theorem synthSwaps_keys_map (n : Nat) (ks vs : List Nat) (hlen : ks.length = vs.length)
    (hknd : ks.Nodup) (hk : ∀ x ∈ ks, x < n) :
    ks.map (Dict.fn (Circ.synthSwaps n (ks.zip vs))) = vs := by
  have := (synthSwaps_char n (ks.zip vs) (by rw [Dict.keys_zip hlen]; exact hknd)
    (by rw [Dict.keys_zip hlen]; exact hk)).2.2.1
  rwa [Dict.keys_zip hlen, Dict.vals_zip hlen] at this

theorem synthSwaps_free_map (n : Nat) (ks vs : List Nat) (hlen : ks.length = vs.length)
    (hknd : ks.Nodup) (hvnd : vs.Nodup) (hk : ∀ x ∈ ks, x < n) (hv : ∀ x ∈ vs, x < n) :
    (freeOf n ks).map (Dict.fn (Circ.synthSwaps n (ks.zip vs))) = freeOf n vs := by
  have := (synthSwaps_char n (ks.zip vs) (by rw [Dict.keys_zip hlen]; exact hknd)
    (by rw [Dict.keys_zip hlen]; exact hk)).2.2.2
  rwa [Dict.keys_zip hlen, Dict.vals_zip hlen, length_freeOf n ks hknd hk, hlen,
    ← length_freeOf n vs hvnd hv, List.take_length] at this

example : Circ.synthSwaps 5 ([3, 0].zip [1, 4]) = [(0, 4), (1, 0), (3, 1), (4, 3)] := by decide

end LW.Proofs.C02Sem
