/-
  LW.Proofs.C12Shape — the cases of an instruction that `placeInstr` accepts (`Shape`), the
  data of an instruction (`instrQ`, `instrHer`, `instrSub`, `instrK`) case by case, and `Sits`: the
  sub-circuit of a non-swap instruction is placed on the instruction's own qubits, in port order.
-/
import LW.Proofs.C12FullMainDefs

open MvPolynomial

namespace LW.C12F

open LW LW.QC LW.Gates LW.QF LW.Proofs.C02Sem

/-- the cases of an instruction accepted by `placeInstr` (with distinct qubits `< nq`) -/
inductive Shape (nq : ℕ) (g : Instr) (f : Bool) : Prop
  | single (q : ℕ) (hq : g.qubits = [q]) (hlt : q < nq)
  | swap (a b : ℕ) (hq : g.qubits = [a, b]) (hab : a ≠ b) (ha : a < nq) (hb : b < nq)
      (hn : g.name = "swap")
  | two (a b : ℕ) (hq : g.qubits = [a, b]) (hab : a ≠ b) (ha : a < nq) (hb : b < nq)
      (hn : g.name ≠ "swap")
  | three (a b t : ℕ) (hq : g.qubits = [a, b, t]) (hnd : [a, b, t].Nodup) (ha : a < nq)
      (hb : b < nq) (ht : t < nq) (hf : f = true)
      (hspan : max a (max b t) - min a (min b t) = 2) (hn : g.name = "ccx" ∨ g.name = "ccz")

section
variable {K : Type} [Add K] [Mul K] [Neg K] [Zero K] [One K] {g : Instr} (f : Bool)

theorem instr_single {q : ℕ} (hq : g.qubits = [q]) :
    isSwap g = false ∧ instrQ g = [q] ∧ instrHer g f = [] ∧
      (∀ (c : GC K) par idx, instrSub c par idx g f = sqCirc c (sqOfName g.name (par idx))) ∧
      ∀ c : GC K, instrK c g f = 1 := by
  simp [isSwap, instrQ, instrHer, instrSub, instrK, hq]

omit [Add K] [Zero K] in
theorem instr_swap {a b : ℕ} (hq : g.qubits = [a, b]) (hn : g.name = "swap") :
    isSwap g = true ∧ instrHer g f = [] ∧ ∀ c : GC K, instrK c g f = 1 := by
  simp [isSwap, instrHer, instrK, hq, hn]

theorem instr_two {a b : ℕ} (hq : g.qubits = [a, b]) (hn : g.name ≠ "swap") :
    isSwap g = false ∧ instrQ g = [min a b, max a b] ∧
      instrHer g f = (if f then [0, 0] else [0, 1, 1, 0]) ∧
      (∀ (c : GC K) par idx, instrSub c par idx g f =
        twoCirc c (g.name = "cx") f (if g.name = "cx" then (if a < b then 1 else 0) else 0)) ∧
      ∀ c : GC K, instrK c g f = if f then -c.third else c.half * c.half := by
  simp [isSwap, instrQ, instrHer, instrSub, instrK, hq, hn]

theorem instr_three {a b t : ℕ} (hq : g.qubits = [a, b, t]) :
    isSwap g = false ∧
      instrQ g = [min a (min b t), min a (min b t) + 1, min a (min b t) + 2] ∧
      instrHer g f = [0, 0, 0, 0] ∧
      (∀ (c : GC K) par idx, instrSub c par idx g f =
        threeCirc c (g.name = "ccx") (if g.name = "ccx" then t - min a (min b t) else 0)) ∧
      ∀ c : GC K, instrK c g f = c.i * (c.rh * (c.half * c.third)) := by
  simp [isSwap, instrQ, instrHer, instrSub, instrK, hq]

end

section
variable {R : Type} [CommRing R]

theorem instrHom_swap (c : GC R) (par : ℕ → R × R) (idx : ℕ) {g : Instr} (f : Bool) {a b : ℕ}
    (hq : g.qubits = [a, b]) (hn : g.name = "swap") (P : ℕ) :
    instrHom c par idx g f P = (rename (qswap a b) : Hom R) := by
  unfold instrHom
  rw [(instr_swap (K := R) f hq hn).1, if_pos rfl, hq]
  rfl

/-- a non-swap instruction: its sub-circuit is placed on the distinct in-range qubits `instrQ g`,
the qubits of `g` in port order -/
structure Sits (c : GC R) (par : ℕ → R × R) (nq : ℕ) (g : Instr) (f : Bool) : Prop where
  notSwap : isSwap g = false
  nodup : (instrQ g).Nodup
  lt : ∀ q ∈ instrQ g, q < nq
  perm : (instrQ g).Perm g.qubits
  dim : ∀ idx, (instrSub c par idx g f).n = 2 * (instrQ g).length + (instrHer g f).length

theorem Sits.hom {c : GC R} {par : ℕ → R × R} {nq : ℕ} {g : Instr} {f : Bool}
    (h : Sits c par nq g f) (idx P : ℕ) :
    instrHom c par idx g f P =
      placeHomG (homOf (closedE c.i (instrSub c par idx g f))
          (2 * (instrQ g).length + (instrHer g f).length))
        (fwdQ (instrQ g) P) (invQ (instrQ g) P) (P + (instrHer g f).length) := by
  unfold instrHom circHom
  rw [h.notSwap, h.dim idx]
  rfl

theorem sits_single (c : GC R) (par : ℕ → R × R) {nq : ℕ} {g : Instr} (f : Bool) {q : ℕ}
    (hq : g.qubits = [q]) (hlt : q < nq) : Sits c par nq g f := by
  obtain ⟨hsw, hQ, hH, hsub, -⟩ := instr_single (K := R) f hq
  refine ⟨hsw, ?_, ?_, ?_, fun idx => ?_⟩
  · rw [hQ]; exact List.nodup_singleton q
  · intro q' hq'
    rw [hQ, List.mem_singleton] at hq'
    rw [hq']; exact hlt
  · rw [hQ, hq]
  · rw [hsub, hQ, hH]; rfl

theorem sits_two (c : GC R) (par : ℕ → R × R) {nq : ℕ} {g : Instr} (f : Bool) {a b : ℕ}
    (hq : g.qubits = [a, b]) (hab : a ≠ b) (ha : a < nq) (hb : b < nq) (hn : g.name ≠ "swap") :
    Sits c par nq g f := by
  obtain ⟨hsw, hQ, hH, hsub, -⟩ := instr_two (K := R) f hq hn
  refine ⟨hsw, ?_, ?_, ?_, fun idx => ?_⟩
  · rw [hQ]
    simp only [List.nodup_cons, List.mem_cons, List.not_mem_nil, or_false, not_false_eq_true,
      List.nodup_nil, and_true]
    omega
  · intro q' hq'
    rw [hQ] at hq'
    simp only [List.mem_cons, List.not_mem_nil, or_false] at hq'
    omega
  · rw [hQ, hq]
    rcases Nat.lt_or_gt_of_ne hab with h | h
    · rw [show min a b = a by omega, show max a b = b by omega]
    · rw [show min a b = b by omega, show max a b = a by omega]
      exact List.Perm.swap _ _ _
  · rw [hsub, hQ, hH]; cases f <;> rfl

theorem span_bounds {a b t : ℕ} (hspan : max a (max b t) - min a (min b t) = 2) :
    (min a (min b t) ≤ a ∧ a ≤ min a (min b t) + 2) ∧
      (min a (min b t) ≤ b ∧ b ≤ min a (min b t) + 2) ∧
      (min a (min b t) ≤ t ∧ t ≤ min a (min b t) + 2) := by
  -- the bounds by the order lemmas: `omega` on the nested `min`/`max` is slow to check
  have la : min a (min b t) ≤ a := Nat.min_le_left _ _
  have lb : min a (min b t) ≤ b := (Nat.min_le_right _ _).trans (Nat.min_le_left _ _)
  have lt : min a (min b t) ≤ t := (Nat.min_le_right _ _).trans (Nat.min_le_right _ _)
  have ua : a ≤ max a (max b t) := Nat.le_max_left _ _
  have ub : b ≤ max a (max b t) := (Nat.le_max_left _ _).trans (Nat.le_max_right _ _)
  have ut : t ≤ max a (max b t) := (Nat.le_max_right _ _).trans (Nat.le_max_right _ _)
  generalize min a (min b t) = mn at *
  generalize max a (max b t) = M at *
  omega

theorem mem_span3 {mn x : ℕ} (h : mn ≤ x ∧ x ≤ mn + 2) : x ∈ [mn, mn + 1, mn + 2] := by
  simp only [List.mem_cons, List.not_mem_nil, or_false]
  omega

theorem getD_span3 {mn t : ℕ} (h : mn ≤ t ∧ t ≤ mn + 2) :
    [mn, mn + 1, mn + 2].getD (t - mn) 0 = t := by
  rcases (by omega : t = mn ∨ t = mn + 1 ∨ t = mn + 2) with rfl | rfl | rfl
  · rw [Nat.sub_self]
    rfl
  · rw [Nat.add_sub_cancel_left]
    rfl
  · rw [Nat.add_sub_cancel_left]
    rfl

/-- the target option `if a < b then 1 else 0` that `instrSub` gives the `cx` on `[a, b]` is the
position of the target `b` in the port order `instrQ g = [min a b, max a b]`; it is also what
`placeTwo` computes from the adjacent pair (`toAdjacent_minmax`) -/
theorem getD_minmax (a b : ℕ) :
    [min a b, max a b].getD (if a < b then 1 else 0) 0 = b := by
  split_ifs
  · show max a b = b
    omega
  · show min a b = b
    omega

theorem perm_of_span {a b t : ℕ} (hnd : [a, b, t].Nodup)
    (hspan : max a (max b t) - min a (min b t) = 2) :
    [min a (min b t), min a (min b t) + 1, min a (min b t) + 2].Perm [a, b, t] := by
  obtain ⟨ha, hb, ht⟩ := span_bounds hspan
  have hsub : [a, b, t] ⊆ [min a (min b t), min a (min b t) + 1, min a (min b t) + 2] := by
    intro q hq
    simp only [List.mem_cons, List.not_mem_nil, or_false] at hq
    rcases hq with rfl | rfl | rfl
    · exact mem_span3 ha
    · exact mem_span3 hb
    · exact mem_span3 ht
  exact ((List.subperm_of_subset hnd hsub).perm_of_length_le (Nat.le_refl 3)).symm

theorem sits_three (c : GC R) (par : ℕ → R × R) {nq : ℕ} {g : Instr} (f : Bool) {a b t : ℕ}
    (hq : g.qubits = [a, b, t]) (hnd : [a, b, t].Nodup) (ha : a < nq) (hb : b < nq) (ht : t < nq)
    (hspan : max a (max b t) - min a (min b t) = 2) : Sits c par nq g f := by
  obtain ⟨hsw, hQ, hH, hsub, -⟩ := instr_three (K := R) f hq
  refine ⟨hsw, ?_, ?_, ?_, fun idx => ?_⟩
  · rw [hQ]; simp
  · intro q' hq'
    rw [hQ] at hq'
    simp only [List.mem_cons, List.not_mem_nil, or_false] at hq'
    omega
  · rw [hQ, hq]; exact perm_of_span hnd hspan
  · rw [hsub, hQ, hH]; rfl

end

end LW.C12F
