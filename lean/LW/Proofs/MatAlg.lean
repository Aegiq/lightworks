/-
  LW.Proofs.MatAlg — the materialised model matrices `LW.M K` against Mathlib's `Matrix (Fin N) (Fin N) K`: array
  reasoning stops at `M.get_ofFn`; the bridge `M.toMatN` is multiplicative and, on matrices materialised from their
  own entries (`M.IsOfFn`), faithful, so the monoid laws and unitarity (`M.UN`) are Mathlib's.
-/
import Mathlib.LinearAlgebra.UnitaryGroup
import Mathlib.Algebra.BigOperators.Fin
import Mathlib.Algebra.BigOperators.Ring.Finset
import Mathlib.Algebra.Star.Basic
import LW.Model.CircuitSpec

open scoped BigOperators

namespace LW

section
variable {K : Type}

instance instHasConjOfStar [Star K] : HasConj K := ⟨star⟩

namespace M

@[simp] theorem ofFn_n (n : Nat) (f : Nat → Nat → K) : (ofFn n f).n = n := rfl

@[simp] theorem get_ofFn [Zero K] {n : Nat} (f : Nat → Nat → K) {i j : Nat} (hi : i < n) (hj : j < n) :
    (ofFn n f).get i j = f i j := by
  simp [ofFn, get, hi, hj]

theorem get_ofFn' [Zero K] (n : Nat) (f : Nat → Nat → K) (r k : Nat) :
    (ofFn n f).get r k = if r < n ∧ k < n then f r k else 0 := by
  by_cases hr : r < n
  · by_cases hk : k < n
    · simp [get_ofFn f hr hk, hr, hk]
    · simp [ofFn, get, hr, hk]
  · simp [ofFn, get, hr]

theorem get_ofFn_of_ge_left [Zero K] {n : Nat} (f : Nat → Nat → K) {i j : Nat} (hi : n ≤ i) :
    (ofFn n f).get i j = 0 := by
  rw [get_ofFn', if_neg fun h => Nat.not_lt.mpr hi h.1]

theorem ofFn_congr {n : Nat} {f g : Nat → Nat → K} (h : ∀ i j, i < n → j < n → f i j = g i j) :
    ofFn n f = ofFn n g := by
  unfold ofFn
  congr 1
  apply Array.ext (by simp)
  intro i h1 h2
  simp only [Array.getElem_ofFn]
  apply Array.ext (by simp)
  intro j h3 h4
  simp only [Array.getElem_ofFn]
  exact h _ _ (by simpa using h1) (by simpa using h3)

def toMat [Zero K] (A : M K) : Matrix (Fin A.n) (Fin A.n) K := fun i j => A.get i j

def toMatN [Zero K] (A : M K) (N : Nat) : Matrix (Fin N) (Fin N) K := fun i j => A.get i j

theorem sumN_eq_sum [AddCommMonoid K] (n : Nat) (f : Nat → K) :
    sumN n f = ∑ k ∈ Finset.range n, f k := by
  induction n with
  | zero => rfl
  | succ n ih => rw [Finset.sum_range_succ, ← ih]; rfl

@[simp] theorem mul_n [Add K] [Mul K] [Zero K] (A B : M K) : (A.mul B).n = A.n := rfl
@[simp] theorem pad_n [Zero K] [One K] (A : M K) (k : Nat) : (A.pad k).n = A.n + k := rfl
@[simp] theorem lead_n [Zero K] (A : M K) (k : Nat) : (A.lead k).n = k := rfl
@[simp] theorem one_n [Zero K] [One K] (n : Nat) : (M.one n : M K).n = n := rfl

theorem get_mul [Semiring K] (A B : M K) {r c : Nat} (hr : r < A.n) (hc : c < A.n) :
    (A.mul B).get r c = ∑ k ∈ Finset.range A.n, A.get r k * B.get k c := by
  unfold mul
  rw [get_ofFn _ hr hc, sumN_eq_sum]

theorem get_one [Semiring K] {n r c : Nat} (hr : r < n) (hc : c < n) :
    (M.one n : M K).get r c = if r = c then 1 else 0 := by
  unfold one
  rw [get_ofFn _ hr hc]

theorem get_lead [Zero K] (A : M K) {k r c : Nat} (hr : r < k) (hc : c < k) :
    (A.lead k).get r c = A.get r c := by
  unfold lead
  rw [get_ofFn _ hr hc]

theorem get_pad [Semiring K] (A : M K) {k r c : Nat} (hr : r < A.n + k) (hc : c < A.n + k) :
    (A.pad k).get r c = if r < A.n ∧ c < A.n then A.get r c else if r = c then 1 else 0 := by
  unfold pad
  rw [get_ofFn _ hr hc]

end M

theorem sum_delta_left [CommRing K] {N r : Nat} (hr : r < N) (g : Nat → K) :
    ∑ k ∈ Finset.range N, (if r = k then (1 : K) else 0) * g k = g r := by
  simp [hr]

/-- `IsUnitary A` is `A.UN A.n` by unfolding (`M.toMat A` is `A.toMatN A.n`; `M.isUnitary_iff` is `Iff.rfl`): the
statements speak of `IsUnitary`, the proofs of `M.UN`, which is defined at any dimension. -/
def IsUnitary [CommRing K] [StarRing K] (A : M K) : Prop :=
  A.toMat ∈ Matrix.unitaryGroup (Fin A.n) K

end

section
variable {K : Type}

namespace M

/-- the matrix is materialised from its own entries (true of every matrix the model builds) -/
def IsOfFn [Zero K] (A : M K) : Prop := A = ofFn A.n A.get

theorem isOfFn_ofFn [Zero K] (n : Nat) (f : Nat → Nat → K) : (ofFn n f).IsOfFn := by
  show ofFn n f = ofFn n (ofFn n f).get
  apply ofFn_congr
  intro i j hi hj
  rw [get_ofFn _ hi hj]

theorem ext_get [Zero K] {A B : M K} (hA : A.IsOfFn) (hB : B.IsOfFn) (hn : A.n = B.n)
    (h : ∀ i j, i < A.n → j < A.n → A.get i j = B.get i j) : A = B := by
  rw [hA, hB, ← hn]
  exact ofFn_congr h

theorem get_of_not_lt [Zero K] {A : M K} (hA : A.IsOfFn) {r c : Nat} (h : ¬ (r < A.n ∧ c < A.n)) :
    A.get r c = 0 := by
  rw [hA, get_ofFn', if_neg h]

theorem isOfFn_mul [Add K] [Mul K] [Zero K] (A B : M K) : (A.mul B).IsOfFn := isOfFn_ofFn _ _

variable [CommRing K]

theorem isOfFn_one (n : Nat) : (M.one n : M K).IsOfFn := isOfFn_ofFn _ _
theorem isOfFn_pad (A : M K) (k : Nat) : (A.pad k).IsOfFn := isOfFn_ofFn _ _
theorem isOfFn_lead (A : M K) (k : Nat) : (A.lead k).IsOfFn := isOfFn_ofFn _ _

theorem get_mul_one (A : M K) {n r c : Nat} (hA : A.n = n) (hr : r < n) (hc : c < n) :
    (A.mul (M.one n)).get r c = A.get r c := by
  subst hA
  rw [get_mul _ _ hr hc, Finset.sum_eq_single_of_mem c (Finset.mem_range.mpr hc)]
  · rw [get_one hc hc, if_pos rfl, mul_one]
  · intro k hk hne
    rw [get_one (Finset.mem_range.mp hk) hc, if_neg hne, mul_zero]

theorem toMatN_mul (A B : M K) {N : Nat} (hA : A.n = N) :
    (A.mul B).toMatN N = A.toMatN N * B.toMatN N := by
  subst hA
  ext r c
  simp only [toMatN, Matrix.mul_apply]
  rw [get_mul _ _ r.2 c.2, Finset.sum_range]

theorem toMatN_one (N : Nat) : (M.one N : M K).toMatN N = 1 := by
  ext r c
  simp only [toMatN, get_one r.2 c.2, Matrix.one_apply, Fin.ext_iff]

theorem toMatN_inj {A B : M K} {N : Nat} (hA : A.IsOfFn) (hB : B.IsOfFn) (hAn : A.n = N)
    (hBn : B.n = N) (h : A.toMatN N = B.toMatN N) : A = B :=
  ext_get hA hB (hAn.trans hBn.symm) fun i j hi hj =>
    congrFun (congrFun h ⟨i, hAn ▸ hi⟩) ⟨j, hAn ▸ hj⟩

theorem one_mul' (A : M K) (hA : A.IsOfFn) : (M.one A.n : M K).mul A = A :=
  toMatN_inj (N := A.n) (isOfFn_mul _ _) hA rfl rfl (by
    rw [toMatN_mul (M.one A.n) A (N := A.n) rfl, toMatN_one, Matrix.one_mul])

theorem mul_one' (A : M K) (hA : A.IsOfFn) : A.mul (M.one A.n : M K) = A :=
  toMatN_inj (N := A.n) (isOfFn_mul _ _) hA rfl rfl (by
    rw [toMatN_mul A (M.one A.n) rfl, toMatN_one, Matrix.mul_one])

theorem pad_zero (A : M K) (hA : A.IsOfFn) : A.pad 0 = A := by
  refine ext_get (isOfFn_pad _ _) hA rfl fun r c hr hc => ?_
  rw [get_pad A hr hc, if_pos ⟨hr, hc⟩]

theorem pad_pad (A : M K) (a b : Nat) : (A.pad a).pad b = A.pad (a + b) := by
  refine ext_get (isOfFn_pad _ _) (isOfFn_pad _ _) (Nat.add_assoc _ _ _) fun r c hr hc => ?_
  rw [pad_n, pad_n] at hr hc
  rw [get_pad _ hr hc, get_pad A (k := a + b) (by omega) (by omega), pad_n]
  by_cases h1 : r < A.n + a ∧ c < A.n + a
  · rw [if_pos h1, get_pad A h1.1 h1.2]
  · have h2 : ¬(r < A.n ∧ c < A.n) := fun h => h1 ⟨by omega, by omega⟩
    rw [if_neg h1, if_neg h2]

theorem mul_congr_right (A : M K) {B C : M K}
    (h : ∀ k j, k < A.n → j < A.n → B.get k j = C.get k j) : A.mul B = A.mul C := by
  unfold mul
  apply ofFn_congr
  intro i j _ hj
  rw [sumN_eq_sum, sumN_eq_sum]
  apply Finset.sum_congr rfl
  intro k hk
  rw [h k j (Finset.mem_range.mp hk) hj]

/-- the model product takes all dimensions from the left factor -/
theorem mul_assoc' (A B C : M K) (h : B.n = A.n) : (A.mul B).mul C = A.mul (B.mul C) :=
  toMatN_inj (N := A.n) (isOfFn_mul _ _) (isOfFn_mul _ _) rfl rfl (by
    rw [toMatN_mul (A.mul B) C (N := A.n) rfl, toMatN_mul A B rfl, toMatN_mul A (B.mul C) rfl,
      toMatN_mul B C h, Matrix.mul_assoc])

end M

end

section
variable {K : Type} [CommRing K]

namespace M

variable [StarRing K]

theorem toMatN_dagger {n : Nat} (A : M K) (hA : A.n = n) :
    (A.dagger).toMatN n = (A.toMatN n).conjTranspose := by
  subst hA
  ext r k
  simp only [toMatN, dagger, get_ofFn _ r.2 k.2, Matrix.conjTranspose_apply]
  rfl

def UN (A : M K) (N : Nat) : Prop := A.toMatN N ∈ Matrix.unitaryGroup (Fin N) K

theorem isUnitary_iff (A : M K) : IsUnitary A ↔ A.UN A.n := Iff.rfl

theorem UN_iff_rows (A : M K) (N : Nat) : A.UN N ↔ ∀ r c, r < N → c < N →
    ∑ k ∈ Finset.range N, A.get r k * star (A.get c k) = if r = c then 1 else 0 := by
  unfold UN
  rw [Matrix.mem_unitaryGroup_iff, ← Matrix.ext_iff]
  simp only [Matrix.mul_apply, Matrix.star_apply, Matrix.one_apply, toMatN, Finset.sum_range,
    Fin.forall_iff, Fin.mk.injEq]
  exact ⟨fun h r c hr hc => h r hr c hc, fun h r hr c hc => h r c hr hc⟩

theorem UN_iff_cols (A : M K) (N : Nat) : A.UN N ↔ ∀ r c, r < N → c < N →
    ∑ k ∈ Finset.range N, star (A.get k r) * A.get k c = if r = c then 1 else 0 := by
  unfold UN
  rw [Matrix.mem_unitaryGroup_iff', ← Matrix.ext_iff]
  simp only [Matrix.mul_apply, Matrix.star_apply, Matrix.one_apply, toMatN, Finset.sum_range,
    Fin.forall_iff, Fin.mk.injEq]
  exact ⟨fun h r c hr hc => h r hr c hc, fun h r hr c hc => h r c hr hc⟩

theorem UN_mul {A B : M K} {N : Nat} (hA : A.n = N) (h1 : A.UN N) (h2 : B.UN N) :
    (A.mul B).UN N := by
  unfold UN at *
  rw [toMatN_mul A B hA]
  exact mul_mem h1 h2

theorem UN_one (N : Nat) : (M.one N : M K).UN N := by
  unfold UN
  rw [toMatN_one]
  exact one_mem _

end M

/-! `emb P A` carries `A` on the image of the 0/1 matrix `P` (`Pᵀ P = 1`) and the identity on the complement.  It is the
Mathlib form of `Optic.embedVia` (`toMatN_embedVia` in C02SemEmbed); multiplicativity and unitarity are ring algebra. -/

section Emb
open scoped Matrix
variable {m d : Type} [Fintype m] [Fintype d] [DecidableEq m] [DecidableEq d]

def emb (P : Matrix m d K) (A : Matrix d d K) : Matrix m m K := 1 + P * (A - 1) * Pᵀ

theorem emb_mul {P : Matrix m d K} (hP : Pᵀ * P = 1) (A B : Matrix d d K) :
    emb P A * emb P B = emb P (A * B) := by
  unfold emb
  have hXY : (P * (A - 1) * Pᵀ) * (P * (B - 1) * Pᵀ) = P * ((A - 1) * (B - 1)) * Pᵀ := by
    rw [Matrix.mul_assoc (P * (A - 1)), ← Matrix.mul_assoc Pᵀ, ← Matrix.mul_assoc Pᵀ, hP,
      Matrix.one_mul, ← Matrix.mul_assoc, Matrix.mul_assoc P]
  have e : A * B - 1 = (A - 1) + (B - 1) + (A - 1) * (B - 1) := by
    rw [Matrix.sub_mul, Matrix.mul_sub, Matrix.mul_sub, Matrix.one_mul, Matrix.mul_one, Matrix.mul_one]
    abel
  rw [e]
  simp only [Matrix.mul_add, Matrix.add_mul, Matrix.mul_one, Matrix.one_mul, hXY]
  abel

omit [Fintype m] in
theorem emb_one (P : Matrix m d K) : emb P (1 : Matrix d d K) = 1 := by
  unfold emb
  rw [sub_self, Matrix.mul_zero, Matrix.zero_mul, add_zero]

variable [StarRing K]

omit [Fintype m] in
theorem emb_conjTranspose {P : Matrix m d K} (hP : Pᴴ = Pᵀ) (A : Matrix d d K) :
    (emb P A)ᴴ = emb P Aᴴ := by
  unfold emb
  rw [Matrix.conjTranspose_add, Matrix.conjTranspose_one, Matrix.conjTranspose_mul,
    Matrix.conjTranspose_mul, Matrix.conjTranspose_sub, Matrix.conjTranspose_one,
    ← hP, Matrix.conjTranspose_conjTranspose, Matrix.mul_assoc]

theorem emb_mem_unitaryGroup {P : Matrix m d K} (hP : Pᵀ * P = 1) (hP' : Pᴴ = Pᵀ)
    {A : Matrix d d K} (hA : A ∈ Matrix.unitaryGroup d K) : emb P A ∈ Matrix.unitaryGroup m K := by
  rw [Matrix.mem_unitaryGroup_iff, Matrix.star_eq_conjTranspose, emb_conjTranspose hP', emb_mul hP,
    ← Matrix.star_eq_conjTranspose, Matrix.mem_unitaryGroup_iff.mp hA, emb_one]

end Emb

end

end LW
