/-
  LW.Proofs.C13Struct — what the gate constructors build, for EVERY scalar type: one group of
  unitary blocks on fixed modes with fixed heralds.  The bookkeeping of `Circuit.add` / `herald`
  never looks at matrix entries, so these are definitional equalities; they are checked by the
  kernel alone (`kernel_rfl`: the elaborator's unifier is too slow on them).
-/
import Lean.Elab.Tactic
import LW.Model.Gates


namespace LW.Gates

open Lean Elab Tactic Meta in
/-- close a goal `a = b` with `Eq.refl a`, leaving the definitional-equality check to the kernel
(the elaborator's unifier is not run; nothing is assumed — the kernel rejects the declaration if the
two sides are not definitionally equal) -/
elab "kernel_rfl" : tactic => do
  let g ← getMainGoal
  let t ← instantiateMVars (← g.getType)
  let some (_, lhs, _) := t.eq? | throwError "kernel_rfl: goal is not an equality"
  g.assign (← mkEqRefl lhs)

variable {K : Type} [Add K] [Mul K] [Neg K] [Zero K] [One K]

def gateCirc (n : Nat) (her : Dict) (prims : List (Prim K)) : Circ K :=
  { n := n, spec := [.group prims 0 (n - 1) her her], inHer := her, outHer := her,
    extIn := [], extOut := [], internal := her.keys }

/-- the heralds (mode, photons) of `CZ`, `CZ_Heralded`, `CCZ`: the `_struct` theorems below say so -/
def herCZ : Dict := [(0, 0), (5, 0)]
def herCZH : Dict := [(0, 0), (1, 1), (6, 1), (7, 0)]
def herCCZ : Dict := [(0, 0), (1, 0), (8, 0), (9, 0)]

omit [Add K] in
theorem CZ_struct (c : GC K) : CZ c = .ok (gateCirc 6 herCZ [.unitary 0 (czUnitary c)]) := by
  kernel_rfl
theorem CZH_struct (c : GC K) : CZH c = .ok (gateCirc 8 herCZH [.unitary 0 (czhUnitary c)]) := by
  kernel_rfl
theorem CCZ_struct (c : GC K) : CCZ c = .ok (gateCirc 10 herCCZ [.unitary 0 (cczUnitary c)]) := by
  kernel_rfl

/-- the Hadamards sit on the two modes of qubit `t`, moved up by the heralds below them: one for
`CZ`, two for `CZ_Heralded` and `CCZ` -/
theorem CNOT_struct (c : GC K) {t : Nat} (ht : t < 2) : CNOT c t = .ok (gateCirc 6 herCZ
    [.unitary (1 + 2 * t) (sqMat c .H), .unitary 0 (czUnitary c),
      .unitary (1 + 2 * t) (sqMat c .H)]) := by
  rcases (by omega : t = 0 ∨ t = 1) with rfl | rfl <;> kernel_rfl
theorem CNOTH_struct (c : GC K) {t : Nat} (ht : t < 2) : CNOTH c t = .ok (gateCirc 8 herCZH
    [.unitary (2 + 2 * t) (sqMat c .H), .unitary 0 (czhUnitary c),
      .unitary (2 + 2 * t) (sqMat c .H)]) := by
  rcases (by omega : t = 0 ∨ t = 1) with rfl | rfl <;> kernel_rfl
theorem CCNOT_struct (c : GC K) {t : Nat} (ht : t < 3) : CCNOT c t = .ok (gateCirc 10 herCCZ
    [.unitary (2 + 2 * t) (sqMat c .H), .unitary 0 (cczUnitary c),
      .unitary (2 + 2 * t) (sqMat c .H)]) := by
  rcases (by omega : t = 0 ∨ t = 1 ∨ t = 2) with rfl | rfl | rfl <;> kernel_rfl

theorem gateCirc_Ufull (i : K) (n : Nat) (her : Dict) (prims : List (Prim K)) :
    (gateCirc n her prims).Ufull i = prims.foldl (compilePrim i) (M.one n) := rfl

end LW.Gates
