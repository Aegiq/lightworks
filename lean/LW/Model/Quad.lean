/-
  LW.Model.Quad — formal quadratic extensions `K[√d]` and the towers used by the qubit gate
  library (DESIGN §3.2).  Core Lean only.

  `Quad K d` is the pair `a + b·√d`.  The ring operations need only the bare classes on `K`, so
  the same definition is
    * executed over `Rat` towers by the driver (exact, with inverses, decidable equality), and
    * evaluated by the kernel over `Int` towers (`decide +kernel`) in LW/Proofs/C13Tab/*.lean.
-/
import LW.Model.Scalar

namespace LW

/-- cheap syntactic zero test: `isZero x = true` must imply that `x` denotes 0 (it may answer
`false` on a zero).  It lets the tower arithmetic skip products with zero factors, which is what
makes the gate tables tractable for the kernel (the constants are sparse in the tower basis). -/
class ZTest (K : Type) where
  isZero : K → Bool

instance : ZTest Rat := ⟨fun x => x.num == 0⟩
instance : ZTest Int := ⟨fun x => x == 0⟩

structure Quad (K : Type) (d : K) where
  a : K
  b : K
deriving DecidableEq, Repr

namespace Quad
variable {K : Type} {d : K}

instance [ZTest K] : ZTest (Quad K d) := ⟨fun x => ZTest.isZero x.a && ZTest.isZero x.b⟩

instance [Zero K] : Zero (Quad K d) := ⟨⟨0, 0⟩⟩
instance [Zero K] [One K] : One (Quad K d) := ⟨⟨1, 0⟩⟩
-- the operations are named, non-inlined functions: inlining the instance lambdas through a
-- four-level tower makes the code generator blow up
@[noinline] protected def add [Add K] (x y : Quad K d) : Quad K d := ⟨x.a + y.a, x.b + y.b⟩
@[noinline] protected def neg [Neg K] (x : Quad K d) : Quad K d := ⟨-x.a, -x.b⟩
/-- product with zero-skipping: the four cases are the same formula
`(a + b√d)(a' + b'√d) = aa' + d·bb' + (ab' + ba')√d` with the terms known to vanish left out -/
@[noinline] protected def mul [Add K] [Mul K] [Zero K] [ZTest K] (x y : Quad K d) : Quad K d :=
  if ZTest.isZero x.b && ZTest.isZero y.b then ⟨x.a * y.a, 0⟩
  else if ZTest.isZero x.b then ⟨x.a * y.a, x.a * y.b⟩
  else if ZTest.isZero y.b then ⟨x.a * y.a, x.b * y.a⟩
  else ⟨x.a * y.a + d * (x.b * y.b), x.a * y.b + x.b * y.a⟩
instance [Add K] : Add (Quad K d) := ⟨Quad.add⟩
instance [Neg K] : Neg (Quad K d) := ⟨Quad.neg⟩
instance [Add K] [Mul K] [Zero K] [ZTest K] : Mul (Quad K d) := ⟨Quad.mul⟩
/-- inverse through the conjugate: `(a + b√d)⁻¹ = (a - b√d) / (a² - d b²)` -/
instance [Add K] [Mul K] [Neg K] [Inv K] [Zero K] [ZTest K] : Inv (Quad K d) :=
  ⟨fun x => let nrm := (x.a * x.a + -(d * (x.b * x.b)))⁻¹; ⟨x.a * nrm, -(x.b * nrm)⟩⟩

/-- the adjoined square root of `d` -/
def root [Zero K] [One K] : Quad K d := ⟨0, 1⟩
/-- the embedding `K → K[√d]` -/
def lift [Zero K] (x : K) : Quad K d := ⟨x, 0⟩

@[simp] theorem add_a [Add K] (x y : Quad K d) : (x + y).a = x.a + y.a := rfl
@[simp] theorem add_b [Add K] (x y : Quad K d) : (x + y).b = x.b + y.b := rfl
@[simp] theorem neg_a [Neg K] (x : Quad K d) : (-x).a = -x.a := rfl
@[simp] theorem neg_b [Neg K] (x : Quad K d) : (-x).b = -x.b := rfl
@[simp] theorem zero_a [Zero K] : (0 : Quad K d).a = 0 := rfl
@[simp] theorem zero_b [Zero K] : (0 : Quad K d).b = 0 := rfl
@[simp] theorem one_a [Zero K] [One K] : (1 : Quad K d).a = 1 := rfl
@[simp] theorem one_b [Zero K] [One K] : (1 : Quad K d).b = 0 := rfl

end Quad

/-- coefficients over the base ring in a fixed order (outermost generator = most significant
index bit): used by the driver to print tower elements and by the harness to evaluate them -/
class Coeffs (K : Type) (B : outParam Type) where
  coeffs : K → List B

instance : Coeffs Rat Rat := ⟨fun x => [x]⟩
instance : Coeffs Int Int := ⟨fun x => [x]⟩
instance {K B : Type} {d : K} [Coeffs K B] : Coeffs (Quad K d) B :=
  ⟨fun x => Coeffs.coeffs x.a ++ Coeffs.coeffs x.b⟩

end LW

namespace LW

/-- semantic equality test on representations that need not be canonical -/
class Eqv (K : Type) where
  eqv : K → K → Bool

instance : Eqv Rat := ⟨fun x y => x == y⟩
instance : Eqv Int := ⟨fun x y => x == y⟩
instance {K : Type} {d : K} [Eqv K] : Eqv (Quad K d) := ⟨fun x y => Eqv.eqv x.a y.a && Eqv.eqv x.b y.b⟩

/-- `n / 6^e`, not normalised: the ring `ℤ[1/6]`, whose arithmetic is `Int`/`Nat` arithmetic only
(no gcd), so that it reduces in the kernel.  All denominators of the gate library's constants
are of the form `2^a·3^b`. -/
structure S6 where
  n : Int
  e : Nat
deriving Repr

namespace S6
def pow6 (k : Nat) : Int := ((6 ^ k : Nat) : Int)
instance : Zero S6 := ⟨⟨0, 0⟩⟩
instance : One S6 := ⟨⟨1, 0⟩⟩
instance : Neg S6 := ⟨fun x => ⟨-x.n, x.e⟩⟩
instance : ZTest S6 := ⟨fun x => x.n == 0⟩
instance : Mul S6 := ⟨fun x y => if x.n == 0 || y.n == 0 then ⟨0, 0⟩ else ⟨x.n * y.n, x.e + y.e⟩⟩
instance : Add S6 :=
  ⟨fun x y =>
    if x.n == 0 then y else if y.n == 0 then x
    else ⟨x.n * pow6 (max x.e y.e - x.e) + y.n * pow6 (max x.e y.e - y.e), max x.e y.e⟩⟩
instance : Eqv S6 := ⟨fun x y => x.n * pow6 y.e == y.n * pow6 x.e⟩
def ofInt (n : Int) : S6 := ⟨n, 0⟩
/-- 1/2 = 3/6 and 1/3 = 2/6 -/
def half : S6 := ⟨3, 1⟩
def third : S6 := ⟨2, 1⟩
def toRat (x : S6) : Rat := (x.n : Rat) / ((6 ^ x.e : Nat) : Rat)
end S6

instance : Coeffs S6 Rat := ⟨fun x => [x.toRat]⟩

end LW
