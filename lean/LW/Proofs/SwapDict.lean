/-
  LW.Proofs.SwapDict — swap dictionaries as permutations of the modes.  A dictionary acts through its function
  `Dict.fn σ` (DictLemmas).  `SwapsOk n σ` (CircuitWf; what the documented check sees: keys distinct, values a
  rearrangement of the keys) meets the matrix lemmas of CompMat through one bridge, `SwapsOk.permBelow`: the converse
  dictionary, which is how the model writes the inverse swap, has the inverse function.  `PermOk n σ` (the function
  is bijective) is the equivalent form that is closed under `combineSwapDicts`, by composing.
  Namespaces: everything is in `LW` (`PermBelow`, `SwapsOk.…`, `PermOk.…` are the real ones, so dot notation works)
  except `section DictMap` and `fn_map_pair`, which are in `LW.Proofs.C02`; the `LW.Dict` lemmas on `fn` come in four
  blocks, each in front of the block that uses it.
-/
import Mathlib.Data.List.Nodup
import Mathlib.Data.List.Perm.Basic
import Mathlib.Logic.Function.Basic
import LW.Proofs.CircuitWf
import LW.Proofs.DictLemmas
import LW.Proofs.RewriteShape
import LW.Proofs.ModeRank

namespace LW

namespace Dict

theorem fn_cons (k v : Nat) (σ : Dict) (c : Nat) :
    fn ((k, v) :: σ) c = if k = c then v else fn σ c := by
  unfold fn Dict.getD Dict.get?
  by_cases h : k = c
  · simp [h]
  · simp [h]

@[simp] theorem keys_nil : Dict.keys [] = [] := rfl
@[simp] theorem keys_cons (p : Nat × Nat) (σ : Dict) : Dict.keys (p :: σ) = p.1 :: Dict.keys σ := rfl
@[simp] theorem vals_nil : Dict.vals [] = [] := rfl
@[simp] theorem vals_cons (p : Nat × Nat) (σ : Dict) : Dict.vals (p :: σ) = p.2 :: Dict.vals σ := rfl

theorem mem_keys {σ : Dict} {k : Nat} : k ∈ Dict.keys σ ↔ ∃ v, (k, v) ∈ σ := by
  simp [Dict.keys]

theorem mem_vals {σ : Dict} {v : Nat} : v ∈ Dict.vals σ ↔ ∃ k, (k, v) ∈ σ := by
  simp [Dict.vals]

theorem fn_mem {σ : Dict} {c : Nat} (h : c ∈ Dict.keys σ) : (c, fn σ c) ∈ σ := by
  rcases getD_cases σ c with ⟨hn, _⟩ | ⟨v, hv, e⟩
  · exact absurd h hn
  · exact (show fn σ c = v from e) ▸ hv

theorem vals_eq_map_fn {σ : Dict} (hnd : (Dict.keys σ).Nodup) :
    Dict.vals σ = (Dict.keys σ).map (fn σ) := by
  unfold Dict.vals Dict.keys
  rw [List.map_map]
  apply List.map_congr_left
  intro p hp
  exact (getD_eq_of_mem hnd (k := p.1) (v := p.2) hp p.1).symm

theorem fn_mem_vals {σ : Dict} {c : Nat} (h : c ∈ Dict.keys σ) : fn σ c ∈ Dict.vals σ :=
  mem_vals.mpr ⟨c, fn_mem h⟩

theorem fn_append (a b : Dict) (c : Nat) :
    fn (a ++ b) c = if c ∈ Dict.keys a then fn a c else fn b c := by
  induction a with
  | nil => simp
  | cons p a ih =>
    obtain ⟨k, v⟩ := p
    rw [List.cons_append, fn_cons, fn_cons, ih]
    by_cases e : k = c
    · simp [e]
    · have : ¬ c = k := fun h => e h.symm
      simp [e, this]

theorem fn_foldl_set (ps : List (Nat × Nat)) (hps : (Dict.keys ps).Nodup) (d : Dict) (c : Nat) :
    fn (ps.foldl (fun d p => Dict.set d p.1 p.2) d) c
      = if c ∈ Dict.keys ps then fn ps c else fn d c := by
  induction ps generalizing d with
  | nil => simp
  | cons p ps ih =>
    obtain ⟨k, v⟩ := p
    simp only [keys_cons, List.nodup_cons] at hps
    rw [List.foldl_cons, ih hps.2, fn_set, fn_cons]
    simp only [keys_cons, List.mem_cons]
    by_cases hc : c ∈ Dict.keys ps
    · have : ¬ k = c := fun e => hps.1 (e ▸ hc)
      simp [hc, this]
    · by_cases e : k = c
      · simp [e, hc]
      · have : ¬ c = k := fun x => e x.symm
        simp [hc, e, this]

theorem fn_ofPairs (ps : List (Nat × Nat)) (hps : (Dict.keys ps).Nodup) (c : Nat) :
    fn (Dict.ofPairs ps) c = fn ps c := by
  unfold Dict.ofPairs
  rw [fn_foldl_set ps hps]
  by_cases hc : c ∈ Dict.keys ps
  · rw [if_pos hc]
  · rw [if_neg hc, fn_of_not_mem hc, fn_nil]

theorem keys_sublist_of_sublist {a b : Dict} (h : List.Sublist a b) :
    List.Sublist (Dict.keys a) (Dict.keys b) := h.map _

theorem fn_filter_of_mem {τ : Dict} (hτ : (Dict.keys τ).Nodup) (q : Nat × Nat → Bool) {c : Nat}
    (hc : c ∈ Dict.keys (τ.filter q)) : fn (τ.filter q) c = fn τ c :=
  (getD_eq_of_mem hτ (List.filter_sublist.subset (fn_mem hc)) c).symm

theorem fn_filter_ne (d : Dict) (hd : (Dict.keys d).Nodup) (c : Nat) :
    fn (d.filter fun p => p.1 != p.2) c = fn d c := by
  by_cases hc : c ∈ Dict.keys (d.filter fun p => p.1 != p.2)
  · exact fn_filter_of_mem hd _ hc
  · rw [fn_of_not_mem hc]
    by_cases hcd : c ∈ Dict.keys d
    · -- the entry of `c` was dropped, so it is an identity entry
      by_contra hne
      exact hc (mem_keys.mpr ⟨fn d c, List.mem_filter.mpr ⟨fn_mem hcd, by simpa using hne⟩⟩)
    · exact (fn_of_not_mem hcd).symm

end Dict

namespace Proofs.C02

section DictMap
variable (f : Nat → Nat) (hf : ∀ a b, f a = f b → a = b)
include hf

theorem contains_map_pair (d : Dict) (k : Nat) :
    Dict.contains (d.map fun p => (f p.1, f p.2)) (f k) = d.contains k := by
  induction d with
  | nil => rfl
  | cons p d ih =>
    simp only [Dict.contains, List.map_cons, List.any_cons] at ih ⊢
    rw [ih]
    congr 1
    by_cases e : p.1 = k
    · simp [e]
    · have : ¬ f p.1 = f k := fun h => e (hf _ _ h)
      simp [e, this]

theorem set_map_pair (d : Dict) (k v : Nat) :
    Dict.set (d.map fun p => (f p.1, f p.2)) (f k) (f v)
      = (d.set k v).map fun p => (f p.1, f p.2) := by
  unfold Dict.set
  rw [contains_map_pair f hf]
  split
  · rw [List.map_map, List.map_map]
    apply List.map_congr_left
    intro p _
    simp only [Function.comp]
    by_cases e : p.1 = k
    · simp [e]
    · have : ¬ f p.1 = f k := fun h => e (hf _ _ h)
      simp [e, this]
  · simp

theorem foldl_set_map_pair (ps : List (Nat × Nat)) (acc : Dict) :
    (ps.map fun p => (f p.1, f p.2)).foldl (fun (d : Dict) (p : Nat × Nat) => d.set p.1 p.2)
        (acc.map fun p => (f p.1, f p.2))
      = (ps.foldl (fun (d : Dict) (p : Nat × Nat) => d.set p.1 p.2) acc).map fun p => (f p.1, f p.2) := by
  induction ps generalizing acc with
  | nil => rfl
  | cons p ps ih =>
    simp only [List.map_cons, List.foldl_cons]
    rw [set_map_pair f hf, ih]

theorem ofPairs_map_pair (ps : List (Nat × Nat)) :
    Dict.ofPairs (ps.map fun p => (f p.1, f p.2)) = (Dict.ofPairs ps).map fun p => (f p.1, f p.2) := by
  unfold Dict.ofPairs
  exact foldl_set_map_pair f hf ps []

end DictMap

theorem fn_map_pair (σ : Dict) (f : Nat → Nat) (hf : ∀ a b, f a = f b → a = b) (x : Nat) :
    Dict.fn (σ.map fun p => (f p.1, f p.2)) (f x) = f (Dict.fn σ x) := by
  induction σ with
  | nil => rfl
  | cons p σ ih =>
    obtain ⟨k, v⟩ := p
    rw [List.map_cons, Dict.fn_cons, Dict.fn_cons, ih]
    by_cases e : k = x
    · rw [if_pos e, if_pos (by rw [e])]
    · rw [if_neg e, if_neg (fun e' => e (hf _ _ e'))]

end Proofs.C02

/-- `t` is a permutation of the naturals with inverse `g` that fixes every `k ≥ n`: the form in which the matrix lemmas
of CompMat take a permutation of the modes -/
structure PermBelow (n : Nat) (t g : Nat → Nat) : Prop where
  left : ∀ k, g (t k) = k
  right : ∀ k, t (g k) = k
  fix : ∀ k, n ≤ k → t k = k

namespace PermBelow
variable {n : Nat} {t g : Nat → Nat}

theorem inj (h : PermBelow n t g) {a b : Nat} (e : t a = t b) : a = b := by
  rw [← h.left a, e, h.left]

theorem eq_iff (h : PermBelow n t g) {a b : Nat} : t a = t b ↔ a = b :=
  ⟨h.inj, fun e => by rw [e]⟩

theorem fix_inv (h : PermBelow n t g) (k : Nat) (hk : n ≤ k) : g k = k := by
  have := h.left k
  rwa [h.fix k hk] at this

theorem symm (h : PermBelow n t g) : PermBelow n g t := ⟨h.right, h.left, h.fix_inv⟩

theorem mono (h : PermBelow n t g) {N : Nat} (hN : n ≤ N) : PermBelow N t g :=
  ⟨h.left, h.right, fun k hk => h.fix k (le_trans hN hk)⟩

theorem lt (h : PermBelow n t g) {N k : Nat} (hN : n ≤ N) (hk : k < N) : t k < N := by
  by_contra hc
  have h1 : t (t k) = t k := h.fix _ (le_trans hN (Nat.le_of_not_lt hc))
  have := h.inj h1
  omega

theorem eq_fixed_iff (h : PermBelow n t g) {m r : Nat} (hm : t m = m) : t r = m ↔ r = m := by
  constructor
  · intro e; rw [← hm] at e; exact h.inj e
  · intro e; rw [e, hm]

theorem comp {t' g' : Nat → Nat} (h : PermBelow n t g) (h' : PermBelow n t' g') :
    PermBelow n (t' ∘ t) (g ∘ g') :=
  ⟨fun k => by simp only [Function.comp, h'.left, h.left],
    fun k => by simp only [Function.comp, h.right, h'.right],
    fun k hk => by simp only [Function.comp, h.fix k hk, h'.fix k hk]⟩

end PermBelow

/-- the cyclic shift that takes `k` to `N` and moves `(k, N]` down by one; `fromEnd` is its inverse -/
def toEnd (k N x : Nat) : Nat := if x = k then N else if k < x ∧ x ≤ N then x - 1 else x

def fromEnd (k N x : Nat) : Nat := if x = N then k else if k ≤ x ∧ x < N then x + 1 else x

theorem permBelow_toEnd {k N : Nat} (hk : k ≤ N) : PermBelow (N + 1) (toEnd k N) (fromEnd k N) :=
  ⟨fun x => by unfold toEnd fromEnd; grind, fun x => by unfold toEnd fromEnd; grind,
    fun x hx => by unfold toEnd; grind⟩

/-- the dictionary describes a permutation of the modes `< n`, said through its function.  Equivalent to `SwapsOk`
(`SwapsOk.permOk`, `PermOk.swapsOk` below); `Bijective (fn σ)` instead of `keys.Perm vals` because it makes
`combineSwapDicts` (`PermOk.combine`) a composition of bijections. -/
structure PermOk (n : Nat) (σ : Dict) : Prop where
  nodup : (Dict.keys σ).Nodup
  lt : ∀ k ∈ Dict.keys σ, k < n
  bij : Function.Bijective (Dict.fn σ)

namespace Dict

theorem keys_conv (σ : Dict) : Dict.keys (σ.map fun p => (p.2, p.1)) = Dict.vals σ := by
  unfold Dict.keys Dict.vals
  rw [List.map_map]
  rfl

theorem vals_conv (σ : Dict) : Dict.vals (σ.map fun p => (p.2, p.1)) = Dict.keys σ := by
  unfold Dict.keys Dict.vals
  rw [List.map_map]
  rfl

end Dict

namespace SwapsOk
variable {n : Nat} {σ : Dict}

theorem nodup (h : SwapsOk n σ) : (Dict.keys σ).Nodup := h.1
theorem perm (h : SwapsOk n σ) : (Dict.keys σ).Perm (Dict.vals σ) := h.2.1
theorem lt (h : SwapsOk n σ) : ∀ k ∈ Dict.keys σ, k < n := h.2.2

theorem vals_lt (h : SwapsOk n σ) : ∀ v ∈ Dict.vals σ, v < n :=
  fun v hv => h.lt v (h.perm.mem_iff.mpr hv)

theorem vals_nodup (h : SwapsOk n σ) : (Dict.vals σ).Nodup := h.perm.nodup_iff.mp h.nodup

theorem mono (h : SwapsOk n σ) {N : Nat} (hN : n ≤ N) : SwapsOk N σ :=
  ⟨h.nodup, h.perm, fun k hk => lt_of_lt_of_le (h.lt k hk) hN⟩

theorem fix (h : SwapsOk n σ) (k : Nat) (hk : n ≤ k) : Dict.fn σ k = k :=
  Dict.fn_of_not_mem fun hm => absurd (h.lt k hm) (by omega)

theorem fn_mem_keys (h : SwapsOk n σ) {c : Nat} (hc : c ∈ Dict.keys σ) : Dict.fn σ c ∈ Dict.keys σ :=
  h.perm.mem_iff.mpr (Dict.fn_mem_vals hc)

theorem conv (h : SwapsOk n σ) : SwapsOk n (σ.map fun p => (p.2, p.1)) := by
  unfold SwapsOk
  rw [Dict.keys_conv, Dict.vals_conv]
  exact ⟨h.vals_nodup, h.perm.symm, h.vals_lt⟩

theorem ofPairs_conv (h : SwapsOk n σ) :
    Dict.ofPairs (σ.map fun p => (p.2, p.1)) = σ.map fun p => (p.2, p.1) :=
  Proofs.C02.ofPairs_of_nodup (h.conv.nodup)

theorem fn_conv_fn (h : SwapsOk n σ) (c : Nat) : Dict.fn (σ.map fun p => (p.2, p.1)) (Dict.fn σ c) = c := by
  by_cases hc : c ∈ Dict.keys σ
  · exact Dict.getD_eq_of_mem h.conv.nodup (List.mem_map.mpr ⟨(c, Dict.fn σ c), Dict.fn_mem hc, rfl⟩) _
  · rw [Dict.fn_of_not_mem hc]
    exact Dict.fn_of_not_mem fun x => hc (h.perm.mem_iff.mpr (Dict.keys_conv σ ▸ x))

/-- the one bridge from `SwapsOk` to the matrix lemmas: the converse dictionary, which is how the model writes the
inverse swap (`Prim.convertNonAdj`), has the inverse function -/
theorem permBelow (h : SwapsOk n σ) :
    PermBelow n (Dict.fn σ) (Dict.fn (Dict.ofPairs (σ.map fun p => (p.2, p.1)))) := by
  rw [h.ofPairs_conv]
  refine ⟨h.fn_conv_fn, fun k => ?_, h.fix⟩
  have := h.conv.fn_conv_fn k
  rwa [show (σ.map fun p => (p.2, p.1)).map (fun p => (p.2, p.1)) = σ from
    List.map_map.trans (List.map_id σ)] at this

theorem inverse (h : SwapsOk n σ) : SwapsOk n (Dict.ofPairs (σ.map fun p => (p.2, p.1))) :=
  h.ofPairs_conv.symm ▸ h.conv

theorem permOk (h : SwapsOk n σ) : PermOk n σ :=
  ⟨h.nodup, h.lt, Function.bijective_iff_has_inverse.mpr ⟨_, h.permBelow.left, h.permBelow.right⟩⟩

theorem fn_lt {N x : Nat} (h : SwapsOk n σ) (hN : n ≤ N) (hx : x < N) : Dict.fn σ x < N :=
  h.permBelow.lt hN hx

end SwapsOk

namespace PermOk
variable {n : Nat} {σ : Dict}

theorem swapsOk (h : PermOk n σ) : SwapsOk n σ := by
  have hv : (Dict.vals σ).Nodup := Dict.vals_eq_map_fn h.nodup ▸ h.nodup.map h.bij.1
  refine ⟨h.nodup, ((hv.subperm fun v hv => ?_).perm_of_length_le (by simp [Dict.vals, Dict.keys])).symm, h.lt⟩
  -- a value outside the keys would be fixed, and the image of its key
  obtain ⟨k, hk⟩ := Dict.mem_vals.mp hv
  by_contra hn
  have : k = v := h.bij.1 ((Dict.getD_eq_of_mem h.nodup hk k).trans (Dict.fn_of_not_mem hn).symm)
  exact hn (this ▸ Dict.mem_keys.mpr ⟨_, hk⟩)

theorem permBelow (h : PermOk n σ) : ∃ g, PermBelow n (Dict.fn σ) g := ⟨_, h.swapsOk.permBelow⟩

end PermOk

/-- it is enough that `fn σ` rearranges `List.range n`: off the keys the function is the identity, and the modes below
`n` are the keys followed by the rest -/
theorem swapsOk_of_map_range {n : Nat} {σ : Dict} (hnd : (Dict.keys σ).Nodup)
    (hlt : ∀ k ∈ Dict.keys σ, k < n)
    (h : ((List.range n).map (Dict.fn σ)).Perm (List.range n)) : SwapsOk n σ := by
  refine ⟨hnd, ?_, hlt⟩
  have hp := Proofs.C02Sem.perm_append_freeOf n _ hnd hlt
  have h2 := (hp.map (Dict.fn σ)).trans (h.trans hp.symm)
  have hfix : (Proofs.C02Sem.freeOf n (Dict.keys σ)).map (Dict.fn σ) = Proofs.C02Sem.freeOf n (Dict.keys σ) :=
    (List.map_congr_left fun x hx => Dict.fn_of_not_mem (Proofs.C02Sem.mem_freeOf.mp hx).2).trans (List.map_id _)
  rw [List.map_append, hfix, ← Dict.vals_eq_map_fn hnd] at h2
  exact ((List.perm_append_right_iff _).mp h2).symm

namespace Dict

theorem keys_map_vals (σ : Dict) (F : Nat → Nat) :
    Dict.keys (σ.map fun p => (p.1, F p.2)) = Dict.keys σ := by
  unfold Dict.keys
  rw [List.map_map]
  rfl

theorem fn_map_vals (σ : Dict) (F : Nat → Nat) (c : Nat) :
    fn (σ.map fun p => (p.1, F p.2)) c = if c ∈ Dict.keys σ then F (fn σ c) else c := by
  induction σ with
  | nil => simp
  | cons p σ ih =>
    obtain ⟨k, v⟩ := p
    rw [List.map_cons, fn_cons, fn_cons, ih]
    simp only [keys_cons, List.mem_cons]
    by_cases e : k = c
    · simp [e]
    · have : ¬ c = k := fun x => e x.symm
      simp [e, this]

theorem ite_contains_eq_fn (τ : Dict) (v : Nat) :
    (if Dict.contains τ v then Dict.getD τ v v else v) = fn τ v := by
  by_cases h : Dict.contains τ v = true
  · rw [if_pos h]; rfl
  · rw [if_neg h, fn_of_not_mem (fun x => h (Proofs.C02.contains_iff.mpr x))]

end Dict

section Combine
variable {n : Nat} {σ τ : Dict}

theorem combineSwapDicts_eq (σ τ : Dict) :
    combineSwapDicts σ τ =
      (((τ.filter fun p => !((σ.filter fun p => Dict.contains τ p.2).map (·.2)).contains p.1).foldl
        (fun d p => Dict.set d p.1 p.2) (σ.map fun p => (p.1, Dict.fn τ p.2))).filter
          fun p => p.1 != p.2) := by
  unfold combineSwapDicts
  simp only [Dict.ite_contains_eq_fn]

private theorem mem_keys_filter_tau (σ τ : Dict) (c : Nat) :
    c ∈ Dict.keys (τ.filter fun p =>
        !((σ.filter fun p => Dict.contains τ p.2).map (·.2)).contains p.1)
      ↔ c ∈ Dict.keys τ ∧ c ∉ Dict.vals σ := by
  simp only [Dict.mem_keys, List.mem_filter, Bool.not_eq_true', List.contains_eq_mem,
    decide_eq_false_iff_not, List.mem_map, not_exists, not_and, Dict.mem_vals, Proofs.C02.contains_iff]
  constructor
  · rintro ⟨v, hv, hn⟩
    refine ⟨⟨v, hv⟩, ?_⟩
    intro k hk
    exact hn (k, c) ⟨hk, ⟨v, hv⟩⟩ rfl
  · rintro ⟨⟨v, hv⟩, hn⟩
    refine ⟨v, hv, ?_⟩
    rintro ⟨a, b⟩ ⟨hab, _⟩ e
    simp only at e
    subst e
    exact hn a hab

theorem fn_combine (hσ : SwapsOk n σ) (hτ : (Dict.keys τ).Nodup) (c : Nat) :
    Dict.fn (combineSwapDicts σ τ) c = Dict.fn τ (Dict.fn σ c) := by
  rw [combineSwapDicts_eq]
  have hτ' : (Dict.keys (τ.filter fun p =>
      !((σ.filter fun p => Dict.contains τ p.2).map (·.2)).contains p.1)).Nodup :=
    (Dict.keys_sublist_of_sublist List.filter_sublist).nodup hτ
  have hp1 : (Dict.keys (σ.map fun p => (p.1, Dict.fn τ p.2))).Nodup := by
    rw [Dict.keys_map_vals]; exact hσ.nodup
  rw [Dict.fn_filter_ne _ (Proofs.C02.nodup_keys_foldl_set _ _ hp1), Dict.fn_foldl_set _ hτ',
    Dict.fn_map_vals]
  by_cases hc : c ∈ Dict.keys σ
  · have hv : c ∈ Dict.vals σ := hσ.perm.mem_iff.mp hc
    rw [if_neg (fun x => ((mem_keys_filter_tau σ τ c).mp x).2 hv), if_pos hc]
  · have hv : c ∉ Dict.vals σ := fun x => hc (hσ.perm.mem_iff.mpr x)
    rw [Dict.fn_of_not_mem hc]
    by_cases hct : c ∈ Dict.keys τ
    · have hm := (mem_keys_filter_tau σ τ c).mpr ⟨hct, hv⟩
      rw [if_pos hm, Dict.fn_filter_of_mem hτ _ hm]
    · rw [if_neg (fun x => hct ((mem_keys_filter_tau σ τ c).mp x).1), if_neg hc,
        Dict.fn_of_not_mem hct]

theorem PermOk.combine (hσ : PermOk n σ) (hτ : PermOk n τ) : PermOk n (combineSwapDicts σ τ) := by
  refine ⟨?_, ?_, ?_⟩
  · rw [combineSwapDicts_eq]
    apply (Dict.keys_sublist_of_sublist List.filter_sublist).nodup
    apply Proofs.C02.nodup_keys_foldl_set
    rw [Dict.keys_map_vals]
    exact hσ.nodup
  · intro k hk
    rw [combineSwapDicts_eq] at hk
    have hk' := (Dict.keys_sublist_of_sublist List.filter_sublist).subset hk
    rcases (Proofs.C02.mem_keys_foldl_set _ _ k).mp hk' with hk' | hk'
    · exact hσ.lt k (by rwa [Dict.keys_map_vals] at hk')
    · exact hτ.lt k ((Dict.keys_sublist_of_sublist List.filter_sublist).subset hk')
  · have : Dict.fn (combineSwapDicts σ τ) = Dict.fn τ ∘ Dict.fn σ := by
      funext c
      exact fn_combine hσ.swapsOk hτ.nodup c
    rw [this]
    exact hτ.bij.comp hσ.bij

end Combine

namespace Dict

theorem keys_map_range (a m : Nat) (F : Nat → Nat) :
    Dict.keys ((List.range m).map fun k => (a + k, F (a + k))) = (List.range m).map (a + ·) := by
  unfold Dict.keys
  rw [List.map_map]
  rfl

theorem fn_map_range (a m : Nat) (F : Nat → Nat) (c : Nat) :
    fn ((List.range m).map fun k => (a + k, F (a + k))) c
      = if a ≤ c ∧ c < a + m then F c else c := by
  by_cases h : a ≤ c ∧ c < a + m
  · rw [if_pos h]
    apply getD_eq_of_mem
    · rw [keys_map_range]
      exact (List.nodup_range).map (fun x y e => by simpa using e)
    · refine List.mem_map.mpr ⟨c - a, List.mem_range.mpr (by omega), ?_⟩
      have : a + (c - a) = c := by omega
      simp only [this]
  · rw [if_neg h]
    apply fn_of_not_mem
    rw [keys_map_range]
    simp only [List.mem_map, List.mem_range, not_exists, not_and]
    intro x hx e
    omega

end Dict

/-- the permutation performed by `nonAdjSwaps lo hi`.  With `mid = (lo + hi - 1) / 2` the two windows are `[lo, mid]`
and `[mid + 1, hi]`; their bounds are written `a + m` (`lo + (mid + 1 - lo)`, `mid + 1 + (hi - mid)`) because that is
what `fn_map_range` produces from the two `List.range`s of the model.  The midpoint is spelled out everywhere, as in
`nonAdjSwaps` and `Prim.convertNonAdj`, so that `fn_nonAdjSwaps_min_max` meets `Prim.convertNonAdj_bs_nonadj`
(RewriteShape) syntactically. -/
def nonAdjFn (lo hi c : Nat) : Nat :=
  if lo ≤ c ∧ c < lo + ((lo + hi - 1) / 2 + 1 - lo) then (if c = lo then (lo + hi - 1) / 2 else c - 1)
  else if (lo + hi - 1) / 2 + 1 ≤ c ∧ c < (lo + hi - 1) / 2 + 1 + (hi - (lo + hi - 1) / 2) then
    (if c = hi then (lo + hi - 1) / 2 + 1 else c + 1)
  else c

theorem fn_nonAdjSwaps (lo hi c : Nat) : Dict.fn (nonAdjSwaps lo hi) c = nonAdjFn lo hi c := by
  unfold nonAdjSwaps nonAdjFn
  simp only []
  rw [Dict.fn_append,
    Dict.keys_map_range lo _ (fun i => if i = lo then (lo + hi - 1) / 2 else i - 1),
    Dict.fn_map_range lo _ (fun i => if i = lo then (lo + hi - 1) / 2 else i - 1),
    Dict.fn_map_range ((lo + hi - 1) / 2 + 1) _
      (fun i => if i = hi then (lo + hi - 1) / 2 + 1 else i + 1)]
  by_cases h : lo ≤ c ∧ c < lo + ((lo + hi - 1) / 2 + 1 - lo)
  · have : c ∈ (List.range ((lo + hi - 1) / 2 + 1 - lo)).map (lo + ·) :=
      List.mem_map.mpr ⟨c - lo, List.mem_range.mpr (by omega), by omega⟩
    rw [if_pos this, if_pos h, if_pos h]
  · have : c ∉ (List.range ((lo + hi - 1) / 2 + 1 - lo)).map (lo + ·) := by
      simp only [List.mem_map, List.mem_range, not_exists, not_and]
      intro x hx e
      omega
    rw [if_neg this, if_neg h]

/-- `nonAdjSwaps lo hi` performs two cyclic shifts: `lo` goes to the top of the lower half, `hi` to
the bottom of the upper half -/
theorem nonAdjFn_eq {lo hi : Nat} (h : lo < hi) (c : Nat) :
    nonAdjFn lo hi c = fromEnd ((lo + hi - 1) / 2 + 1) hi (toEnd lo ((lo + hi - 1) / 2) c) := by
  unfold nonAdjFn fromEnd toEnd
  grind

theorem nonAdjFn_lo (lo hi : Nat) (h : lo < hi) : nonAdjFn lo hi lo = (lo + hi - 1) / 2 := by
  unfold nonAdjFn
  rw [if_pos (by omega), if_pos rfl]

theorem nonAdjFn_hi (lo hi : Nat) (h : lo < hi) : nonAdjFn lo hi hi = (lo + hi - 1) / 2 + 1 := by
  unfold nonAdjFn
  rw [if_neg (by omega), if_pos (by omega), if_pos rfl]

theorem fn_nonAdjSwaps_min_max {m1 m2 : Nat} (hne : m1 ≠ m2) :
    Dict.fn (nonAdjSwaps (min m1 m2) (max m1 m2)) m1
        = (if m1 > m2 then (min m1 m2 + max m1 m2 - 1) / 2 + 1
            else (min m1 m2 + max m1 m2 - 1) / 2) ∧
    Dict.fn (nonAdjSwaps (min m1 m2) (max m1 m2)) m2
        = (if m1 > m2 then (min m1 m2 + max m1 m2 - 1) / 2
            else (min m1 m2 + max m1 m2 - 1) / 2 + 1) := by
  rw [fn_nonAdjSwaps, fn_nonAdjSwaps]
  rcases Nat.lt_or_gt_of_ne hne with h | h
  · rw [Nat.min_eq_left h.le, Nat.max_eq_right h.le, if_neg (by omega), if_neg (by omega),
      nonAdjFn_lo _ _ h, nonAdjFn_hi _ _ h]
    exact ⟨rfl, rfl⟩
  · rw [Nat.min_eq_right h.le, Nat.max_eq_left h.le, if_pos h, if_pos h,
      nonAdjFn_lo _ _ h, nonAdjFn_hi _ _ h]
    exact ⟨rfl, rfl⟩

theorem keys_nonAdjSwaps (lo hi : Nat) :
    Dict.keys (nonAdjSwaps lo hi)
      = (List.range ((lo + hi - 1) / 2 + 1 - lo)).map (lo + ·)
        ++ (List.range (hi - (lo + hi - 1) / 2)).map ((lo + hi - 1) / 2 + 1 + ·) := by
  unfold nonAdjSwaps
  simp only []
  rw [Proofs.C02.keys_append,
    Dict.keys_map_range lo _ (fun i => if i = lo then (lo + hi - 1) / 2 else i - 1),
    Dict.keys_map_range ((lo + hi - 1) / 2 + 1) _
      (fun i => if i = hi then (lo + hi - 1) / 2 + 1 else i + 1)]

theorem mem_keys_nonAdjSwaps {lo hi k : Nat} (h : lo < hi) :
    k ∈ Dict.keys (nonAdjSwaps lo hi) ↔ lo ≤ k ∧ k ≤ hi := by
  rw [keys_nonAdjSwaps]
  have h1 : lo ≤ (lo + hi - 1) / 2 := by omega
  have h2 : (lo + hi - 1) / 2 < hi := by omega
  generalize (lo + hi - 1) / 2 = mid at h1 h2 ⊢
  simp only [List.mem_append, List.mem_map, List.mem_range]
  constructor
  · rintro (⟨x, hx, rfl⟩ | ⟨x, hx, rfl⟩) <;> omega
  · intro hk
    by_cases hm : k ≤ mid
    · exact Or.inl ⟨k - lo, by omega, by omega⟩
    · exact Or.inr ⟨k - (mid + 1), by omega, by omega⟩

theorem nonAdjSwaps_swapsOk (n lo hi : Nat) (h : lo < hi) (hn : hi < n) :
    SwapsOk n (nonAdjSwaps lo hi) := by
  refine PermOk.swapsOk ⟨?_, fun k hk => by have := (mem_keys_nonAdjSwaps h).mp hk; omega, ?_⟩
  · rw [keys_nonAdjSwaps, List.nodup_append]
    refine ⟨(List.nodup_range).map (fun x y e => by simpa using e),
      (List.nodup_range).map (fun x y e => by simpa using e), ?_⟩
    intro a ha b hb
    simp only [List.mem_map, List.mem_range] at ha hb
    obtain ⟨x, hx, rfl⟩ := ha
    obtain ⟨y, hy, rfl⟩ := hb
    omega
  · have h1 : lo ≤ (lo + hi - 1) / 2 := by omega
    have h2 : (lo + hi - 1) / 2 + 1 ≤ hi := by omega
    have hp := ((permBelow_toEnd h1).mono (Nat.le_succ_of_le h2)).comp (permBelow_toEnd h2).symm
    rw [funext (fn_nonAdjSwaps lo hi), funext (nonAdjFn_eq h)]
    exact Function.bijective_iff_has_inverse.mpr ⟨_, hp.left, hp.right⟩

theorem Prim.convertNonAdj_bs_conj {K : Type} {m1 m2 : Nat} (c s : K) (cv : Conv) (hne : m1 ≠ m2)
    (h : ¬(m1 + 1 = m2 ∨ m2 + 1 = m1)) :
    (Prim.bs m1 m2 c s cv).convertNonAdj =
      [.swaps (nonAdjSwaps (min m1 m2) (max m1 m2)),
       .bs (Dict.fn (nonAdjSwaps (min m1 m2) (max m1 m2)) m1)
         (Dict.fn (nonAdjSwaps (min m1 m2) (max m1 m2)) m2) c s cv,
       .swaps (Dict.ofPairs ((nonAdjSwaps (min m1 m2) (max m1 m2)).map fun p => (p.2, p.1)))] := by
  rw [Prim.convertNonAdj_bs_nonadj m1 m2 c s cv h, (fn_nonAdjSwaps_min_max hne).1,
    (fn_nonAdjSwaps_min_max hne).2]

end LW
