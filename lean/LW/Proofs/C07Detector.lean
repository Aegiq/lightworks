/-
  C07Detector — the tape-driven detector as a function of its tape, for the model (`detectorSample`,
  rational tape) and for its real-valued twin (`detectorSampleR`): one closed form over any tape
  alphabet (`detClosed`), naturality in the alphabet, agreement of the twin with the model on
  rational tapes.
-/
import Mathlib.Data.Real.Basic
import LW.Proofs.C07Kernel

namespace LW.Proofs.C07

/-!
The detector is analysed through a closed form that depends on the tape only through the two tests
`lost u := u > η` and `dark u := u < p_dark`; the tape alphabet and the tests are parameters, so the
same lemmas serve the real-valued twin `detectorSampleR` below.

The loop bodies enter as arbitrary step functions obeying their defining equations, not as one
definition generic in the alphabet: the `match` in the model's loop body is a matcher on `List Rat`,
which `rfl` identifies with a copy of the body over `Rat` (`effStep`, `darkStep`; `effStepR`,
`darkStepR` over `ℝ`) and not with an instance of a generic one. -/

section closed
variable {α : Type} (lost dark : α → Prop) [DecidablePred lost] [DecidablePred dark]

/-- kept photons per mode: mode `n` reads the next `n` tape entries (fewer if the tape runs out) -/
def keptList : FState → List α → FState
  | [], _ => []
  | n :: s, tape =>
    (n - (tape.take n).countP (fun u => decide (lost u))) :: keptList s (tape.drop n)

/-- counts after the dark-count stage: each mode reads one tape entry and gains a count if it tests
`dark` (unchanged once the tape has run out) -/
def darkList : FState → List α → FState
  | [], _ => []
  | n :: o, [] => n :: darkList o []
  | n :: o, u :: t => (if dark u then n + 1 else n) :: darkList o t

theorem keptList_length (s : FState) (tape : List α) : (keptList lost s tape).length = s.length := by
  induction s generalizing tape with
  | nil => rfl
  | cons n s ih => simp [keptList, ih]

theorem darkList_length (o : FState) (tape : List α) : (darkList dark o tape).length = o.length := by
  induction o generalizing tape with
  | nil => rfl
  | cons n o ih => cases tape <;> simp [darkList, ih]

theorem keptList_getD_le (s : FState) (tape : List α) (m : Nat) :
    (keptList lost s tape).getD m 0 ≤ s.getD m 0 := by
  induction s generalizing tape m with
  | nil => exact Nat.le_refl _
  | cons n s ih =>
    cases m with
    | zero => exact Nat.sub_le _ _
    | succ m => exact ih _ m

theorem darkList_getD_le (o : FState) (tape : List α) (m : Nat) :
    (darkList dark o tape).getD m 0 ≤ o.getD m 0 + 1 := by
  induction o generalizing tape m with
  | nil => exact Nat.le_succ _
  | cons n o ih =>
    cases tape with
    | nil =>
      cases m with
      | zero => exact Nat.le_succ n
      | succ m => exact ih [] m
    | cons u t =>
      cases m with
      | zero =>
        show (if dark u then n + 1 else n) ≤ n + 1
        split <;> omega
      | succ m => exact ih t m

theorem keptList_append (s : FState) (t e : List α) (h : s.sum ≤ t.length) :
    keptList lost s (t ++ e) = keptList lost s t := by
  induction s generalizing t with
  | nil => rfl
  | cons n s ih =>
    rw [List.sum_cons] at h
    rw [keptList, keptList, List.take_append_of_le_length (by omega),
      List.drop_append_of_le_length (by omega), ih _ (by rw [List.length_drop]; omega)]

theorem darkList_append (o : FState) (t e : List α) (h : o.length ≤ t.length) :
    darkList dark o (t ++ e) = darkList dark o t := by
  induction o generalizing t with
  | nil => rfl
  | cons n o ih =>
    cases t with
    | nil => simp at h
    | cons u t => rw [List.cons_append, darkList, darkList, ih t (by simpa using h)]

/-- thinning of one mode: the fold over `range n` reads `n` entries and subtracts the lost ones -/
theorem inner_closed {β : Type} (step : Nat × List α → β → Nat × List α)
    (h1 : ∀ c u rest x, step (c, u :: rest) x = (if lost u then c - 1 else c, rest))
    (h0 : ∀ c x, step (c, []) x = (c, []))
    (l : List β) (c : Nat) (tape : List α) :
    l.foldl step (c, tape) =
      (c - (tape.take l.length).countP (fun u => decide (lost u)), tape.drop l.length) := by
  induction l generalizing c tape with
  | nil => simp
  | cons x l ih =>
    rw [List.foldl_cons]
    cases tape with
    | nil =>
      rw [h0, ih]; simp
    | cons u rest =>
      rw [h1, ih]
      simp only [List.length_cons, List.take_succ_cons, List.drop_succ_cons, List.countP_cons]
      by_cases h : lost u
      · simp only [h, if_true, decide_true]
        congr 1; omega
      · simp [h]

theorem stage1_closed (estep : FState × List α → Nat → FState × List α)
    (h : ∀ acc tape n, estep (acc, tape) n =
      (acc ++ [n - (tape.take n).countP (fun u => decide (lost u))], tape.drop n))
    (s : FState) (acc : FState) (tape : List α) :
    s.foldl estep (acc, tape) = (acc ++ keptList lost s tape, tape.drop s.sum) := by
  induction s generalizing acc tape with
  | nil => simp [keptList]
  | cons n s ih =>
    rw [List.foldl_cons, h, ih]
    simp [keptList, List.drop_drop]

theorem stage2_closed (dstep : FState × List α → Nat → FState × List α)
    (h1 : ∀ acc u rest n, dstep (acc, u :: rest) n = (acc ++ [if dark u then n + 1 else n], rest))
    (h0 : ∀ acc n, dstep (acc, []) n = (acc ++ [n], []))
    (o : FState) (acc : FState) (tape : List α) :
    o.foldl dstep (acc, tape) = (acc ++ darkList dark o tape, tape.drop o.length) := by
  induction o generalizing acc tape with
  | nil => simp [darkList]
  | cons n o ih =>
    rw [List.foldl_cons]
    cases tape with
    | nil => rw [h0, ih]; simp [darkList]
    | cons u t => rw [h1, ih]; simp [darkList]

end closed

/-- the threshold stage in the shape the model writes it, so that `detectorSample_eq` is `rfl`;
it is `List.map (thr d)` (`stage3_eq_map`) -/
def stage3 (d : Det) (out2 : FState) : FState :=
  if d.pnr then out2 else out2.map fun c => if c ≥ 1 then 1 else 0

theorem stage3_eq_map (d : Det) (o : FState) : stage3 d o = o.map (thr d) := by
  unfold stage3 thr
  split <;> simp

theorem stage3_nil (d : Det) : stage3 d [] = [] := by
  rw [stage3_eq_map]; rfl

theorem stage3_cons (d : Det) (x : Nat) (l : FState) :
    stage3 d (x :: l) = thr d x :: stage3 d l := by
  rw [stage3_eq_map, stage3_eq_map]; rfl

theorem stage3_length (d : Det) (o : FState) : (stage3 d o).length = o.length := by
  rw [stage3_eq_map, List.length_map]

theorem thr_le (d : Det) (x : Nat) : thr d x ≤ x := by
  unfold thr
  split
  · exact Nat.le_refl x
  · split <;> omega

theorem stage3_getD_le (d : Det) (o : FState) (m : Nat) : (stage3 d o).getD m 0 ≤ o.getD m 0 := by
  rw [stage3_eq_map, List.getD_eq_getElem?_getD, List.getElem?_map, List.getD_eq_getElem?_getD]
  cases o[m]? with
  | none => simp
  | some c => exact thr_le d c

theorem stage3_le_one (d : Det) (h : d.pnr = false) (o : FState) : ∀ c ∈ stage3 d o, c ≤ 1 := by
  rw [stage3_eq_map]
  intro c hc
  obtain ⟨x, _, rfl⟩ := List.mem_map.mp hc
  simp only [thr, h, Bool.false_eq_true, if_false]
  split <;> omega

section stages
variable {α : Type}

/-- the three stages of `Detector._get_output` around given per-mode step functions -/
def stages (estep dstep : FState × List α → Nat → FState × List α) (d : Det) (s : FState)
    (tape : List α) : FState × List α :=
  if d.eta = 1 ∧ d.pDark = 0 ∧ d.pnr then (s, tape)
  else
    let r1 := if d.eta < 1 then s.foldl estep ([], tape) else (s, tape)
    let r2 := if d.pDark > 0 then r1.1.foldl dstep ([], r1.2) else r1
    (stage3 d r2.1, r2.2)

/-- the closed form shared by the model and its real twin: `stages` with each fold replaced by
what it computes -/
def detClosed (lost dark : α → Prop) [DecidablePred lost] [DecidablePred dark]
    (d : Det) (s : FState) (tape : List α) : FState × List α :=
  let r1 : FState × List α :=
    if d.eta < 1 then (keptList lost s tape, tape.drop s.sum) else (s, tape)
  let r2 : FState × List α :=
    if d.pDark > 0 then (darkList dark r1.1 r1.2, r1.2.drop r1.1.length) else r1
  (stage3 d r2.1, r2.2)

theorem stages_closed (lost dark : α → Prop) [DecidablePred lost] [DecidablePred dark]
    (estep dstep : FState × List α → Nat → FState × List α)
    (he : ∀ acc tape n, estep (acc, tape) n =
      (acc ++ [n - (tape.take n).countP (fun u => decide (lost u))], tape.drop n))
    (hd1 : ∀ acc u rest n, dstep (acc, u :: rest) n = (acc ++ [if dark u then n + 1 else n], rest))
    (hd0 : ∀ acc n, dstep (acc, []) n = (acc ++ [n], []))
    (d : Det) (s : FState) (tape : List α) :
    stages estep dstep d s tape = detClosed lost dark d s tape := by
  unfold stages detClosed
  by_cases hperf : d.eta = 1 ∧ d.pDark = 0 ∧ d.pnr
  · obtain ⟨h1, h2, h3⟩ := hperf
    simp [h1, h2, h3, stage3]
  · rw [if_neg hperf]
    by_cases h1 : d.eta < 1 <;> by_cases h2 : d.pDark > 0 <;>
      simp only [h1, h2, if_true, if_false, stage1_closed lost estep he s [] tape,
        stage2_closed dark dstep hd1 hd0, List.nil_append]

end stages

def effStep (d : Det) (acc : FState × List Rat) (n : Nat) : FState × List Rat :=
  let (kept, tp) := (List.range n).foldl (fun (st : Nat × List Rat) _ =>
    match st.2 with
    | u :: rest => (if u > d.eta then st.1 - 1 else st.1, rest)
    | [] => st) (n, acc.2)
  (acc.1 ++ [kept], tp)

def darkStep (d : Det) (acc : FState × List Rat) (n : Nat) : FState × List Rat :=
  match acc.2 with
  | u :: rest => (acc.1 ++ [if u < d.pDark then n + 1 else n], rest)
  | [] => (acc.1 ++ [n], [])

theorem detectorSample_eq (d : Det) (s : FState) (tape : List Rat) :
    detectorSample d s tape = stages (effStep d) (darkStep d) d s tape := by
  unfold detectorSample stages; rfl

theorem effStep_closed (d : Det) (acc : FState) (tape : List Rat) (n : Nat) :
    effStep d (acc, tape) n =
      (acc ++ [n - (tape.take n).countP (fun u => decide (u > d.eta))], tape.drop n) := by
  unfold effStep
  simp only
  rw [inner_closed (fun u : Rat => u > d.eta) _ (fun _ _ _ _ => rfl) (fun _ _ => rfl)]
  simp

theorem detectorSample_closed (d : Det) (s : FState) (tape : List Rat) :
    detectorSample d s tape =
      detClosed (fun u : Rat => u > d.eta) (fun u : Rat => u < d.pDark) d s tape := by
  rw [detectorSample_eq]
  exact stages_closed _ _ _ _ (effStep_closed d) (fun _ _ _ _ => rfl) (fun _ _ => rfl) d s tape

/-- non-vacuity: an imperfect threshold detector on `[2,0,1]`; the tape is consumed in stage order
(3 thinning variates, then 3 dark-count variates) -/
example : detectorSample ⟨1/2, 1/4, false⟩ [2, 0, 1] [3/4, 1/4, 1/4, 1/2, 1/8, 1/2, 1/3] =
    ([1, 1, 1], [1/3]) := by decide +kernel

/-- real-valued twin of `detectorSample`: the same program on a tape of real variates (the
detector settings stay rational and are compared as reals) -/
noncomputable def detectorSampleR (d : Det) (s : FState) (tape : List ℝ) : FState × List ℝ :=
  if d.eta = 1 ∧ d.pDark = 0 ∧ d.pnr then (s, tape)
  else
    let (out1, tape1) :=
      if d.eta < 1 then
        s.foldl (fun (acc : FState × List ℝ) n =>
          let (kept, tp) := (List.range n).foldl (fun (st : Nat × List ℝ) _ =>
            match st.2 with
            | u :: rest => (if u > (d.eta : ℝ) then st.1 - 1 else st.1, rest)
            | [] => st) (n, acc.2)
          (acc.1 ++ [kept], tp)) ([], tape)
      else (s, tape)
    let (out2, tape2) :=
      if d.pDark > 0 then
        out1.foldl (fun (acc : FState × List ℝ) n =>
          match acc.2 with
          | u :: rest => (acc.1 ++ [if u < (d.pDark : ℝ) then n + 1 else n], rest)
          | [] => (acc.1 ++ [n], [])) ([], tape1)
      else (out1, tape1)
    let out3 := if d.pnr then out2 else out2.map fun c => if c ≥ 1 then 1 else 0
    (out3, tape2)

noncomputable def effStepR (d : Det) (acc : FState × List ℝ) (n : Nat) : FState × List ℝ :=
  let (kept, tp) := (List.range n).foldl (fun (st : Nat × List ℝ) _ =>
    match st.2 with
    | u :: rest => (if u > (d.eta : ℝ) then st.1 - 1 else st.1, rest)
    | [] => st) (n, acc.2)
  (acc.1 ++ [kept], tp)

noncomputable def darkStepR (d : Det) (acc : FState × List ℝ) (n : Nat) : FState × List ℝ :=
  match acc.2 with
  | u :: rest => (acc.1 ++ [if u < (d.pDark : ℝ) then n + 1 else n], rest)
  | [] => (acc.1 ++ [n], [])

theorem detectorSampleR_eq (d : Det) (s : FState) (tape : List ℝ) :
    detectorSampleR d s tape = stages (effStepR d) (darkStepR d) d s tape := by
  unfold detectorSampleR stages; rfl

theorem effStepR_closed (d : Det) (acc : FState) (tape : List ℝ) (n : Nat) :
    effStepR d (acc, tape) n =
      (acc ++ [n - (tape.take n).countP (fun u => decide (u > (d.eta : ℝ)))], tape.drop n) := by
  unfold effStepR
  simp only
  rw [inner_closed (fun u : ℝ => u > (d.eta : ℝ)) _ (fun _ _ _ _ => rfl) (fun _ _ => rfl)]
  simp

theorem detectorSampleR_closed (d : Det) (s : FState) (tape : List ℝ) :
    detectorSampleR d s tape =
      detClosed (fun u : ℝ => u > (d.eta : ℝ)) (fun u : ℝ => u < (d.pDark : ℝ)) d s tape := by
  rw [detectorSampleR_eq]
  exact stages_closed _ _ _ _ (effStepR_closed d) (fun _ _ _ _ => rfl) (fun _ _ => rfl) d s tape

section nat
variable {α β : Type}

theorem keptList_map (lost : α → Prop) (lost' : β → Prop) [DecidablePred lost]
    [DecidablePred lost'] (f : β → α) (h : ∀ b, lost (f b) ↔ lost' b) (s : FState)
    (tape : List β) :
    keptList lost s (tape.map f) = keptList lost' s tape := by
  induction s generalizing tape with
  | nil => rfl
  | cons n s ih =>
    simp only [keptList, ← List.map_take, ← List.map_drop, List.countP_map, ih]
    congr 3
    funext u
    exact decide_eq_decide.mpr (h u)

theorem darkList_map (dark : α → Prop) (dark' : β → Prop) [DecidablePred dark]
    [DecidablePred dark'] (f : β → α) (h : ∀ b, dark (f b) ↔ dark' b) (o : FState)
    (tape : List β) :
    darkList dark o (tape.map f) = darkList dark' o tape := by
  induction o generalizing tape with
  | nil => rfl
  | cons n o ih =>
    cases tape with
    | nil => simpa [darkList] using ih []
    | cons u t => rw [List.map_cons, darkList, darkList, ih, if_congr (h u) rfl rfl]

end nat

theorem detectorSampleR_cast (d : Det) (s : FState) (tape : List ℚ) :
    detectorSampleR d s (tape.map (fun q : ℚ => (q : ℝ))) =
      ((detectorSample d s tape).1, (detectorSample d s tape).2.map (fun q : ℚ => (q : ℝ))) := by
  rw [detectorSampleR_closed, detectorSample_closed]
  unfold detClosed
  have hk : ∀ tp : List ℚ, keptList (fun u : ℝ => u > (d.eta : ℝ)) s (tp.map (fun q : ℚ => (q : ℝ))) =
      keptList (fun u : ℚ => u > d.eta) s tp :=
    keptList_map _ _ _ (fun a => by exact_mod_cast Iff.rfl) s
  have hd : ∀ (o : FState) (tp : List ℚ),
      darkList (fun u : ℝ => u < (d.pDark : ℝ)) o (tp.map (fun q : ℚ => (q : ℝ))) =
      darkList (fun u : ℚ => u < d.pDark) o tp :=
    darkList_map _ _ _ (fun a => by exact_mod_cast Iff.rfl)
  by_cases he : d.eta < 1 <;> by_cases hq : d.pDark > 0 <;>
    simp only [he, hq, if_true, if_false, hk, ← List.map_drop, hd]

end LW.Proofs.C07
