/-
  LW.Proofs.C12Sub — the explicit sub-circuits behind the placements of the converter's plan
  (`sqCirc` of LW/Model/Gates.lean; `swapCirc`, `twoCirc`, `threeCirc` of
  LW/Proofs/C12FullPlanDefs.lean): each placement builds its sub-circuit (`placedCircK`), and the
  sub-circuits satisfy the interface `SubOk` of the main induction: bookkeeping invariant, positional
  well-formedness, equal and sorted heralds, no loss, and the stated numbers of ports / herald
  photons.
-/
import LW.Proofs.C12FullMainDefs
import LW.Proofs.C02Basic
import LW.Proofs.C13SwapStruct

namespace LW.C12F

open LW LW.QC LW.Gates LW.QF LW.Proofs.C02

variable {K : Type}

theorem swapDict_perm (a b : Nat) : (swapDict a b).keys.Perm (swapDict a b).vals := by
  show [2 * a, 2 * b, 2 * a + 1, 2 * b + 1].Perm [2 * b, 2 * a, 2 * b + 1, 2 * a + 1]
  exact (List.Perm.swap _ _ _).trans ((List.Perm.swap _ _ _).cons _ |>.cons _)

theorem swapDict_nodup (a b : Nat) (hab : a ≠ b) : (swapDict a b).keys.Nodup := by
  show [2 * a, 2 * b, 2 * a + 1, 2 * b + 1].Nodup
  simp only [List.nodup_cons, List.mem_cons, List.not_mem_nil, List.nodup_nil, or_false,
    not_or, and_true, not_false_eq_true]
  omega

theorem swapDict_lt (a b : Nat) : ∀ k ∈ (swapDict a b).keys, k < 2 * max a b + 2 := by
  intro k hk
  have : k = 2 * a ∨ k = 2 * b ∨ k = 2 * a + 1 ∨ k = 2 * b + 1 := by
    simpa [swapDict, Dict.keys] using hk
  omega

theorem modes_nodup (a b : Nat) (hab : a ≠ b) : [2 * a, 2 * a + 1, 2 * b, 2 * b + 1].Nodup := by
  simp only [List.nodup_cons, List.mem_cons, List.not_mem_nil, List.nodup_nil, or_false,
    not_or, and_true, not_false_eq_true]
  omega

/-- `swapCirc K a b` / `swapDict a b` (C12FullPlanDefs) are `Gates.swapCirc` / `Gates.swapDict` of
C13SwapStruct on the modes `2a, 2a+1, 2b, 2b+1` (the dictionaries by `rfl`); what C13 proves of the
latter comes over through this equation -/
theorem swapCirc_eq (K : Type) (a b : Nat) :
    (Gates.swapCirc (2 * a) (2 * a + 1) (2 * b) (2 * b + 1) : Circ K) = swapCirc K a b := by
  unfold Gates.swapCirc swapCirc
  rw [show max (max (2 * a) (2 * a + 1)) (max (2 * b) (2 * b + 1)) + 1 = 2 * max a b + 2 by omega]
  rfl

theorem SWAP_ok (a b : Nat) (hab : a ≠ b) :
    SWAP (K := K) [2 * (a : Int), 2 * a + 1] [2 * (b : Int), 2 * b + 1] = .ok (swapCirc K a b) := by
  have h := SWAP_struct (K := K) (2 * a) (2 * a + 1) (2 * b) (2 * b + 1) (modes_nodup a b hab)
  rw [swapCirc_eq] at h
  push_cast at h
  exact h

theorem bind_pair_ok {g : Except Err (Circ K)} {sub : Circ K} (h : g = .ok sub) (mode : Int) :
    (do let x ← g; pure (x, mode)) = .ok (sub, mode) := by
  rw [h]
  rfl

section
variable [Add K] [Mul K] [Neg K] [Zero K] [One K]

theorem placed_single (c : GC K) (par : Nat → K × K) (name : String) (idx mode : Nat) :
    placedCircK c par (.single name idx mode)
      = .ok (sqCirc c (sqOfName name (par idx)), (mode : Int)) := rfl

theorem placed_swap (c : GC K) (par : Nat → K × K) (a b : Nat) (hab : a ≠ b) :
    placedCircK c par (.swap a b) = .ok (swapCirc K a b, 0) :=
  bind_pair_ok (SWAP_ok a b hab) 0

theorem placed_two (c : GC K) (par : Nat → K × K) (cx ps : Bool) (target mode : Nat)
    (ht : target < 2) (hcz : cx = false → target = 0) :
    placedCircK c par (.two cx ps target mode) = .ok (twoCirc c cx ps target, (mode : Int)) := by
  cases cx <;> cases ps
  · obtain rfl := hcz rfl
    exact bind_pair_ok (CZH_struct c) mode
  · obtain rfl := hcz rfl
    exact bind_pair_ok (CZ_struct c) mode
  · exact bind_pair_ok (CNOTH_struct c ht) mode
  · exact bind_pair_ok (CNOT_struct c ht) mode

theorem placed_three (c : GC K) (par : Nat → K × K) (ccx : Bool) (target mode : Nat)
    (ht : target < 3) (hcz : ccx = false → target = 0) :
    placedCircK c par (.three ccx target mode) = .ok (threeCirc c ccx target, (mode : Int)) := by
  cases ccx
  · obtain rfl := hcz rfl
    exact bind_pair_ok (CCZ_struct c) mode
  · exact bind_pair_ok (CCNOT_struct c ht) mode

end

variable {R : Type} [CommRing R]

theorem sqMat_n (c : GC R) (g : SQ R) : (sqMat c g).n = 2 := rfl
theorem czUnitary_n (c : GC R) : (czUnitary c).n = 6 := rfl
theorem czhUnitary_n (c : GC R) : (czhUnitary c).n = 8 := rfl
theorem cczUnitary_n (c : GC R) : (cczUnitary c).n = 10 := rfl

variable [StarRing R]

theorem subOk_gateCirc (n : Nat) (her : Dict) (prims : List (Prim R))
    (hnd : her.keys.Nodup) (hlt : ∀ k ∈ her.keys, k < n) (hs : her.keys.Pairwise (· < ·))
    (hget : ∀ a ∈ her.keys, (her.get? a).isSome)
    (hp : ∀ p ∈ prims, ∃ m u, p = Prim.unitary m u ∧ m + u.n ≤ n) :
    SubOk (gateCirc n her prims) (n - her.length) (her.map (·.2)) := by
  refine ⟨⟨hnd, hnd, hlt, hlt, rfl, hnd, fun a ha => ⟨hget a ha, rfl⟩, ?_⟩, ?_, rfl, hs, ?_, rfl,
    rfl⟩
  · intro comp hcomp m hm
    have hc : comp = .group prims 0 (n - 1) her her := by
      simpa [gateCirc] using hcomp
    subst hc
    simp only [Comp.modes, List.mem_flatMap] at hm
    obtain ⟨p, hpm, hm⟩ := hm
    obtain ⟨m0, u, rfl, hle⟩ := hp p hpm
    simp only [Prim.modes, List.mem_map, List.mem_range] at hm
    obtain ⟨x, hx, rfl⟩ := hm
    show x + m0 < n
    omega
  · intro p hpm
    have hpm' : p ∈ prims := by
      simpa [gateCirc, flattenSpec, Comp.toPrims] using hpm
    obtain ⟨m0, u, rfl, hle⟩ := hp p hpm'
    exact hle
  · have hf : prims.filter Prim.isLoss = [] := by
      rw [List.filter_eq_nil_iff]
      intro p hpm
      obtain ⟨m0, u, rfl, _⟩ := hp p hpm
      simp [Prim.isLoss]
    simp [gateCirc, lossCount, Comp.lossCount, hf]

theorem subOk_prim (n : Nat) (p : Prim R) (hm : ∀ m ∈ p.modes, m < n) (hok : PrimOk n p)
    (hl : p.isLoss = false) : SubOk ({ n := n, spec := [.prim p] } : Circ R) n [] := by
  refine ⟨⟨List.nodup_nil, List.nodup_nil, ?_, ?_, rfl, List.nodup_nil, ?_, ?_⟩, ?_, rfl,
    List.Pairwise.nil, ?_, rfl, rfl⟩
  · intro k hk; exact absurd hk List.not_mem_nil
  · intro k hk; exact absurd hk List.not_mem_nil
  · intro k hk; exact absurd hk List.not_mem_nil
  · intro comp hcomp m hm'
    obtain rfl : comp = .prim p := List.mem_singleton.mp hcomp
    exact hm m hm'
  · intro q hq
    obtain rfl : q = p := by simpa [flattenSpec, Comp.toPrims] using hq
    exact hok
  · show (if p.isLoss = true then 1 else 0) + 0 = 0
    rw [hl]
    rfl

theorem subOk_sq (c : GC R) (g : SQ R) : SubOk (sqCirc c g) 2 [] := by
  refine subOk_prim 2 (.unitary 0 (sqMat c g)) ?_ (Nat.le_refl 2) rfl
  intro m hm
  simp only [Prim.modes, List.mem_map, List.mem_range, sqMat_n] at hm
  obtain ⟨x, hx, rfl⟩ := hm
  exact hx

theorem swapDict_swapsOk (a b : Nat) (hab : a ≠ b) : SwapsOk (2 * max a b + 2) (swapDict a b) :=
  ⟨swapDict_nodup a b hab, swapDict_perm a b, swapDict_lt a b⟩

theorem subOk_swap (a b : Nat) (hab : a ≠ b) : SubOk (swapCirc R a b) (2 * max a b + 2) [] := by
  refine subOk_prim _ (.swaps (swapDict a b)) ?_ (swapDict_swapsOk a b hab) rfl
  intro m hm
  rcases List.mem_append.mp hm with hm | hm
  · exact swapDict_lt a b m hm
  · exact swapDict_lt a b m ((swapDict_perm a b).mem_iff.mpr hm)

omit [StarRing R] in
/-- `twoPrims` and the blocks of `threeCirc` are of this form: a CZ-type gate `U` on `n` modes, alone
or between Hadamards on the modes `m`, `m + 1` -/
theorem conjPrims_pos (c : GC R) {n m : Nat} (U : M R) (cx : Bool) (hm : m + 2 ≤ n) (hU : U.n ≤ n) :
    ∀ p ∈ (if cx then [Prim.unitary m (sqMat c .H), .unitary 0 U, .unitary m (sqMat c .H)]
      else [Prim.unitary 0 U]), ∃ m' u, p = Prim.unitary m' u ∧ m' + u.n ≤ n := by
  have hH : m + (sqMat c .H).n ≤ n := hm
  cases cx
  · intro p hp
    exact ⟨_, _, List.mem_singleton.mp hp, by omega⟩
  · intro p hp
    simp only [if_true, List.mem_cons, List.not_mem_nil, or_false] at hp
    rcases hp with rfl | rfl | rfl
    · exact ⟨_, _, rfl, hH⟩
    · exact ⟨_, _, rfl, by omega⟩
    · exact ⟨_, _, rfl, hH⟩

theorem subOk_two (c : GC R) (cx ps : Bool) (t : Nat) (ht : t < 2) :
    SubOk (twoCirc c cx ps t) 4 (if ps then [0, 0] else [0, 1, 1, 0]) := by
  cases ps
  · exact subOk_gateCirc 8 herCZH _ (by decide) (by decide) (by decide) (by decide)
      (conjPrims_pos c (czhUnitary c) cx (show 2 + 2 * t + 2 ≤ 8 by omega) (Nat.le_refl 8))
  · exact subOk_gateCirc 6 herCZ _ (by decide) (by decide) (by decide) (by decide)
      (conjPrims_pos c (czUnitary c) cx (show 1 + 2 * t + 2 ≤ 6 by omega) (Nat.le_refl 6))

theorem subOk_three (c : GC R) (ccx : Bool) (t : Nat) (ht : t < 3) :
    SubOk (threeCirc c ccx t) 6 [0, 0, 0, 0] :=
  subOk_gateCirc 10 herCCZ _ (by decide) (by decide) (by decide) (by decide)
    (conjPrims_pos c (cczUnitary c) ccx (by omega) (Nat.le_refl 10))

end LW.C12F
