/-
  The reference Choi matrix (repaired `choi_from_unitary`, column-stacking) is the Choi matrix of
  `ρ ↦ V ρ V†` (`choi_channel`), so `⟨ρ ⊗ Bᵀ, C_V⟩ = tr(B · V ρ V†)` for every `B`
  (`pairing_kron_choi`): what a row of the LI transform (`liRowMat_eq`, `B = P`) and a row of the MLE
  model matrix (`B = (1 ± P)/2`) give on it.
-/
import LW.Proofs.C15Pure
import LW.Proofs.TomoMat
import LW.Model.ProcTomo

open scoped BigOperators

namespace LW.Tomo

variable {K : Type} [Field K] [StarRing K] [DecidableEq K]

-- a theorem of this file whose statement mentions `K` takes all instance arguments of the `variable` line, used or
-- not, unless an `omit` stands in front of it: LW/Properties and the later modules cite them with these
set_option linter.unusedSectionVars false

theorem conj_eq_star (x : K) : conj x = star x := rfl

theorem get_channel (V rho : M K) {c e : Nat} (hc : c < V.n) (he : e < V.n) :
    (channel V rho).get c e
      = ∑ b ∈ Finset.range V.n, (∑ a ∈ Finset.range V.n, V.get c a * rho.get a b) * star (V.get e b) := by
  unfold channel
  rw [M.get_mul _ _ (by simpa using hc) (by simpa using he), M.mul_n]
  refine Finset.sum_congr rfl fun b hb => ?_
  rw [M.get_mul _ _ hc (Finset.mem_range.mp hb), get_dagger _ (Finset.mem_range.mp hb) he]

omit [DecidableEq K] in
theorem toMatN_channel (V rho : M K) {N : Nat} (hV : V.n = N) :
    (channel V rho).toMatN N = V.toMatN N * rho.toMatN N * (V.toMatN N).conjTranspose := by
  unfold channel
  rw [M.toMatN_mul _ _ (show (V.mul rho).n = N from hV), M.toMatN_mul _ _ hV, M.toMatN_dagger _ hV]

omit [StarRing K] [DecidableEq K] in
theorem trace_eq_trace (A : M K) {N : Nat} (hA : A.n = N) : trace A = Matrix.trace (A.toMatN N) := by
  subst hA
  rw [trace_eq_sum, Matrix.trace, Finset.sum_range]
  rfl

omit [StarRing K] [DecidableEq K] in
theorem trN_eq_trace (n : Nat) (X : M K) : trN n X = Matrix.trace (X.toMatN (2 ^ n)) := by
  unfold trN Matrix.trace
  rw [Finset.sum_range]
  rfl

omit [StarRing K] [DecidableEq K] in
theorem trace_mul_toMatN (A B : M K) (N : Nat) :
    Matrix.trace (A.toMatN N * B.toMatN N)
      = ∑ x ∈ Finset.range N, ∑ y ∈ Finset.range N, A.get x y * B.get y x := by
  simp only [Matrix.trace, Matrix.diag_apply, Matrix.mul_apply, Finset.sum_range]
  rfl

omit [StarRing K] [DecidableEq K] in
theorem trPauli_eq_trace (i : K) (rho : M K) (c : Meas) :
    trPauli i rho c
      = Matrix.trace ((pauliKron i c).toMatN (2 ^ c.length) * rho.toMatN (2 ^ c.length)) := by
  rw [Matrix.trace_mul_comm, trace_mul_toMatN]
  rfl

theorem get_choi (V : M K) {a c b e : Nat} (ha : a < V.n) (hc : c < V.n) (hb : b < V.n) (he : e < V.n) :
    (choiFromUnitary V).get (a * V.n + c) (b * V.n + e) = V.get c a * star (V.get e b) := by
  unfold choiFromUnitary
  rw [M.get_ofFn _ (idx_lt ha hc) (idx_lt hb he), Nat.mul_add_mod_of_lt hc, idx_div hc, Nat.mul_add_mod_of_lt he, idx_div he]
  rfl

theorem choi_channel (V rho : M K) {c e : Nat} (hc : c < V.n) (he : e < V.n) :
    ∑ a ∈ Finset.range V.n, ∑ b ∈ Finset.range V.n,
        rho.get a b * (choiFromUnitary V).get (a * V.n + c) (b * V.n + e)
      = (channel V rho).get c e := by
  rw [get_channel V rho hc he, Finset.sum_comm]
  refine Finset.sum_congr rfl fun b hb => ?_
  rw [Finset.sum_mul]
  refine Finset.sum_congr rfl fun a ha => ?_
  rw [get_choi V (Finset.mem_range.mp ha) hc (Finset.mem_range.mp hb) he]
  ring

theorem rhoM_n (i : K) (t : InLabel) : (rhoM i t).n = 2 := by cases t <;> rfl

theorem rhoKron_n (i : K) (ins : Ins) : (rhoKron i ins).n = 2 ^ ins.length :=
  kronList_map_n _ (rhoM_n i) ins

theorem pauliKron_n (i : K) (m : Meas) : (pauliKron i m).n = 2 ^ m.length :=
  kronList_map_n _ (pauliM_n i) m

theorem liRowMat_n (i : K) (ins : Ins) (meas : Meas) {n : Nat} (hins : ins.length = n)
    (hm : meas.length = n) : (liRowMat i ins meas).n = 2 ^ n * 2 ^ n := by
  unfold liRowMat
  rw [conjM_n, kron_n, conjM_n, rhoKron_n, pauliKron_n, hins, hm]

theorem pairing_grid (X C : M K) (N : Nat) (hX : X.n = N * N) :
    pairing X C = ∑ a ∈ Finset.range N, ∑ c ∈ Finset.range N, ∑ b ∈ Finset.range N,
      ∑ e ∈ Finset.range N, X.get (a * N + c) (b * N + e) * C.get (a * N + c) (b * N + e) := by
  unfold pairing
  rw [M.sumN_eq_sum, hX, sum_range_mul]
  refine Finset.sum_congr rfl fun a _ => Finset.sum_congr rfl fun c _ => ?_
  rw [M.sumN_eq_sum, sum_range_mul]

theorem pairing_kron_choi (n : Nat) (V rho B : M K) (hV : V.n = 2 ^ n) (hr : rho.n = 2 ^ n)
    (hB : B.n = 2 ^ n) :
    pairing (kron rho B.transpose) (choiFromUnitary V)
      = Matrix.trace (B.toMatN (2 ^ n) * (channel V rho).toMatN (2 ^ n)) := by
  rw [trace_mul_toMatN, Finset.sum_comm]
  have hN : (kron rho B.transpose).n = 2 ^ n * 2 ^ n := by rw [kron_n, hr, transpose_n, hB]
  have e1 : ∀ a ∈ Finset.range (2 ^ n), ∀ c ∈ Finset.range (2 ^ n), ∀ b ∈ Finset.range (2 ^ n),
      ∀ e ∈ Finset.range (2 ^ n),
        (kron rho B.transpose).get (a * 2 ^ n + c) (b * 2 ^ n + e) = rho.get a b * B.get e c := by
    intro a ha c hc b hb e he
    have ha' := Finset.mem_range.mp ha
    have hc' := Finset.mem_range.mp hc
    have hb' := Finset.mem_range.mp hb
    have he' := Finset.mem_range.mp he
    rw [get_kron_gen _ _ (by rw [hr, transpose_n, hB]; exact idx_lt ha' hc')
      (by rw [hr, transpose_n, hB]; exact idx_lt hb' he'), transpose_n, hB, idx_div hc', Nat.mul_add_mod_of_lt hc',
      idx_div he', Nat.mul_add_mod_of_lt he', get_transpose B (by rw [hB]; exact hc') (by rw [hB]; exact he')]
  rw [pairing_grid _ _ _ hN, Finset.sum_congr rfl fun a ha => Finset.sum_congr rfl fun c hc =>
    Finset.sum_congr rfl fun b hb => Finset.sum_congr rfl fun e he => by rw [e1 a ha c hc b hb e he],
    Finset.sum_comm]
  refine Finset.sum_congr rfl fun c hc => ?_
  rw [Finset.sum_congr rfl fun a _ => Finset.sum_comm, Finset.sum_comm]
  refine Finset.sum_congr rfl fun e he => ?_
  have hc' : c < V.n := by rw [hV]; exact Finset.mem_range.mp hc
  have he' : e < V.n := by rw [hV]; exact Finset.mem_range.mp he
  have := choi_channel V rho hc' he'
  rw [hV] at this
  rw [← this, Finset.mul_sum]
  refine Finset.sum_congr rfl fun a _ => ?_
  rw [Finset.mul_sum]
  refine Finset.sum_congr rfl fun b _ => ?_
  ring

/-- `conjM` of a Pauli string is its transpose: the Pauli strings are Hermitian -/
theorem liRowMat_eq {i : K} (hs : star i = -i) (ins : Ins) (meas : Meas) {n : Nat}
    (hins : ins.length = n) (hm : meas.length = n) :
    liRowMat i ins meas = kron (rhoKron i ins) (pauliKron i meas).transpose := by
  have hρ : (rhoKron i ins).n = 2 ^ n := by rw [rhoKron_n, hins]
  have hp : (pauliKron i meas).n = 2 ^ n := by rw [pauliKron_n, hm]
  have hcρ : (conjM (rhoKron i ins)).n = 2 ^ n := hρ
  have hpos := Nat.two_pow_pos n
  refine M.ext_get (by unfold liRowMat conjM; exact M.isOfFn_ofFn _ _)
    (by unfold kron; exact M.isOfFn_ofFn _ _) rfl fun r c hr hc => ?_
  rw [liRowMat_n i ins meas hins hm] at hr hc
  have hr' : r % 2 ^ n < 2 ^ n := Nat.mod_lt _ hpos
  have hc' : c % 2 ^ n < 2 ^ n := Nat.mod_lt _ hpos
  unfold liRowMat
  rw [get_conjM _ (by rw [kron_n, hcρ, hp]; exact hr) (by rw [kron_n, hcρ, hp]; exact hc),
    get_kron_gen _ _ (by rw [hcρ, hp]; exact hr) (by rw [hcρ, hp]; exact hc), hp,
    get_conjM _ (by rw [hρ]; exact Nat.div_lt_of_lt_mul hr) (by rw [hρ]; exact Nat.div_lt_of_lt_mul hc),
    star_mul', star_star,
    get_kron_gen _ _ (by rw [hρ, transpose_n, hp]; exact hr) (by rw [hρ, transpose_n, hp]; exact hc),
    transpose_n, hp, get_transpose _ (by rw [hp]; exact hr') (by rw [hp]; exact hc'),
    pauliKron_herm hs meas (by rw [hm]; exact hr') (by rw [hm]; exact hc')]

/-- the reference Choi matrix solves the system linear inversion inverts -/
theorem liApply_choi {i : K} (hi : star i = -i) (n : Nat) (V : M K) (hV : V.n = 2 ^ n) (ins : Ins)
    (hins : ins.length = n) (meas : Meas) (hm : meas.length = n) :
    liApply i (choiFromUnitary V) ins meas = trPauli i (channel V (rhoKron i ins)) meas := by
  unfold liApply
  rw [liRowMat_eq hi ins meas hins hm,
    pairing_kron_choi n V _ _ hV (by rw [rhoKron_n, hins]) (by rw [pauliKron_n, hm]),
    trPauli_eq_trace, hm]

end LW.Tomo
