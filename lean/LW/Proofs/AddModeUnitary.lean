/-
  LW.Proofs.AddModeUnitary — `add_mode_to_unitary` is the embedding along the inverse `unbump` of
  `bump`, hence preserves unitarity.  Namespaces: `unbump` and the embedding are in `LW.Proofs.C02Sem`, the two
  lemmas on entries and unitarity in `LW.Proofs.Reach`.
-/
import LW.Proofs.C02SemEmbed

namespace LW.Proofs.C02Sem

open LW LW.Proofs.C02

variable {K : Type}

def unbump (k r : Nat) : Option Nat := if r = k then none else some (if r > k then r - 1 else r)

theorem unbump_self (k : Nat) : unbump k k = none := by unfold unbump; rw [if_pos rfl]

theorem unbump_ne {k r : Nat} (h : r ≠ k) : unbump k r = some (if r > k then r - 1 else r) := by
  unfold unbump; rw [if_neg h]

theorem pinj_bump (k N : Nat) (hk : k ≤ N) : PInj N (N + 1) (bump k) (unbump k) := by
  refine ⟨fun x hx => Nat.lt_succ_of_le (Nat.le_trans (bump_le_succ k x) hx), ?_, ?_⟩
  · intro x _
    by_cases h : x < k
    · rw [bump_of_lt h, unbump_ne (by omega), if_neg (by omega)]
    · rw [bump_of_ge (by omega), unbump_ne (by omega), if_pos (by omega)]; rfl
  · intro r x hr e
    have hrk : r ≠ k := fun h => by rw [h, unbump_self] at e; cases e
    rw [unbump_ne hrk] at e
    injection e with e
    subst e
    by_cases h : r > k
    · rw [if_pos h, bump_of_ge (by omega)]; omega
    · rw [if_neg h, bump_of_lt (by omega)]; omega

variable [CommRing K]

theorem addModeToUnitary_n (u : M K) (k : Nat) : (addModeToUnitary u k).n = u.n + 1 := rfl

theorem addModeToUnitary_eq_embedVia (u : M K) (j : Nat) :
    addModeToUnitary u j = Optic.embedVia (u.n + 1) u (unbump j) := by
  unfold addModeToUnitary Optic.embedVia unbump
  apply M.ofFn_congr
  intro r c _ _
  by_cases hr : r = j
  · rw [if_pos (Or.inl hr), if_pos hr]
  · by_cases hc : c = j
    · rw [if_pos (Or.inr hc), if_neg hr, if_pos hc]
    · rw [if_neg (fun h => h.elim hr hc), if_neg hr, if_neg hc]

end LW.Proofs.C02Sem

namespace LW.Proofs.Reach

open LW LW.Proofs.C02Sem

variable {K : Type} [CommRing K]

theorem get_addModeToUnitary (u : M K) (k : Nat) {a b : Nat} (ha : a < u.n + 1) (hb : b < u.n + 1) :
    (addModeToUnitary u k).get a b =
      if a = k ∨ b = k then (if a = b then 1 else 0)
      else u.get (if a > k then a - 1 else a) (if b > k then b - 1 else b) := by
  unfold addModeToUnitary
  rw [M.get_ofFn _ ha hb]

theorem isUnitary_addModeToUnitary [StarRing K] (u : M K) (k : Nat) (hk : k ≤ u.n)
    (hu : IsUnitary u) : IsUnitary (addModeToUnitary u k) := by
  rw [addModeToUnitary_eq_embedVia]
  exact UN_embedVia (pinj_bump k u.n hk) hu

end LW.Proofs.Reach
