/-
  LW.Proofs.C17Accum — the inner loop of the mappings: images with summed weights, key order,
  conservation of the total, composition.
-/
import LW.Proofs.C17Dict
import LW.Proofs.ListSum

namespace LW.Res

variable {V : Type} [AddCommMonoid V]

def imageWeight (f : St → St) (row : PD V) (g : St) : V :=
  ((row.filter fun p => decide (f p.1 = g)).map (·.2)).sum

theorem imageWeight_nil (f : St → St) (g : St) : imageWeight f ([] : PD V) g = 0 := rfl

theorem imageWeight_cons (f : St → St) (p : St × V) (row : PD V) (g : St) :
    imageWeight f (p :: row) g = (if f p.1 = g then p.2 else 0) + imageWeight f row g := by
  unfold imageWeight
  by_cases h : f p.1 = g
  · simp only [List.filter_cons, h, decide_true, if_true, List.map_cons, List.sum_cons]
  · simp only [List.filter_cons, h, decide_false, Bool.false_eq_true, if_false, zero_add]

theorem imageWeight_of_no_hit (f : St → St) (row : PD V) (g : St) (h : ∀ p ∈ row, f p.1 ≠ g) :
    imageWeight f row g = 0 := by
  rw [imageWeight, List.filter_eq_nil_iff.mpr fun p hp e => h p hp (of_decide_eq_true e)]
  rfl

/-- the loop is the accumulation `m[f o] += w` of the other pools (`PDist.addTo`, `KD.addTo`) -/
theorem accum_eq_foldl (f : St → St) (row : PD V) :
    accum f row = row.foldl (fun (m : PD V) (p : St × V) => Assoc.upd m (f p.1) (fun x => x.2 + p.2) p.2) [] := by
  have key : ∀ (m0 : PD V), m0.keys.Nodup →
      row.foldl (fun m p => match m.get? (f p.1) with
        | some w => m.set (f p.1) (w + p.2)
        | none => m.set (f p.1) p.2) m0 =
      row.foldl (fun m p => Assoc.upd m (f p.1) (fun x => x.2 + p.2) p.2) m0 := by
    induction row with
    | nil => exact fun _ _ => rfl
    | cons p row ih =>
      intro m0 h0
      have hs : (match m0.get? (f p.1) with
          | some w => m0.set (f p.1) (w + p.2)
          | none => m0.set (f p.1) p.2) = Assoc.upd m0 (f p.1) (fun x => x.2 + p.2) p.2 := by
        rw [PD.upd_eq_set m0 h0]
        cases m0.get? (f p.1) <;> rfl
      rw [List.foldl_cons, List.foldl_cons, hs]
      exact ih _ (Assoc.nodup_keys_upd m0 _ _ _ h0)
  exact key [] List.nodup_nil

theorem getD_get?_accum (f : St → St) (row : PD V) (g : St) :
    ((accum f row).get? g).getD 0 = imageWeight f row g := by
  rw [PD.get?_eq_find, accum_eq_foldl, ← List.foldl_map (g := fun (m : PD V) (x : St × V) =>
    Assoc.upd m x.1 (fun y => y.2 + x.2) x.2) (f := fun p : St × V => (f p.1, p.2))]
  refine (Assoc.getD_find_foldl_add _ [] g).trans ((zero_add _).trans ?_)
  rw [imageWeight, List.filter_map, List.map_map]
  rfl

theorem keys_accum (f : St → St) (row : PD V) : (accum f row).keys = dedup (row.keys.map f) := by
  rw [accum_eq_foldl]
  refine (PD.keys_foldl_upd (fun p : St × V => f p.1) _ _ row []).trans (congrArg dedup ?_)
  exact (List.filter_eq_self.mpr fun _ _ => rfl).trans (List.map_map ..).symm

theorem nodup_keys_accum (f : St → St) (row : PD V) : (accum f row).keys.Nodup := by
  rw [keys_accum]; exact nodup_dedup _

theorem mem_keys_accum (f : St → St) (row : PD V) (g : St) :
    g ∈ (accum f row).keys ↔ ∃ o ∈ row.keys, f o = g := by
  rw [keys_accum, mem_dedup, List.mem_map]

theorem accum_eq (f : St → St) (row : PD V) :
    accum f row = (dedup (row.keys.map f)).map fun g => (g, imageWeight f row g) := by
  have h := PD.eq_map_keys (accum f row) (nodup_keys_accum f row)
  simp only [getD_get?_accum, keys_accum] at h
  exact h

theorem get?_accum (f : St → St) (row : PD V) (g : St) :
    (accum f row).get? g =
      if row.any (fun p => decide (f p.1 = g)) then some (imageWeight f row g) else none := by
  rw [accum_eq, PD.get?_map_pair]
  refine if_congr ?_ rfl rfl
  simp only [mem_dedup, PD.keys, List.mem_map, List.any_eq_true, decide_eq_true_eq, exists_exists_and_eq_and]

theorem sum_map_single {α : Type} [DecidableEq α] {gs : List α} (hn : gs.Nodup) (a : α) (ha : a ∈ gs)
    (c : α → V) :
    (gs.map fun g => if a = g then c g else 0).sum = c a :=
  (congrArg List.sum (List.map_congr_left fun _ _ => if_congr eq_comm rfl rfl)).trans
    ((sum_map_ite_eq_of_nodup hn a c).trans (if_pos ha))

theorem sum_regroup (f : St → St) (row : PD V) (gs : List St) (hn : gs.Nodup)
    (hall : ∀ p ∈ row, f p.1 ∈ gs) (sel : St → Bool) :
    (gs.map fun g => if sel g then imageWeight f row g else 0).sum
      = ((row.filter fun p => sel (f p.1)).map (·.2)).sum := by
  induction row with
  | nil =>
    refine List.sum_eq_zero fun x hx => ?_
    obtain ⟨g, -, rfl⟩ := List.mem_map.mp hx
    exact ite_self 0
  | cons p row ih =>
    have e : (gs.map fun g => if sel g then imageWeight f (p :: row) g else 0)
        = gs.map fun g => (if f p.1 = g then (if sel g then p.2 else 0) else 0)
            + (if sel g then imageWeight f row g else 0) := by
      refine List.map_congr_left fun g _ => ?_
      rw [imageWeight_cons]
      cases sel g
      · exact (add_zero 0).symm.trans (congrArg (· + 0) (ite_self 0).symm)
      · rfl
    rw [e, List.sum_map_add, ih fun q hq => hall q (List.mem_cons_of_mem p hq),
      sum_map_single hn (f p.1) (hall p List.mem_cons_self) fun g => if sel g then p.2 else 0]
    cases hs : sel (f p.1)
    · simp only [List.filter_cons, hs, Bool.false_eq_true, if_false, zero_add]
    · simp only [List.filter_cons, hs, if_true, List.map_cons, List.sum_cons]

theorem sum_filter_map_pairs {α : Type} (gs : List α) (w : α → V) (sel : α → Bool) :
    (((gs.map fun g => (g, w g)).filter fun p => sel p.1).map (·.2)).sum
      = (gs.map fun g => if sel g then w g else 0).sum := by
  have h := sum_filter_ite (gs.map fun g => (g, w g)) (fun p => sel p.1 = true) (·.2)
  simp only [Bool.decide_eq_true, List.map_map] at h
  exact h

theorem sum_map_imageWeight (f : St → St) (row : PD V) (gs : List St) (hn : gs.Nodup)
    (hall : ∀ p ∈ row, f p.1 ∈ gs) : (gs.map fun g => imageWeight f row g).sum = row.vals.sum := by
  have := sum_regroup f row gs hn hall fun _ => true
  rwa [List.filter_eq_self.mpr fun _ _ => rfl] at this

theorem imageWeight_map_imageWeight (f f' : St → St) (row : PD V) (gs : List St) (hn : gs.Nodup)
    (hall : ∀ p ∈ row, f p.1 ∈ gs) (g' : St) :
    imageWeight f' (gs.map fun g => (g, imageWeight f row g)) g' = imageWeight (f' ∘ f) row g' :=
  (sum_filter_map_pairs gs (fun g => imageWeight f row g) fun g => decide (f' g = g')).trans
    (sum_regroup f row gs hn hall fun g => decide (f' g = g'))

omit [AddCommMonoid V] in
theorem image_mem_dedup (f : St → St) (row : PD V) : ∀ p ∈ row, f p.1 ∈ dedup (row.keys.map f) :=
  fun _ hp => (mem_dedup _ _).mpr (List.mem_map_of_mem (List.mem_map_of_mem hp))

theorem dedup_map_dedup (f : St → St) : ∀ (l : List St), dedup ((dedup l).map f) = dedup (l.map f)
  | [] => rfl
  | x :: xs => by
    -- entries equal to `x` go to `f x`, which the outer filter removes anyway
    have e : ∀ ys : List St, ((ys.filter fun a => decide (a ≠ x)).map f).filter (fun b => decide (b ≠ f x))
        = (ys.map f).filter fun b => decide (b ≠ f x) := by
      intro ys
      rw [List.filter_map, List.filter_map, List.filter_filter]
      refine congrArg _ (List.filter_congr fun a _ => ?_)
      by_cases h : f a = f x
      · rw [Function.comp_apply, decide_eq_false (not_not.mpr h), Bool.false_and]
      · rw [Function.comp_apply, decide_eq_true h, Bool.true_and]
        exact decide_eq_true fun (e : a = x) => h (e ▸ rfl)
    rw [dedup, List.map_cons, dedup, List.map_cons, dedup]
    refine congrArg (f x :: ·) ((dedup_filter _ _).trans ?_)
    rw [e, ← dedup_filter, dedup_map_dedup f xs]

end LW.Res
