/-
  LW.Proofs.RangeSum — a sum over the positions of a list, written with `List.sum` or with
  `Finset.range`: the two agree by definition.
-/
import Mathlib.Algebra.BigOperators.Group.Finset.Basic
import LW.Proofs.ListLemmas

namespace LW

theorem list_range_sum {M : Type} [AddCommMonoid M] (n : Nat) (f : Nat → M) :
    ((List.range n).map f).sum = ∑ k ∈ Finset.range n, f k :=
  rfl

theorem sum_range_getD {M α : Type} [AddCommMonoid M] (l : List α) (d : α) (g : α → M) :
    ∑ k ∈ Finset.range l.length, g (l.getD k d) = (l.map g).sum := by
  conv_rhs => rw [← map_getD_range l d, List.map_map]
  rfl

end LW
