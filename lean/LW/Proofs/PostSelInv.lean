/-
  LW.Proofs.PostSelInv — invariants of the `PostSelection` state machine (LW.Model.PostSel) over
  every history of `add` / `multi_rules` assignments, and its relation to `psValidate`.
-/
import Mathlib.Data.List.Basic
import LW.Model.PostSel
import LW.Proofs.ExceptLemmas
import LW.Proofs.ListLemmas

namespace LW.PostSel

theorem mem_foldl_insertSet (ms : List Nat) (l : List Nat) (x : Nat) :
    x ∈ ms.foldl (fun acc m => insertSet m acc) l ↔ x ∈ ms ∨ x ∈ l :=
  (mem_foldl_insertNew ms l x).trans or_comm

theorem nodup_foldl_insertSet (ms : List Nat) (l : List Nat) (h : l.Nodup) :
    (ms.foldl (fun acc m => insertSet m acc) l).Nodup :=
  nodup_foldl_insertNew ms h

theorem add_ok {p q : PS} {m n : PArg} (h : p.add m n = .ok q) :
    ∃ r : Rule, q.rules = p.rules ++ [r] ∧ q.multi = p.multi ∧
      q.modesWith = r.modes.foldl (fun acc m => insertSet m acc) p.modesWith ∧
      (p.multi = false → ∀ x ∈ r.modes, x ∉ p.modesWith) := by
  simp only [PS.add, Except.bind_ok, Except.guard_ok, Except.pure_ok] at h
  obtain ⟨ms, -, ns, -, -, -, h3, rfl⟩ := h
  refine ⟨⟨ms.map Int.toNat, ns.map Int.toNat⟩, rfl, rfl, rfl, fun hmulti x hx hin => h3 ?_⟩
  rw [hmulti, Bool.not_false, Bool.true_and, List.any_eq_true]
  exact ⟨x, hx, List.contains_iff_mem.mpr hin⟩

/-- a step of a history is a refused `add` (nothing happens), an assignment to `multi_rules`, or an
accepted `add` (described by `add_ok`): what these preserve holds after every history -/
theorem run_induction (P : PS → Prop) (Q : Op → Prop)
    (hset : ∀ p b, P p → Q (.setMulti b) → P (p.setMulti b))
    (hadd : ∀ p q m n, P p → p.add m n = .ok q → P q)
    (p : PS) (hp : P p) (ops : List Op) (hops : ∀ op ∈ ops, Q op) : P (p.run ops) :=
  List.foldlRecOn ops PS.step hp fun p hp op hop => by
    cases op with
    | setMulti b => exact hset p b hp (hops _ hop)
    | add m n =>
      simp only [PS.step]
      cases h : p.add m n with
      | error e => exact hp
      | ok q => exact hadd p q m n hp h

/-- `__modes_with_rules` is duplicate-free and holds exactly the modes of the stored rules -/
def Inv (p : PS) : Prop :=
  p.modesWith.Nodup ∧ ∀ x, x ∈ p.modesWith ↔ ∃ r ∈ p.rules, x ∈ r.modes

theorem inv_new (b : Bool) : Inv (PS.new b) := by
  refine ⟨List.nodup_nil, fun x => ?_⟩
  simp [PS.new]

theorem inv_add {p q : PS} {m n : PArg} (h : Inv p) (hq : p.add m n = .ok q) : Inv q := by
  obtain ⟨r, hr, _, hmw, _⟩ := add_ok hq
  refine ⟨hmw ▸ nodup_foldl_insertSet _ _ h.1, fun x => ?_⟩
  rw [hmw, mem_foldl_insertSet, hr, h.2 x]
  simp only [List.mem_append, List.mem_singleton, or_and_right, exists_or, exists_eq_left]
  exact or_comm

theorem inv_run (p : PS) (h : Inv p) (ops : List Op) : Inv (p.run ops) :=
  run_induction Inv (fun _ => True) (fun _ _ h _ => h) (fun _ _ _ _ => inv_add) p h ops
    fun _ _ => trivial

def RulesDisjoint (p : PS) : Prop :=
  p.rules.Pairwise fun r1 r2 => ∀ x ∈ r1.modes, x ∉ r2.modes

def noMultiOn : Op → Prop
  | .setMulti b => b = false
  | .add _ _ => True

/-- without `multi_rules` the modes of an accepted rule are fresh (`add_ok`), hence, by the listing
invariant, in no stored rule -/
theorem disjoint_add {p q : PS} {m n : PArg} (hi : Inv p) (hm : p.multi = false) (hd : RulesDisjoint p)
    (hq : p.add m n = .ok q) : q.multi = false ∧ RulesDisjoint q := by
  obtain ⟨r, hr, hmu, _, hfresh⟩ := add_ok hq
  refine ⟨hmu ▸ hm, ?_⟩
  unfold RulesDisjoint
  rw [hr, List.pairwise_append]
  refine ⟨hd, List.pairwise_singleton _ _, fun r1 hr1 r2 hr2 x hx1 hx2 => ?_⟩
  rw [List.mem_singleton.mp hr2] at hx2
  exact hfresh hm x hx2 ((hi.2 x).mpr ⟨r1, hr1, hx1⟩)

theorem disjoint_run (p : PS) (hi : Inv p) (hm : p.multi = false) (hd : RulesDisjoint p) (ops : List Op)
    (hops : ∀ op ∈ ops, noMultiOn op) : RulesDisjoint (p.run ops) :=
  (run_induction (fun p => Inv p ∧ p.multi = false ∧ RulesDisjoint p) noMultiOn
    (fun _ _ h hb => ⟨h.1, hb, h.2.2⟩)
    (fun _ _ _ _ h hq => ⟨inv_add h.1 hq, disjoint_add h.1 h.2.1 h.2.2 hq⟩)
    p ⟨hi, hm, hd⟩ ops hops).2.2

theorem validateRules_eq (rules : List Rule) (s : FState)
    (hr : ∀ r ∈ rules, ∀ m ∈ r.modes, m < s.length) :
    validateRules rules s = .ok (psValidate rules s) := by
  induction rules with
  | nil => rfl
  | cons r rs ih =>
    have h1 : ruleValidate r s = .ok (r.validate s) := by
      unfold ruleValidate Rule.validate
      rw [if_neg]
      simp only [List.any_eq_true, not_exists, not_and]
      intro m hm
      have := hr r (List.mem_cons_self ..) m hm
      simp; omega
    have ih' := ih fun r' h' => hr r' (List.mem_cons_of_mem _ h')
    simp only [validateRules, h1, bind, Except.bind, psValidate, List.all_cons]
    cases hv : r.validate s
    · simp [pure, Except.pure]
    · simp only [if_true, Bool.true_and]
      exact ih'

/-- `all(...)` returns True exactly when every rule does (so none has raised) -/
theorem validateRules_true_iff (rules : List Rule) (s : FState) :
    validateRules rules s = .ok true ↔ ∀ r ∈ rules, ruleValidate r s = .ok true := by
  induction rules with
  | nil => simp [validateRules]
  | cons r rs ih =>
    rw [List.forall_mem_cons, ← ih]
    simp only [validateRules, Except.bind_ok]
    exact ⟨fun ⟨b, hb, h⟩ => by cases b <;> [cases h; exact ⟨hb, h⟩], fun ⟨hb, h⟩ => ⟨true, hb, h⟩⟩

end LW.PostSel
