/-
  Conjugating a CZ-type gate by Hadamards on the target qubit turns its amplitude table into the
  CNOT-type table (`HasTable.conjH`).  Amplitudes are coefficients of substitution homomorphisms
  (LW/Proofs/FockPoly.lean), so `H · U · H` is the composition of three substitutions.  The beam
  splitter on the target's two modes is a placed block (LW/Proofs/FockPlace.lean): it fixes every
  other creation operator and keeps the photon number of the pair; hence from a dual-rail state it
  reaches exactly that state and the one with the target bit flipped, and an accepted output outside
  the qubit subspace is only reached from such outputs of `U`.  What is left is `H·Z·H = X`,
  `H·H = 1` on one bit.
-/
import Mathlib.Tactic.LinearCombination
import LW.Proofs.FockLayout
import LW.Proofs.QFockLists
import LW.Proofs.C13Struct
import LW.Proofs.C13

open MvPolynomial

namespace LW.Gates
open LW.QF LW.C12F

section Had

variable {R : Type} [CommRing R]

/-- Hadamard amplitude `⟨e|H|e⟩`: `ρ` on 0, `-ρ` on 1 (the off-diagonal ones are `ρ`) -/
def hadDiag (ρ : R) : Bool → R
  | false => ρ
  | true => -ρ

theorem sqMatH_diag (c : GC R) (e : Bool) : (sqMat c .H).get e.toNat e.toNat = hadDiag c.rh e := by
  cases e <;> rfl

theorem sqMatH_off (c : GC R) (e : Bool) : (sqMat c .H).get e.toNat (!e).toNat = c.rh := by
  cases e <;> rfl

theorem sqMatH_off' (c : GC R) (e : Bool) : (sqMat c .H).get (!e).toNat e.toNat = c.rh := by
  cases e <;> rfl

end Had

section Compile

variable {R : Type} [CommRing R]

theorem homOf_compile_unitary (i : R) {n : ℕ} (A : M R) (hA : A.n = n) (m : ℕ) (u : M R) :
    (compilePrim i A (.unitary m u)).n = n ∧
      homOf (compilePrim i A (.unitary m u)).get n =
        (homOf (embedBlock n m u).get n).comp (homOf A.get n) := by
  subst hA
  exact ⟨rfl, homOf_mul (embedBlock A.n m u) A rfl⟩

theorem homOf_Ufull1 (i : R) (n : ℕ) (her : Dict) (m₀ : ℕ) (U : M R) :
    homOf ((gateCirc n her [.unitary m₀ U]).Ufull i).get n = homOf (embedBlock n m₀ U).get n := by
  rw [gateCirc_Ufull]
  have h := (homOf_compile_unitary i (n := n) (M.one n) rfl m₀ U).2
  rw [homOf_one, AlgHom.comp_id] at h
  exact h

theorem homOf_Ufull3 (i : R) (n : ℕ) (her : Dict) (m m₀ : ℕ) (h U : M R) :
    homOf ((gateCirc n her [.unitary m h, .unitary m₀ U, .unitary m h]).Ufull i).get n =
      (homOf (embedBlock n m h).get n).comp
        ((homOf (embedBlock n m₀ U).get n).comp (homOf (embedBlock n m h).get n)) := by
  rw [gateCirc_Ufull]
  obtain ⟨n1, h1⟩ := homOf_compile_unitary i (n := n) (M.one n) rfl m h
  obtain ⟨n2, h2⟩ := homOf_compile_unitary i _ n1 m₀ U
  obtain ⟨_, h3⟩ := homOf_compile_unitary i _ n2 m h
  rw [homOf_one, AlgHom.comp_id] at h1
  rw [h1] at h2
  rw [h2] at h3
  exact h3

/-- the state on all modes, as occupation function: user part and herald photons in the closed
order, placed by the layout map.  The conjugation is done in this form, on the modes of `U_full`
itself, because there the three blocks of the group are factors of a matrix product
(`homOf_mul`); in the closed form `circHom` each factor would first have to be relabelled. -/
noncomputable def fullOcc (her : Dict) (n : ℕ) (u : List ℕ) : ℕ →₀ ℕ :=
  Finsupp.mapDomain (layout her n) (u ++ her.map (·.2)).toFinsupp

theorem gateAmp_gateCirc (i : R) (n : ℕ) (her : Dict) (prims : List (Prim R))
    (hnd : her.keys.Nodup) (hlt : ∀ k ∈ her.keys, k < n) (ins outs : List ℕ)
    (hi : ins.length = n - her.length) (ho : outs.length = n - her.length) :
    gateAmp i (gateCirc n her prims) ins outs =
      ((C12F.factProd (outs ++ her.map (·.2)) : ℕ) : R) *
        amp (homOf ((gateCirc n her prims).Ufull i).get n) (fullOcc her n outs) (fullOcc her n ins) := by
  unfold fullOcc
  exact gateAmp_eq_amp_layout i (gateCirc n her prims) hnd hlt rfl ins outs hi ho

end Compile

section Lists

def setPair (t a b : ℕ) (l : List ℕ) : List ℕ := (l.set (2 * t) a).set (2 * t + 1) b

theorem setPair_zero (a b x y : ℕ) (l : List ℕ) : setPair 0 a b (x :: y :: l) = a :: b :: l := rfl

theorem setPair_succ (t a b x y : ℕ) (l : List ℕ) :
    setPair (t + 1) a b (x :: y :: l) = x :: y :: setPair t a b l := rfl

theorem setPair_length (t a b : ℕ) (l : List ℕ) : (setPair t a b l).length = l.length := by
  unfold setPair
  rw [List.length_set, List.length_set]

theorem setPair_getD (t a b : ℕ) (l : List ℕ) (h : 2 * t + 1 < l.length) (j : ℕ) :
    (setPair t a b l).getD j 0 = if j = 2 * t then a else if j = 2 * t + 1 then b else l.getD j 0 := by
  unfold setPair
  simp only [List.getD_eq_getElem?_getD, List.getElem?_set, List.length_set]
  by_cases h0 : j = 2 * t
  · subst h0
    rw [if_neg (by omega), if_pos rfl, if_pos (by omega), if_pos rfl, Option.getD_some]
  · by_cases h1 : j = 2 * t + 1
    · subst h1
      rw [if_pos rfl, if_pos h, if_neg h0, if_pos rfl, Option.getD_some]
    · rw [if_neg (Ne.symm h1), if_neg (Ne.symm h0), if_neg h0, if_neg h1]

theorem setPair_self (t : ℕ) (l : List ℕ) (h : 2 * t + 1 < l.length) :
    setPair t (l.getD (2 * t) 0) (l.getD (2 * t + 1) 0) l = l := by
  unfold setPair
  rw [List.getD_eq_getElem _ _ (by omega), List.getD_eq_getElem _ _ h, List.set_getElem_self]
  exact List.set_getElem_self _

theorem setPair_isDualRail_sum : ∀ (t a b : ℕ) (l : List ℕ),
    a + b = l.getD (2 * t) 0 + l.getD (2 * t + 1) 0 → 2 * t + 1 < l.length →
      isDualRail (setPair t a b l) = isDualRail l ∧ (setPair t a b l).sum = l.sum
  | 0, a, b, x :: y :: l, h, _ => by
    rw [setPair_zero]
    simp only [isDualRail, List.sum_cons]
    exact ⟨by rw [h]; rfl, by rw [← Nat.add_assoc, h]; exact Nat.add_assoc ..⟩
  | t + 1, a, b, x :: y :: l, h, hl => by
    obtain ⟨i1, i2⟩ := setPair_isDualRail_sum t a b l h (by simp at hl; omega)
    rw [setPair_succ]
    simp only [isDualRail, List.sum_cons, i1, i2, and_self]
  | _, _, _, [], _, h => by simp at h
  | _, _, _, [_], _, h => by simp at h

theorem setPair_dualRail_flipAt (a c : ℕ) : ∀ (t : ℕ) (b : List Bool),
    setPair t a c (dualRail (flipAt t b)) = setPair t a c (dualRail b)
  | 0, [] => rfl
  | _ + 1, [] => rfl
  | 0, x :: b => by cases x <;> rfl
  | t + 1, x :: b => by
    have ih := setPair_dualRail_flipAt a c t b
    cases x
    · exact congrArg (1 :: 0 :: ·) ih
    · exact congrArg (0 :: 1 :: ·) ih

end Lists

section Entry
variable {R : Type} [CommRing R]

/-- `H·Z·H = X` on one bit `B`, where `Z` acts iff all other bits are set (`O`): the entries
`⟨B|·|B⟩` and `⟨¬B|·|B⟩` -/
theorem had_cz_had (ρ k : R) (hρ : ρ * ρ * 2 = 1) (O B : Bool) :
    (hadDiag ρ B * (hadDiag ρ B * (if (O && B) = true then -k else k))
        + ρ * (ρ * (if (O && !B) = true then -k else k)) = if O = true then 0 else k) ∧
    (hadDiag ρ (!B) * (ρ * (if (O && !B) = true then -k else k))
        + ρ * (hadDiag ρ B * (if (O && B) = true then -k else k)) = if O = true then k else 0) := by
  cases O
  · -- `Z` is the identity: `H·H = 1`
    cases B <;> simp only [hadDiag, Bool.false_and, Bool.false_eq_true, if_false, Bool.not_true,
      Bool.not_false] <;> exact ⟨by linear_combination k * hρ, by ring⟩
  · cases B <;> simp only [hadDiag, Bool.true_and, Bool.false_eq_true, if_false, if_true,
      Bool.not_true, Bool.not_false] <;> exact ⟨by ring, by linear_combination k * hρ⟩

/-- `H·Z·H = X` and `H·H = 1` on the target bit, entry by entry -/
theorem conj_entry (ρ k : R) (hρ : ρ * ρ * 2 = 1) (t : ℕ) (ob ib : List Bool)
    (hi : t < ib.length) (ho : t < ob.length) :
    hadDiag ρ (ob.getD t false) * (hadDiag ρ (ib.getD t false) * scaleBy k (namedCZ ob ib)
        + ρ * scaleBy k (namedCZ ob (flipAt t ib)))
      + ρ * (hadDiag ρ (ib.getD t false) * scaleBy k (namedCZ (flipAt t ob) ib)
        + ρ * scaleBy k (namedCZ (flipAt t ob) (flipAt t ib)))
      = scaleBy k (namedCNOT t ob ib) := by
  have hne := flipAt_ne hi
  have hfi : (flipAt t ib).all id = (othersSet t ib && !ib.getD t false) := by
    rw [all_eq_othersSet t _ (by rw [flipAt_length]; exact hi), othersSet_flipAt, getD_flipAt t ib hi]
  obtain ⟨same, flip⟩ := had_cz_had ρ k hρ (othersSet t ib) (ib.getD t false)
  simp only [scaleBy_namedCZ, scaleBy_namedCNOT, hfi, all_eq_othersSet t ib hi]
  by_cases h1 : ob = ib
  · subst h1
    simp only [↓reduceIte, hne, hne.symm, mul_zero, add_zero, zero_add]
    exact same
  · by_cases h2 : ob = flipAt t ib
    · subst h2
      simp only [flipAt_flipAt, getD_flipAt t ib hi, ↓reduceIte, hne, hne.symm, mul_zero, add_zero,
        zero_add]
      exact flip
    · have h3 : flipAt t ob ≠ ib := fun e => h2 (by rw [← e, flipAt_flipAt])
      have h4 : flipAt t ob ≠ flipAt t ib := fun e => h1 (by
        rw [← flipAt_flipAt t ob, e, flipAt_flipAt])
      simp only [h1, h2, h3, h4, ↓reduceIte, ite_self, mul_zero, add_zero]

end Entry

section States
variable {her : Dict} {n : ℕ} (hnd : her.keys.Nodup) (hlt : ∀ k ∈ her.keys, k < n)
  {t m : ℕ} (hm0 : layout her n (2 * t) = m) (hm1 : layout her n (2 * t + 1) = m + 1)
include hm0 hm1

theorem fullOcc_setPair (o : List ℕ) (h : 2 * t + 1 < o.length) (a b : ℕ) :
    fullOcc her n (setPair t a b o) =
      fullOcc her n (setPair t 0 0 o) + Finsupp.single m a + Finsupp.single (m + 1) b := by
  have closed : (setPair t a b o ++ her.map (·.2)).toFinsupp =
      (setPair t 0 0 o ++ her.map (·.2)).toFinsupp + Finsupp.single (2 * t) a
        + Finsupp.single (2 * t + 1) b := by
    ext y
    simp only [Finsupp.add_apply, List.toFinsupp_apply, Finsupp.single_apply]
    by_cases hy : y < o.length
    · rw [List.getD_append _ _ _ _ (by rw [setPair_length]; exact hy),
        List.getD_append _ _ _ _ (by rw [setPair_length]; exact hy), setPair_getD _ _ _ _ h,
        setPair_getD _ _ _ _ h]
      by_cases h0 : y = 2 * t
      · rw [if_pos h0, if_pos h0, if_pos h0.symm, if_neg (by omega), zero_add, add_zero]
      · rw [if_neg h0, if_neg h0, if_neg (Ne.symm h0), add_zero]
        by_cases h1 : y = 2 * t + 1
        · rw [if_pos h1, if_pos h1, if_pos h1.symm, zero_add]
        · rw [if_neg h1, if_neg h1, if_neg (Ne.symm h1), add_zero]
    · rw [List.getD_append_right _ _ _ _ (by rw [setPair_length]; omega),
        List.getD_append_right _ _ _ _ (by rw [setPair_length]; omega), setPair_length,
        setPair_length, if_neg (by omega), if_neg (by omega)]
      rfl
  unfold fullOcc
  rw [closed, Finsupp.mapDomain_add, Finsupp.mapDomain_add, Finsupp.mapDomain_single,
    Finsupp.mapDomain_single, hm0, hm1]

include hnd hlt

theorem fullOcc_setPair_zero (o : List ℕ) (h : 2 * t + 1 < o.length) :
    fullOcc her n (setPair t 0 0 o) m = 0 ∧ fullOcc her n (setPair t 0 0 o) (m + 1) = 0 := by
  have hinj := layout_injective hnd hlt
  unfold fullOcc
  constructor
  · rw [← hm0, Finsupp.mapDomain_apply hinj, List.toFinsupp_apply,
      List.getD_append _ _ _ _ (by rw [setPair_length]; omega), setPair_getD _ _ _ _ h, if_pos rfl]
  · rw [← hm1, Finsupp.mapDomain_apply hinj, List.toFinsupp_apply,
      List.getD_append _ _ _ _ (by rw [setPair_length]; omega), setPair_getD _ _ _ _ h,
      if_neg (by omega), if_pos rfl]

omit hnd hlt in
theorem fullOcc_eq (o : List ℕ) (h : 2 * t + 1 < o.length) :
    fullOcc her n o = fullOcc her n (setPair t 0 0 o) + Finsupp.single m (o.getD (2 * t) 0)
      + Finsupp.single (m + 1) (o.getD (2 * t + 1) 0) := by
  have := fullOcc_setPair hm0 hm1 o h (o.getD (2 * t) 0) (o.getD (2 * t + 1) 0)
  rwa [setPair_self t o h] at this

/-- a dual-rail state and the one with the target bit flipped: one photon on the mode of the bit,
resp. of its negation, over a common rest -/
theorem fullOcc_dualRail_pair (b : List Bool) (ht : t < b.length) :
    ∃ r : ℕ →₀ ℕ, r m = 0 ∧ r (m + 1) = 0 ∧
      fullOcc her n (dualRail b) = r + Finsupp.single (m + (b.getD t false).toNat) 1 ∧
      fullOcc her n (dualRail (flipAt t b)) = r + Finsupp.single (m + (!b.getD t false).toNat) 1 := by
  have key : ∀ b : List Bool, t < b.length → fullOcc her n (dualRail b) =
      fullOcc her n (setPair t 0 0 (dualRail b)) + Finsupp.single (m + (b.getD t false).toNat) 1 := by
    intro b ht
    rw [fullOcc_eq hm0 hm1 _ (by rw [dualRail_length]; omega), dualRail_getD_even,
      dualRail_getD_odd]
    unfold QC.getBit
    cases b.getD t false <;> simp [ht]
  obtain ⟨z0, z1⟩ := fullOcc_setPair_zero hnd hlt hm0 hm1 (dualRail b)
    (by rw [dualRail_length]; omega)
  refine ⟨_, z0, z1, key b ht, ?_⟩
  rw [key _ (by rw [flipAt_length]; exact ht), setPair_dualRail_flipAt, getD_flipAt t b ht]

variable {R : Type} [CommRing R] (c : GC R) (hmn : m + 1 < n)
include hmn

/-- an output with one photon on the target pair is reached from the two such states with the same
occupations elsewhere: `⟨e|H = ⟨e|H|e⟩ ⟨e| + 2^(-1/2) ⟨¬e|` -/
theorem amp_H_comp_dualRail (ψ : Hom R) (s : ℕ →₀ ℕ) (b : List Bool) (ht : t < b.length) :
    amp ((homOf (embedBlock n m (sqMat c .H)).get n).comp ψ) (fullOcc her n (dualRail b)) s =
      hadDiag c.rh (b.getD t false) * amp ψ (fullOcc her n (dualRail b)) s
        + c.rh * amp ψ (fullOcc her n (dualRail (flipAt t b))) s := by
  obtain ⟨r, h0, h1, e1, e2⟩ := fullOcc_dualRail_pair hnd hlt hm0 hm1 b ht
  rw [e1, e2, amp_pair_comp (sqMat c .H) rfl hmn h0 h1, sqMatH_diag, sqMatH_off]

/-- one photon on the target pair, on the mode of the bit `e`: `H|e⟩ = ⟨e|H|e⟩ |e⟩ + 2^(-1/2) |¬e⟩` -/
theorem amp_comp_H_dualRail (φ : Hom R) (w : ℕ →₀ ℕ) (b : List Bool) (ht : t < b.length) :
    amp (φ.comp (homOf (embedBlock n m (sqMat c .H)).get n)) w (fullOcc her n (dualRail b)) =
      hadDiag c.rh (b.getD t false) * amp φ w (fullOcc her n (dualRail b))
        + c.rh * amp φ w (fullOcc her n (dualRail (flipAt t b))) := by
  obtain ⟨r, h0, h1, e1, e2⟩ := fullOcc_dualRail_pair hnd hlt hm0 hm1 b ht
  rw [e1, e2, amp_comp_pair (sqMat c .H) rfl hmn h0 h1, sqMatH_diag, sqMatH_off']

/-- the beam splitter reaches a user state only from user states that differ from it on the
target pair alone, with the same photon number there -/
theorem reach_fullOcc (o : List ℕ) (h : 2 * t + 1 < o.length) {w : ℕ →₀ ℕ}
    (hne : amp (homOf (embedBlock n m (sqMat c .H)).get n) (fullOcc her n o) w ≠ 0) :
    w = fullOcc her n (setPair t (w m) (w (m + 1)) o) ∧
      w m + w (m + 1) = o.getD (2 * t) 0 + o.getD (2 * t + 1) 0 := by
  obtain ⟨hz, hp⟩ := block2_reach (sqMat c .H) rfl hmn hne
  obtain ⟨z0, z1⟩ := fullOcc_setPair_zero hnd hlt hm0 hm1 o h
  rw [fullOcc_eq hm0 hm1 o h] at hz hp
  constructor
  · rw [fullOcc_setPair hm0 hm1 o h]
    apply eq_add_pair z0 z1
    intro z c0 c1
    rw [← hz z c0 c1, Finsupp.add_apply, Finsupp.add_apply, Finsupp.single_apply,
      Finsupp.single_apply, if_neg (Ne.symm c0), if_neg (Ne.symm c1), add_zero, add_zero]
  · rw [← hp]
    simp [z0, z1]

end States

/-- **H-conjugation.**  If the block `U` on `n` modes with heralds `her` has the CZ-type table
(scalar `k`) on `nq` qubits, then with the beam splitters realising `H` on the two modes `m`,
`m + 1` of qubit `t` added before and after, it has the CNOT-type table with target `t` and the
same scalar.  For the leak-free clause the factorials of the occupations of an accepted output
have to be invertible (amplitudes are permanents, `∏ t_k!` times the coefficients). -/
theorem HasTable.conjH {R : Type} [Field R] (c : GC R) (hρ : c.rh * c.rh * 2 = 1) (i : R) (n : ℕ)
    (her : Dict) (hnd : her.keys.Nodup) (hlt : ∀ k ∈ her.keys, k < n) (m₀ : ℕ) (U : M R)
    (nq t m : ℕ) (ht : t < nq) (hm0 : layout her n (2 * t) = m)
    (hm1 : layout her n (2 * t + 1) = m + 1) (k : R) (lf : Bool)
    (hf : lf = true → ((nq.factorial * C12F.factProd (her.map (·.2)) : ℕ) : R) ≠ 0)
    (h : HasTable Eq i (.ok (gateCirc n her [.unitary m₀ U])) nq k namedCZ lf) :
    HasTable Eq i (.ok (gateCirc n her
      [.unitary m (sqMat c .H), .unitary m₀ U, .unitary m (sqMat c .H)])) nq k (namedCNOT t) lf := by
  obtain ⟨hports, htab⟩ := hasTable_ok_iff.mp h
  have hports' : n - her.length = 2 * nq := hports
  have hmn : m + 1 < n := by
    rw [← hm1]
    exact layout_lt hnd hlt (by omega)
  have hU : ∀ ins outs : List ℕ, ins.length = 2 * nq → outs.length = 2 * nq →
      gateAmp i (gateCirc n her [.unitary m₀ U]) ins outs =
        ((C12F.factProd (outs ++ her.map (·.2)) : ℕ) : R) *
          amp (homOf (embedBlock n m₀ U).get n) (fullOcc her n outs) (fullOcc her n ins) := by
    intro ins outs hi ho
    rw [gateAmp_gateCirc i n her _ hnd hlt ins outs (by omega) (by omega), homOf_Ufull1]
  have hG : ∀ ins outs : List ℕ, ins.length = 2 * nq → outs.length = 2 * nq →
      gateAmp i (gateCirc n her
          [.unitary m (sqMat c .H), .unitary m₀ U, .unitary m (sqMat c .H)]) ins outs =
        ((C12F.factProd (outs ++ her.map (·.2)) : ℕ) : R) *
          amp ((homOf (embedBlock n m (sqMat c .H)).get n).comp ((homOf (embedBlock n m₀ U).get n).comp (homOf (embedBlock n m (sqMat c .H)).get n)))
            (fullOcc her n outs) (fullOcc her n ins) := by
    intro ins outs hi ho
    rw [gateAmp_gateCirc i n her _ hnd hlt ins outs (by omega) (by omega), homOf_Ufull3]
  refine ⟨_, rfl, hports, fun ib hib => ⟨fun ob hob => ?_, fun hl o ho hndr => ?_⟩⟩
  · have hil : ib.length = nq := mem_bitStrings.mp hib
    have hol : ob.length = nq := mem_bitStrings.mp hob
    have hti : t < ib.length := by omega
    have hto : t < ob.length := by omega
    have e : ∀ ob' ib' : List Bool, ob'.length = nq → ib'.length = nq →
        ((C12F.factProd (her.map (·.2)) : ℕ) : R) * amp (homOf (embedBlock n m₀ U).get n)
          (fullOcc her n (dualRail ob')) (fullOcc her n (dualRail ib'))
          = scaleBy k (namedCZ ob' ib') := by
      intro ob' ib' ho' hi'
      have := (htab ib' (mem_bitStrings.mpr hi')).1 ob' (mem_bitStrings.mpr ho')
      rw [hU _ _ (by rw [dualRail_length, hi']) (by rw [dualRail_length, ho']), factProd_append,
        factProd_dualRail, one_mul] at this
      exact this
    have fi : (flipAt t ib).length = nq := by rw [flipAt_length, hil]
    have fo : (flipAt t ob).length = nq := by rw [flipAt_length, hol]
    rw [hG _ _ (by rw [dualRail_length, hil]) (by rw [dualRail_length, hol]), factProd_append,
      factProd_dualRail, one_mul, amp_H_comp_dualRail hnd hlt hm0 hm1 c hmn _ _ ob hto,
      amp_comp_H_dualRail hnd hlt hm0 hm1 c hmn _ _ ib hti,
      amp_comp_H_dualRail hnd hlt hm0 hm1 c hmn _ _ ib hti,
      ← conj_entry c.rh k hρ t ob ib hti hto, ← e ob ib hol hil, ← e ob _ hol fi, ← e _ ib fo hil,
      ← e _ _ fo fi]
    ring
  · obtain ⟨hol, hos⟩ := mem_fockStates ho
    have hil : ib.length = nq := mem_bitStrings.mp hib
    have hti : t < ib.length := by omega
    have ho2 : 2 * t + 1 < o.length := by omega
    have hf' := hf hl
    rw [Nat.cast_mul] at hf'
    rw [hG _ _ (by rw [dualRail_length, hil]) hol, amp_comp_subset _ _ _ _ ∅, Finset.sum_empty,
      mul_zero]
    intro w _
    by_contra hne
    obtain ⟨hw, hp⟩ := reach_fullOcc hnd hlt hm0 hm1 c hmn o ho2 (right_ne_zero_of_mul hne)
    obtain ⟨hd', hs'⟩ := setPair_isDualRail_sum t (w m) (w (m + 1)) o hp ho2
    have hl' : (setPair t (w m) (w (m + 1)) o).length = 2 * nq := by rw [setPair_length, hol]
    have ho' : setPair t (w m) (w (m + 1)) o ∈ fockStates (2 * nq) nq :=
      mem_fockStates_of hl' (by rw [hs', hos])
    have hz : ∀ ib' : List Bool, ib'.length = nq →
        amp (homOf (embedBlock n m₀ U).get n) w (fullOcc her n (dualRail ib')) = 0 := by
      intro ib' hi'
      have := (htab ib' (mem_bitStrings.mpr hi')).2 hl _ ho' (by rw [hd', hndr])
      rw [hU _ _ (by rw [dualRail_length, hi']) hl', ← hw, factProd_append, Nat.cast_mul] at this
      refine (mul_eq_zero.mp this).resolve_left (mul_ne_zero ?_ (right_ne_zero_of_mul hf'))
      apply factProd_cast_ne_zero (left_ne_zero_of_mul hf')
      intro x hx
      rw [← hos, ← hs']
      exact List.le_sum_of_mem hx
    apply hne
    rw [amp_comp_H_dualRail hnd hlt hm0 hm1 c hmn _ _ ib hti, hz ib hil,
      hz _ (by rw [flipAt_length, hil]), mul_zero, mul_zero, add_zero, zero_mul]

end LW.Gates
