/-
  C18 — State values behave as immutable Fock states; herald bookkeeping round-trips.

  The property theorems and their non-vacuity examples; the lemmas they rest on are in
  LW/Proofs/C18*.lean.  Model: LW.Model.StateVal (`State`, `AState`, the client/alias world,
  `addHeralds`/`removeHeralds`, `dbToDec`/`decToDb`, `processSeed`, `permRows`).
  Every statement is for ALL occupation lists (any integers), label lists, herald dictionaries,
  slices, seeds and dimensions — no bound on lengths.
-/
import LW.Proofs.C18State
import LW.Proofs.C18Herald
import LW.Proofs.C18Utils

namespace LW.C18

open LW.SV

theorem state_eq_iff_occupations (a b : State) : a.eq b = true ↔ a.s = b.s :=
  beq_iff_eq
example : (State.mk [1, 0, 2]).eq ⟨[1, 0, 2]⟩ = true ∧ (State.mk [1, 0, 2]).eq ⟨[1, 0, 3]⟩ = false := ⟨rfl, rfl⟩

/-- equal States hash equally (whatever the string hash function `h` is) -/
theorem state_eq_hash {H : Type} (h : String → H) (a b : State) (e : a.eq b = true) :
    a.hash h = b.hash h := by
  rw [(State.eq_iff a b).mp e]
example : (State.mk [1, 0]).hash String.length = (State.mk [1, 0]).hash String.length := rfl

/-- `str` determines the State: distinct States have distinct strings, so the only hash collisions
are those of Python's string hash -/
theorem state_str_injective (a b : State) (h : a.str = b.str) : a = b :=
  State.strChars_injective a b (by simpa [State.str, String.toList_ofList] using congrArg String.toList h)
example : (State.mk [1, -2, 13]).str = "|1,-2,13>" ∧ (State.mk []).str = ">" := ⟨rfl, rfl⟩

/-- `+` concatenates; mode and photon counts are additive -/
theorem state_add (a b : State) :
    (a.add b).s = a.s ++ b.s ∧ (a.add b).nModes = a.nModes + b.nModes ∧
    (a.add b).nPhotons = a.nPhotons + b.nPhotons :=
  ⟨State.add_s a b, State.nModes_add a b, State.nPhotons_add a b⟩
example : ((State.mk [1, 0]).add ⟨[2]⟩).s = [1, 0, 2] := rfl

theorem state_add_assoc (a b c : State) : (a.add b).add c = a.add (b.add c) :=
  congrArg State.mk (List.append_assoc a.s b.s c.s)
example : ((State.mk [1]).add ⟨[2]⟩).add ⟨[3, 4]⟩ = (State.mk [1]).add ((State.mk [2]).add ⟨[3, 4]⟩) := rfl

/-- merge is accepted exactly for equal mode counts (otherwise ValueError) … -/
theorem state_merge_ok_iff (a b : State) : (∃ c, a.merge b = .ok c) ↔ a.nModes = b.nModes :=
  ⟨fun ⟨c, h⟩ => ((State.merge_eq_ok_iff a b c).mp h).1, fun h => ⟨_, (State.merge_eq_ok_iff a b _).mpr ⟨h, rfl⟩⟩⟩
theorem state_merge_error (a b : State) (h : a.nModes ≠ b.nModes) : a.merge b = .error .value :=
  if_pos h
example : (State.mk [1, 0]).merge ⟨[1]⟩ = .error .value := rfl

/-- … and adds mode by mode -/
theorem state_merge_modewise (a b c : State) (h : a.merge b = .ok c) (i : Nat) (hi : i < c.nModes) :
    c.s[i]'hi = a.s[i]'(by have := State.merge_nModes a b c h; simp only [State.nModes] at *; omega) +
      b.s[i]'(by have := State.merge_nModes a b c h; simp only [State.nModes] at *; omega) := by
  obtain ⟨-, rfl⟩ := (State.merge_eq_ok_iff a b c).mp h
  exact List.getElem_zipWith ..
example : (State.mk [1, 0, 2]).merge ⟨[0, 3, 1]⟩ = .ok ⟨[1, 3, 3]⟩ := rfl

theorem state_merge_comm (a b : State) : a.merge b = b.merge a := by
  by_cases h : a.nModes = b.nModes
  · rw [(State.merge_eq_ok_iff a b _).mpr ⟨h, rfl⟩, (State.merge_eq_ok_iff b a _).mpr ⟨h.symm, rfl⟩,
      List.zipWith_comm_of_comm Int.add_comm]
  · rw [state_merge_error a b h, state_merge_error b a (Ne.symm h)]
theorem state_merge_assoc (a b c ab bc : State) (h1 : a.merge b = .ok ab) (h2 : b.merge c = .ok bc) :
    ab.merge c = a.merge bc := by
  have n1 := State.merge_nModes a b ab h1
  have n2 := State.merge_nModes b c bc h2
  obtain ⟨hab, rfl⟩ := (State.merge_eq_ok_iff a b ab).mp h1
  obtain ⟨hbc, rfl⟩ := (State.merge_eq_ok_iff b c bc).mp h2
  rw [(State.merge_eq_ok_iff _ c _).mpr ⟨n1.2.trans hbc, rfl⟩, (State.merge_eq_ok_iff a _ _).mpr ⟨hab.trans n2.1.symm, rfl⟩,
    zipWith_assoc _ Int.add_assoc]
example : ∃ ab bc, (State.mk [1, 0]).merge ⟨[2, 2]⟩ = .ok ab ∧ (State.mk [2, 2]).merge ⟨[0, 5]⟩ = .ok bc :=
  ⟨⟨[3, 2]⟩, ⟨[2, 7]⟩, rfl, rfl⟩

theorem state_merge_photons (a b c : State) (h : a.merge b = .ok c) : c.nPhotons = a.nPhotons + b.nPhotons := by
  obtain ⟨hn, rfl⟩ := (State.merge_eq_ok_iff a b c).mp h
  exact (List.sum_add_sum_eq_sum_zipWith_of_length_eq a.s b.s hn).symm

/-- `s[i]`, `0 ≤ i < n` -/
theorem state_getitem_nonneg (a : State) (i : Nat) (h : i < a.s.length) : a.getItem (i : Int) = .ok a.s[i] :=
  getItem_nonneg a.s i h
/-- `s[-j]`, `1 ≤ j ≤ n`, counts from the end -/
theorem state_getitem_neg (a : State) (j : Nat) (h1 : 1 ≤ j) (h2 : j ≤ a.s.length) :
    a.getItem (-(j : Int)) = .ok (a.s[a.s.length - j]'(by omega)) :=
  getItem_neg a.s j h1 h2
/-- a subscript is accepted exactly inside `[-n, n)` -/
theorem state_getitem_ok_iff (a : State) (i : Int) :
    (∃ x, a.getItem i = .ok x) ↔ -(a.s.length : Int) ≤ i ∧ i < a.s.length :=
  getItem_ok_iff a.s i
example : (State.mk [4, 5, 6]).getItem (-1) = .ok 6 ∧ (State.mk [4, 5, 6]).getItem 3 = .error .other := ⟨rfl, rfl⟩

/-- every slice (any start/stop/step, negative and out-of-range values included) yields a State
whose entries are the entries of the original at the selected positions, all inside the original;
its mode count is the number of selected positions -/
theorem state_slice_spec (a b : State) (sl : Slice) (h : a.slice sl = .ok b) :
    ∃ idx, sliceIdx a.nModes sl = .ok idx ∧ b.nModes = idx.length ∧
      ∀ k (hk : k < idx.length), ∃ (hv : (idx[k]).toNat < a.nModes), 0 ≤ idx[k] ∧
        b.s[k]? = some (a.s[(idx[k]).toNat]'hv) := by
  obtain ⟨r, hr, rfl⟩ := Except.map_eq_ok.mp ((State.slice_eq a sl).symm.trans h)
  exact sliceList_spec a.s sl r hr
example : (State.mk [0, 1, 2, 3, 4, 5]).slice ⟨some (-2), some (-7), some (-2)⟩ = .ok ⟨[4, 2, 0]⟩ := rfl

/-- a slice is refused exactly for step 0 -/
theorem state_slice_error_iff (a : State) (sl : Slice) : (∃ e, a.slice sl = .error e) ↔ sl.step = some 0 := by
  rw [State.slice_eq, Except.map_error_iff, sliceList_error_iff]
/-- `s[:k] + s[k:] == s` for every integer `k` -/
theorem state_slice_split (a : State) (k : Int) :
    ∃ p q, a.slice ⟨none, some k, none⟩ = .ok p ∧ a.slice ⟨some k, none, none⟩ = .ok q ∧ p.add q = a := by
  obtain ⟨p, q, hp, hq, hpq⟩ := slice_split a.s k
  exact ⟨⟨p⟩, ⟨q⟩, State.slice_eq_ok hp, State.slice_eq_ok hq, congrArg State.mk hpq⟩
theorem state_slice_full (a : State) : a.slice ⟨none, none, none⟩ = .ok a :=
  State.slice_eq_ok (slice_full a.s)
theorem state_slice_reverse (a : State) : a.slice ⟨none, none, some (-1)⟩ = .ok ⟨a.s.reverse⟩ :=
  State.slice_eq_ok (slice_reverse a.s)

/-- with the repaired `__getitem__`, no sequence of client actions — reading `.s`, iterating,
subscripting, slicing, attempted assignments, and appending to ANY list the API handed out —
changes the stored value (State: one row; AnnotatedState: one row per mode) -/
theorem api_never_aliases (w : World) (hw : AllFresh w) (ops : List ClientOp) :
    (clientRun false w ops).rows = w.rows ∧ AllFresh (clientRun false w ops) :=
  clientRun_frame false w hw ops fun _ _ => Or.inl rfl
example : AllFresh ⟨[[0], [1]], []⟩ := by intro h hh; simp at hh

/-- the same holds on the pinned code for every client that does not use `obj[int]` on an
AnnotatedState — in particular for the whole `State` API (whose `obj[int]` returns an int) -/
theorem api_never_aliases_without_getRow (aliasing : Bool) (w : World) (hw : AllFresh w)
    (ops : List ClientOp) (hops : ∀ op ∈ ops, op.isGetRow = false) :
    (clientRun aliasing w ops).rows = w.rows ∧ AllFresh (clientRun aliasing w ops) :=
  clientRun_frame aliasing w hw ops fun op h => Or.inr (hops op h)

/-- assignments are refused and carry no new value -/
theorem setters_refused (a : State) (b : AState) :
    a.setS = .error .state ∧ a.setNModes = .error .state ∧ a.setItem = .error .state ∧
    b.setS = .error .other ∧ b.setNModes = .error .other ∧ b.setItem = .error .other :=
  ⟨rfl, rfl, rfl, rfl, rfl, rfl⟩

/-- F14 (pinned code): `a = AnnotatedState([[0],[1]]); a[0].append(5)` changes `a` -/
theorem F14_pinned_counterexample :
    (clientRun true ⟨[[0], [1]], []⟩ [.getRow 0, .append 0 5]).rows = [[0, 5], [1]] := by
  decide

/-- the constructor stores, per mode, the given labels as a sorted list (same multiset) -/
theorem astate_rows (r : List (List Int)) :
    (AState.new r).WF ∧ List.Forall₂ List.Perm (AState.new r).s r ∧ (AState.new r).nModes = r.length :=
  ⟨AState.new_wf r, AState.new_rows_perm r, AState.new_nModes r⟩
example : (AState.new [[3, 1, 2], [], [0]]).s = [[1, 2, 3], [], [0]] := rfl

/-- a non-list element is refused (TypeError), anything else accepted -/
theorem astate_new_ok_iff (rows : List (Option (List Int))) :
    (∃ a, AState.newChecked rows = .ok a) ↔ ∀ x ∈ rows, x ≠ none := by
  rw [AState.newChecked]
  split
  next hany =>
    obtain ⟨x, hx, hn⟩ := List.any_eq_true.mp hany
    exact ⟨fun ⟨_, h⟩ => (nomatch h), fun h => absurd (Option.isNone_iff_eq_none.mp hn) (h x hx)⟩
  next hany =>
    exact ⟨fun _ x hx e => hany (List.any_eq_true.mpr ⟨x, hx, e ▸ rfl⟩), fun _ => ⟨_, rfl⟩⟩

/-- two annotated states are equal exactly when every mode carries the same multiset of labels —
the order of labels within a mode is irrelevant — and then they hash equally -/
theorem astate_eq_iff_multisets (r₁ r₂ : List (List Int)) :
    (AState.new r₁).eq (AState.new r₂) = true ↔ List.Forall₂ List.Perm r₁ r₂ :=
  (AState.eq_iff _ _).trans (AState.new_eq_iff r₁ r₂)
theorem astate_eq_hash {H : Type} (h : String → H) (a b : AState) (e : a.eq b = true) : a.hash h = b.hash h := by
  rw [(AState.eq_iff a b).mp e]
example : (AState.new [[3, 1], [2]]).eq (AState.new [[1, 3], [2]]) = true := rfl

/-- reading `.s` and constructing again gives the same value -/
theorem astate_roundtrip (r : List (List Int)) : AState.new (AState.new r).getS = AState.new r :=
  AState.new_of_wf _ (AState.new_wf r)

theorem astate_add (a b : List (List Int)) : (AState.new a).add (AState.new b) = AState.new (a ++ b) :=
  AState.add_new a b
theorem astate_add_assoc (a b c : AState) (ha : a.WF) (hb : b.WF) (hc : c.WF) :
    (a.add b).add c = a.add (b.add c) :=
  AState.add_assoc a b c
example : (AState.new [[2, 1]]).WF := AState.new_wf _

/-- merge adds the label multisets mode by mode; refused (ValueError) for different mode counts -/
theorem astate_merge (a b : List (List Int)) (h : a.length = b.length) :
    (AState.new a).merge (AState.new b) = .ok (AState.new (List.zipWith (· ++ ·) a b)) :=
  AState.merge_new a b h
theorem astate_merge_error (a b : AState) (h : a.nModes ≠ b.nModes) : a.merge b = .error .value :=
  if_pos h
theorem astate_merge_comm (a b : AState) : a.merge b = b.merge a := by
  by_cases h : a.nModes = b.nModes
  · rw [(AState.merge_eq_ok_iff a b _).mpr ⟨h, rfl⟩, (AState.merge_eq_ok_iff b a _).mpr ⟨h.symm, rfl⟩,
      (AState.new_eq_iff _ _).mpr (AState.zipWith_append_perm_comm a.s b.s)]
  · rw [astate_merge_error a b h, astate_merge_error b a (Ne.symm h)]
theorem astate_merge_assoc (a b c : List (List Int)) (h1 : a.length = b.length) (h2 : b.length = c.length)
    (ab bc : AState) (hab : (AState.new a).merge (AState.new b) = .ok ab)
    (hbc : (AState.new b).merge (AState.new c) = .ok bc) :
    ab.merge (AState.new c) = (AState.new a).merge bc :=
  AState.merge_assoc _ _ _ ab bc hab hbc
example : (AState.new [[3], [1]]).merge (AState.new [[1, 0], []]) = .ok (AState.new [[0, 1, 3], [1]]) := rfl

/-- photon number = total number of labels; additive under `+` and merge -/
theorem astate_photons (r : List (List Int)) (a b c : AState) :
    (AState.new r).nPhotons = (r.map List.length).sum ∧
    (a.add b).nPhotons = a.nPhotons + b.nPhotons ∧
    (a.merge b = .ok c → c.nPhotons = a.nPhotons + b.nPhotons) :=
  ⟨AState.nPhotons_new r, AState.nPhotons_add a b, AState.nPhotons_merge a b c⟩

/-- subscripts: an int gives the sorted label list of that mode, a slice the annotated state of the
selected modes (same index semantics as for State) -/
theorem astate_getitem (r : List (List Int)) (i : Int) :
    (AState.new r).getItem i = (SV.getItem r i).map sortInt :=
  getItem_map sortInt r i
theorem astate_slice (r : List (List Int)) (sl : Slice) :
    (AState.new r).slice sl = (sliceList r sl).map AState.new := by
  rw [AState.slice_eq, AState.new, sliceList_map sortInt rfl]
  cases sliceList r sl with
  | error e => rfl
  | ok v => exact congrArg Except.ok (AState.new_map_sortInt v)
example : (AState.new [[2, 1], [], [5]]).slice ⟨some 1, none, none⟩ = .ok (AState.new [[], [5]]) := rfl

/-- for a non-empty herald dictionary (unique keys, ANY insertion order) the insertion succeeds
exactly when every herald mode lies inside the enlarged state -/
theorem add_heralds_ok_iff (s : List Int) (h : HDict) (hn : h.keys.Nodup) (hne : h ≠ []) :
    (∃ t, addHeralds s h = .ok t) ↔ ∀ k ∈ h.keys, 0 ≤ k ∧ k < ((s.length + h.length : Nat) : Int) := by
  cases h with
  | nil => exact absurd rfl hne
  | cons p ps => exact addHeralds_ok_iff s _ hn
example : addHeralds [1, 2, 3] [(3, 7), (0, 9)] = .ok [9, 1, 2, 7, 3] ∧
    addHeralds [1, 2, 3] [(7, 7)] = .error .other := ⟨rfl, rfl⟩

/-- the result carries every herald value at its mode and the original entries, in order, on the
remaining modes -/
theorem add_heralds_spec (s : List Int) (h : HDict) (hn : h.keys.Nodup) (t : List Int)
    (ht : addHeralds s h = .ok t) :
    t.length = s.length + h.length ∧ dropKeys (isKey h) 0 t = s ∧
    (∀ k v, (k, v) ∈ h → 0 ≤ k ∧ k < (t.length : Int) ∧ t[k.toNat]? = some v) := by
  obtain ⟨h1, h2, h3⟩ := (addHeralds_eq_ok_iff s h hn t).mp ht
  refine ⟨h1, h2, fun k v hkv => ?_⟩
  obtain ⟨hk0, hk1⟩ := addHeralds_keys_lt s h hn t ht k (List.mem_map.mpr ⟨(k, v), hkv, rfl⟩)
  refine ⟨hk0, hk1, h3 k.toNat v ?_ (by omega)⟩
  rw [Nat.zero_add, Int.toNat_of_nonneg hk0]
  exact (HDict.get?_eq_some_iff h hn k v).mpr hkv

/-- the key order of the dictionary is irrelevant -/
theorem add_heralds_key_order (s : List Int) {h h' : HDict} (hp : h.Perm h') (hn : h.keys.Nodup) :
    addHeralds s h = addHeralds s h' := by
  rw [addHeralds_eq_addGo, addHeralds_eq_addGo, hp.length_eq,
    addGo_congr fun k => HDict.get?_perm hp hn k]
example : ([(3, 7), (0, 9)] : HDict).Perm [(0, 9), (3, 7)] ∧ HDict.keys [(3, 7), (0, 9)] = [3, 0] :=
  ⟨List.Perm.swap _ _ _, rfl⟩

/-- removal of distinct in-range modes keeps exactly the other entries, in order -/
theorem remove_heralds_spec (t : List Int) (modes : List Int) (hn : modes.Nodup)
    (hr : ∀ m ∈ modes, 0 ≤ m ∧ m < (t.length : Int)) :
    removeHeralds t modes = .ok (dropKeys (fun j => decide ((j : Int) ∈ modes)) 0 t) := by
  rw [removeHeralds, foldlM_popAt_desc _ t (sortDesc_pairwise modes hn) fun m hm =>
    hr m ((mem_sortDesc modes m).mp hm)]
  exact congrArg _ (dropKeys_congr t 0 fun j _ => decide_eq_decide.mpr (mem_sortDesc modes _))

/-- removing the herald modes (listed in any order) from the result of an insertion
returns the original state — any state, any herald positions and values, any key order -/
theorem remove_heralds_of_add (s : List Int) (h : HDict) (hn : h.keys.Nodup) (t : List Int)
    (ht : addHeralds s h = .ok t) (ms : List Int) (hms : ms.Perm h.keys) :
    removeHeralds t ms = .ok s := by
  rw [removeHeralds_perm t hms, remove_heralds_spec t h.keys hn (addHeralds_keys_lt s h hn t ht),
    ← isKey_eq_decide_mem, ((addHeralds_eq_ok_iff s h hn t).mp ht).2.1]
example : removeHeralds [9, 1, 2, 7, 3] [0, 3] = .ok [1, 2, 3] := rfl

/-- conversely, re-inserting the removed entries at their modes returns the full state -/
theorem add_heralds_of_remove (t : List Int) (modes : List Int) (hn : modes.Nodup)
    (hr : ∀ m ∈ modes, 0 ≤ m ∧ m < (t.length : Int)) :
    ∃ s, removeHeralds t modes = .ok s ∧ addHeralds s (heraldsAt t modes) = .ok t := by
  refine ⟨_, remove_heralds_spec t modes hn hr, ?_⟩
  have hk := heraldsAt_keys t modes
  rw [← isKey_heraldsAt t modes]
  refine (addHeralds_eq_ok_iff _ _ (hk.symm ▸ hn) t).mpr ⟨?_, rfl, holdsHeralds_heraldsAt t modes⟩
  have := dropKeys_length (isKey (heraldsAt t modes)) t 0
  have := (keyCount_eq_length_iff (heraldsAt t modes) (hk.symm ▸ hn) t.length).mpr (hk.symm ▸ hr)
  omega
example : addHeralds [1, 2, 3] (heraldsAt [9, 1, 2, 7, 3] [3, 0]) = .ok [9, 1, 2, 7, 3] := rfl

/-- the real exponential and logarithm satisfy the laws the conversions rely on -/
theorem real_exp_log_laws : ExpLogLaws realE :=
  { log_pow := fun x => Real.logb_rpow (by norm_num) (by norm_num)
    pow_log := fun y hy => Real.rpow_logb (by norm_num) (by norm_num) hy
    pow_pos := fun x => Real.rpow_pos_of_pos (by norm_num) x
    pow_le_one := fun x hx => Real.rpow_le_one_of_one_le_of_nonpos (by norm_num) hx
    log_nonpos := fun y hy h1 => Real.logb_nonpos (by norm_num) hy.le h1 }

/-- dB → decimal lands in `[0, 1)` and ignores the sign -/
theorem db_to_decimal_range {E : ExpLog ℝ} (hE : ExpLogLaws E) (x : ℝ) :
    0 ≤ dbToDec E x ∧ dbToDec E x < 1 ∧ dbToDec E (-x) = dbToDec E x :=
  ⟨(dbToDec_range hE x).1, (dbToDec_range hE x).2, dbToDec_neg E x⟩

/-- the conversions invert each other: dB → decimal → dB gives |x| for every real x … -/
theorem db_roundtrip {E : ExpLog ℝ} (hE : ExpLogLaws E) (x : ℝ) : decToDb E (dbToDec E x) = .ok |x| := by
  obtain ⟨h0, h1⟩ := dbToDec_range hE x
  rw [decToDb_ok E _ h0 h1, dbToDec_eq, sub_sub_cancel, hE.log_pow, mul_div_cancel₀ _ (by norm_num), abs_neg, abs_abs]
/-- … and decimal → dB → decimal gives the loss for every loss in `[0, 1)` -/
theorem decimal_roundtrip {E : ExpLog ℝ} (hE : ExpLogLaws E) (l : ℝ) (h0 : 0 ≤ l) (h1 : l < 1) :
    ∃ d, decToDb E l = .ok d ∧ 0 ≤ d ∧ dbToDec E d = l := by
  refine ⟨_, decToDb_ok E l h0 h1, abs_nonneg _, ?_⟩
  have hpos : 0 < 1 - l := sub_pos.mpr h1
  have hlog := hE.log_nonpos (1 - l) hpos (sub_le_self 1 h0)
  rw [dbToDec_eq, abs_abs, abs_of_nonpos (mul_nonpos_of_nonneg_of_nonpos (by norm_num) hlog), neg_neg,
    mul_div_cancel_left₀ _ (by norm_num), hE.pow_log _ hpos, sub_sub_cancel]
/-- outside `[0, 1)` the decimal → dB conversion is refused (ValueError) -/
theorem decimal_out_of_range (E : ExpLog ℝ) (l : ℝ) (h : l < 0 ∨ 1 ≤ l) : decToDb E l = .error .value :=
  if_pos h
example : decToDb realE (dbToDec realE 3) = .ok |(3 : ℝ)| := db_roundtrip real_exp_log_laws 3

/-- accepted seeds: None, a non-bool int, a number with integral value; everything else TypeError -/
theorem seed_ok_iff (s : Seed) :
    (∃ r, processSeed s = .ok r) ↔ (s = .none ∨ (∃ i, s = .int i) ∨ (∃ q, s = .real q ∧ q.den = 1)) := by
  cases s with
  | none => simp [processSeed]
  | int i => simp [processSeed]
  | bool b => simp [processSeed]
  | real q => by_cases h : q.den = 1 <;> simp [processSeed, h]
  | other => simp [processSeed]
theorem seed_error_is_type_error (s : Seed) (e : Err) (h : processSeed s = .error e) : e = .type := by
  cases s with
  | none => cases h
  | int i => cases h
  | bool b => exact (Except.error.inj h).symm
  | real q =>
    rw [processSeed] at h
    split at h
    · cases h
    · exact (Except.error.inj h).symm
  | other => exact (Except.error.inj h).symm
example : processSeed (.real 3) = .ok (some 3) ∧ processSeed (.bool true) = .error .type ∧
    processSeed .other = .error .type := by decide

/-- reproducible: equal processed seeds give the same matrix -/
theorem random_permutation_reproducible {K : Type} [Zero K] [One K] (N : Nat) (s₁ s₂ : Seed)
    (tape : Option Int → List Nat) (h : processSeed s₁ = processSeed s₂) :
    (randomPermutation N s₁ tape : Except Err (M K)) = randomPermutation N s₂ tape := by
  rw [randomPermutation, randomPermutation, h]

/-- valid: for every order `σ` that is a permutation of `range N` the result is a permutation
matrix (one 1 per row, in column `σ[i]`; every column hit exactly once) and unitary -/
theorem random_permutation_valid {K : Type} [CommRing K] [StarRing K] (N : Nat) (σ : List Nat)
    (hσ : σ.Perm (List.range N)) :
    IsUnitary (permRows N σ : M K) ∧
    (∀ i j, i < N → j < N → (permRows N σ : M K).get i j = if σ.getD i N = j then 1 else 0) ∧
    (∀ i, i < N → σ.getD i N < N) ∧
    (∀ j, j < N → ∃ i, i < N ∧ σ.getD i N = j ∧ ∀ i', i' < N → σ.getD i' N = j → i' = i) :=
  ⟨permRows_unitary N σ hσ, permRows_is_permutation N σ hσ⟩
example : ([2, 0, 1] : List Nat).Perm (List.range 3) := by decide

end LW.C18
