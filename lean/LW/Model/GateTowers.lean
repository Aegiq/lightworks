/-
  LW.Model.GateTowers — the exact number rings over which the gate library is evaluated, and the
  gate library's constants in them.

  Base ring `S6 = ℤ[1/6]` (kernel-friendly: Int/Nat arithmetic only), towers of formal square
  roots on top:
      TCZ  = S6[√2][√3]                       CZ, CNOT
      TCZH = S6[√2][2^(1/4)][w][i]            CZ_Heralded, CNOT_Heralded   (w² = 3/√2 − 2)
      TCCZ = S6[√2][√3][√7][i]                CCZ, CCNOT
      T1   = ℚ[i][e^{iπ/4}]                   single-qubit gates (rational rotation parameters), SWAP
  The same constants records are used by the driver (correspondence check) and by the kernel
  decisions in LW/Proofs/C13Tab/*.lean, so the objects compared with the code are literally the
  objects the theorems are about.
-/
import LW.Model.Quad
import LW.Model.Gates

namespace LW.Gates

open LW

/-! ### S6[√2] and friends -/

abbrev T2 := Quad S6 (⟨2, 0⟩ : S6)
def T2.ofS (x : S6) : T2 := Quad.lift x
/-- √2 -/
def T2.r2 : T2 := Quad.root
/-- 1/√2 = √2/2 -/
def T2.rh : T2 := ⟨0, S6.half⟩

/-! ### TCZ = S6[√2][√3] -/

abbrev TCZ := Quad T2 (Quad.lift ⟨3, 0⟩ : T2)
def TCZ.ofT2 (x : T2) : TCZ := Quad.lift x

def cCZ : GC TCZ where
  i := 0
  s2 := TCZ.ofT2 T2.r2
  rh := TCZ.ofT2 T2.rh
  half := TCZ.ofT2 (T2.ofS S6.half)
  third := TCZ.ofT2 (T2.ofS S6.third)
  s3i := ⟨0, T2.ofS S6.third⟩          -- √3/3
  q4i := 0
  w := 0
  s7 := 0
  t8 := 0
  t8c := 0

/-! ### TCZH = S6[√2][q][w][i],  q² = √2,  w² = (3/2)√2 − 2,  i² = −1 -/

abbrev TQ4 := Quad T2 (Quad.root : T2)
def wArg : TQ4 := Quad.lift ⟨⟨-2, 0⟩, ⟨9, 1⟩⟩        -- −2 + (3/2)·√2
abbrev TW := Quad TQ4 wArg
abbrev TCZH := Quad TW (Quad.lift (Quad.lift (Quad.lift (⟨-1, 0⟩ : S6))))
def TCZH.ofT2 (x : T2) : TCZH := Quad.lift (Quad.lift (Quad.lift x))

def cCZH : GC TCZH where
  i := Quad.root
  s2 := TCZH.ofT2 T2.r2
  rh := TCZH.ofT2 T2.rh
  half := TCZH.ofT2 (T2.ofS S6.half)
  third := TCZH.ofT2 (T2.ofS S6.third)
  s3i := 0
  q4i := Quad.lift (Quad.lift ⟨0, T2.rh⟩)   -- 2^(-1/4) = q·(√2/2)  (q·√2/2 = q³/2)
  w := Quad.lift Quad.root
  s7 := 0
  t8 := 0
  t8c := 0

/-! ### TCCZ = S6[√2][√3][√7][i] -/

abbrev T237 := Quad TCZ (Quad.lift (Quad.lift ⟨7, 0⟩) : TCZ)
abbrev TCCZ := Quad T237 (Quad.lift (Quad.lift (Quad.lift (⟨-1, 0⟩ : S6))))
def TCCZ.ofTCZ (x : TCZ) : TCCZ := Quad.lift (Quad.lift x)

def cCCZ : GC TCCZ where
  i := Quad.root
  s2 := TCCZ.ofTCZ cCZ.s2
  rh := TCCZ.ofTCZ cCZ.rh
  half := TCCZ.ofTCZ cCZ.half
  third := TCCZ.ofTCZ cCZ.third
  s3i := TCCZ.ofTCZ cCZ.s3i
  q4i := 0
  w := 0
  s7 := Quad.lift Quad.root
  t8 := 0
  t8c := 0

/-! ### T1 = ℚ[i][t],  t² = i  (t = e^{iπ/4}) -/

abbrev QI := Quad Rat (-1 : Rat)
abbrev T1 := Quad QI (Quad.root : QI)
def T1.ofQI (x : QI) : T1 := Quad.lift x
def T1.ofRat (x : Rat) : T1 := Quad.lift (Quad.lift x)

/-- `t8c = t⁻¹ = −i·t`, `√2 = t + t⁻¹ = (1 − i)·t`, `1/√2 = (1 − i)·t/2` -/
def c1 : GC T1 where
  i := T1.ofQI Quad.root
  s2 := ⟨0, ⟨1, -1⟩⟩
  rh := ⟨0, ⟨1/2, -1/2⟩⟩
  half := T1.ofRat (1/2)
  third := T1.ofRat (1/3)
  s3i := 0
  q4i := 0
  w := 0
  s7 := 0
  t8 := Quad.root
  t8c := ⟨0, ⟨0, -1⟩⟩

end LW.Gates
