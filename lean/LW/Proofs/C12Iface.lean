/-
  LW.Proofs.C12Iface — the interface `Iface` of an instruction from the amplitudes of a placement
  `placeHomG (homOf U d) (fwdQ Q P) (invQ Q P) (P + h)` (sub-circuit on the qubits `Q`, heralds from
  mode `P` on): a non-zero amplitude leaves every other mode alone and conserves the photons on the
  placement; between states that agree outside the placement it is the sub-circuit's amplitude
  between the local states `userList Q · ++ H` (`amp_local`).  With `Sits` this gives the interface
  up to the table of the sub-circuit between the local bits (`Sits.iface`).
-/
import LW.Proofs.C12Modes
import LW.Proofs.C12Ind
import LW.Proofs.C12Shape

open MvPolynomial

namespace LW.C12F

open LW LW.QC LW.Gates LW.QF LW.Proofs.C02Sem

variable {R : Type} [CommRing R]

def userList : List ℕ → (ℕ →₀ ℕ) → List ℕ
  | [], _ => []
  | q :: Q, s => s (2 * q) :: s (2 * q + 1) :: userList Q s

theorem userList_length (Q : List ℕ) (s : ℕ →₀ ℕ) : (userList Q s).length = 2 * Q.length := by
  induction Q with
  | nil => rfl
  | cons q Q ih => simp [userList, ih]; omega

theorem userList_getD (Q : List ℕ) (s : ℕ →₀ ℕ) (j e : ℕ) (hj : j < Q.length) (he : e < 2) :
    (userList Q s).getD (2 * j + e) 0 = s (2 * Q.getD j 0 + e) := by
  induction Q generalizing j with
  | nil => simp at hj
  | cons q Q ih =>
    cases j with
    | zero =>
      have : e = 0 ∨ e = 1 := by omega
      rcases this with rfl | rfl <;> simp [userList]
    | succ j =>
      have e1 : 2 * (j + 1) + e = (2 * j + e) + 1 + 1 := by omega
      rw [e1]
      simp only [userList, List.getD_cons_succ]
      rw [ih j (by simpa using hj)]

theorem userList_sum (Q : List ℕ) (s : ℕ →₀ ℕ) :
    (userList Q s).sum = (Q.map fun q => s (2 * q) + s (2 * q + 1)).sum := by
  induction Q with
  | nil => rfl
  | cons q Q ih => simp [userList, ih]; omega

theorem userList_congr (Q : List ℕ) (s t : ℕ →₀ ℕ)
    (h : ∀ q ∈ Q, s (2 * q) = t (2 * q) ∧ s (2 * q + 1) = t (2 * q + 1)) :
    userList Q s = userList Q t := by
  induction Q with
  | nil => rfl
  | cons q Q ih =>
    simp only [userList]
    rw [(h q (by simp)).1, (h q (by simp)).2, ih (fun q' hq' => h q' (by simp [hq']))]

theorem userList_dualRail (Q : List ℕ) (b : List Bool) (η : ℕ →₀ ℕ)
    (hη : ∀ z ∈ η.support, 2 * b.length ≤ z) (hQ : ∀ q ∈ Q, q < b.length) :
    userList Q (mk (dualRail b) η) = dualRail (Q.map (getBit b)) := by
  have hl : (dualRail b).length = 2 * b.length := dualRail_length b
  induction Q with
  | nil => rfl
  | cons q Q ih =>
    have hq := hQ q (by simp)
    simp only [userList, List.map_cons]
    rw [ih (fun q' hq' => hQ q' (by simp [hq'])),
      mk_apply_lt (by rw [hl]; exact hη) (by omega), mk_apply_lt (by rw [hl]; exact hη) (by omega),
      dualRail_getD_even, dualRail_getD_odd]
    cases hgb : getBit b q <;> simp [dualRail, hq]

theorem pull_fwdQ (Q : List ℕ) (P : ℕ) (H : List ℕ) (s : ℕ →₀ ℕ) (hs : HerAt P H s) :
    pull (2 * Q.length + H.length) (fwdQ Q P) s = (userList Q s ++ H).toFinsupp := by
  ext y
  rw [pull_apply, List.toFinsupp_apply]
  have hul := userList_length Q s
  by_cases h1 : y < 2 * Q.length
  · rw [if_pos (by omega), fwdQ_lt_port h1, List.getD_append _ _ _ _ (by omega)]
    have := userList_getD Q s (y / 2) (y % 2) (by omega) (by omega)
    rw [Nat.div_add_mod] at this
    exact this.symm
  · by_cases h2 : y < 2 * Q.length + H.length
    · rw [if_pos h2, fwdQ_ge_port (by omega), List.getD_append_right _ _ _ _ (by omega), hul]
      exact hs _ (by omega)
    · rw [if_neg h2, List.getD_eq_default _ _ (by rw [List.length_append, hul]; omega)]

section placed

variable (Q : List ℕ) (P h : ℕ) (U : ℕ → ℕ → R) (hnd : Q.Nodup) (hlt : ∀ q ∈ Q, 2 * q + 1 < P)

include hnd hlt

theorem place_pres_outside {z : ℕ} (hz1 : ¬ (z / 2 ∈ Q ∧ z < P)) (hz2 : ¬ (P ≤ z ∧ z < P + h)) :
    Pres (wtP (· = z)) (placeHomG (homOf U (2 * Q.length + h)) (fwdQ Q P) (invQ Q P) (P + h)) := by
  have hp := pinj_fwdQ Q P h hnd hlt
  have hne' := fwdQ_ne (h := h) hz1 hz2 hlt
  apply pres_place hp
  intro x y hx hy
  unfold wtP
  rw [if_neg (hne' x hx), if_neg (hne' y hy)]

theorem place_outside {w s : ℕ →₀ ℕ}
    (hne : amp (placeHomG (homOf U (2 * Q.length + h)) (fwdQ Q P) (invQ Q P) (P + h)) w s ≠ 0)
    {z : ℕ} (hz1 : ¬ (z / 2 ∈ Q ∧ z < P)) (hz2 : ¬ (P ≤ z ∧ z < P + h)) : w z = s z :=
  (place_pres_outside Q P h U hnd hlt hz1 hz2).apply_eq hne

theorem place_outside_qubit {w s : ℕ →₀ ℕ}
    (hne : amp (placeHomG (homOf U (2 * Q.length + h)) (fwdQ Q P) (invQ Q P) (P + h)) w s ≠ 0)
    {q e : ℕ} (he : e < 2) (hq : q ∉ Q) (hqP : 2 * q + 1 < P) : w (2 * q + e) = s (2 * q + e) :=
  place_outside Q P h U hnd hlt hne (fun hm => hq (two_mul_add_div (q := q) he ▸ hm.1)) (fun hz => by omega)

omit hnd hlt in
theorem rest_eq_of_agree {w s : ℕ →₀ ℕ}
    (hag : ∀ z, ¬ (z / 2 ∈ Q ∧ z < P) → ¬ (P ≤ z ∧ z < P + h) → w z = s z) :
    rest (P + h) (invQ Q P) w = rest (P + h) (invQ Q P) s := by
  ext z
  rw [rest_apply, rest_apply]
  by_cases hz : z < P + h ∧ (invQ Q P z).isSome = true
  · rw [if_pos hz, if_pos hz]
  · rw [if_neg hz, if_neg hz]
    apply hag
    · rintro ⟨hm, hzP⟩
      apply hz
      exact ⟨by omega, by rw [invQ_of_mem hzP hm]; rfl⟩
    · rintro ⟨h1, h2⟩
      exact hz ⟨h2, by rw [invQ_of_ge h1]; rfl⟩

theorem place_rest {w s : ℕ →₀ ℕ}
    (hne : amp (placeHomG (homOf U (2 * Q.length + h)) (fwdQ Q P) (invQ Q P) (P + h)) w s ≠ 0) :
    rest (P + h) (invQ Q P) w = rest (P + h) (invQ Q P) s :=
  rest_eq_of_agree Q P h fun _ hz1 hz2 => place_outside Q P h U hnd hlt hne hz1 hz2

theorem amp_local {H : List ℕ} (hH : H.length = h) (w s : ℕ →₀ ℕ)
    (hr : rest (P + h) (invQ Q P) w = rest (P + h) (invQ Q P) s)
    (hw : HerAt P H w) (hs : HerAt P H s) :
    amp (placeHomG (homOf U (2 * Q.length + h)) (fwdQ Q P) (invQ Q P) (P + h)) w s =
      amp (homOf U (2 * Q.length + h)) (userList Q w ++ H).toFinsupp
        (userList Q s ++ H).toFinsupp := by
  have hp := pinj_fwdQ Q P h hnd hlt
  have hinj := fwdQ_injective Q P hnd hlt
  rw [amp_place hp hinj _ w s hr]
  subst hH
  rw [pull_fwdQ Q P H w hw, pull_fwdQ Q P H s hs]

theorem place_sum {H : List ℕ} (hH : H.length = h) {w s : ℕ →₀ ℕ}
    (hne : amp (placeHomG (homOf U (2 * Q.length + h)) (fwdQ Q P) (invQ Q P) (P + h)) w s ≠ 0)
    (hw : HerAt P H w) (hs : HerAt P H s) :
    (Q.map fun q => w (2 * q) + w (2 * q + 1)).sum = (Q.map fun q => s (2 * q) + s (2 * q + 1)).sum := by
  rw [amp_local Q P h U hnd hlt hH w s (place_rest Q P h U hnd hlt hne) hw hs] at hne
  have hl : ∀ t : ℕ →₀ ℕ, (userList Q t ++ H).length = 2 * Q.length + h := fun t => by
    rw [List.length_append, userList_length, hH]
  have := homOf_sum U _ hne
  rw [← hl w, sum_range_toFinsupp, hl w, ← hl s, sum_range_toFinsupp, List.sum_append,
    List.sum_append, userList_sum, userList_sum] at this
  exact Nat.add_right_cancel this

end placed

section
variable {c : GC R} {par : ℕ → R × R} {nq : ℕ} {g : Instr} {f : Bool}

theorem Sits.hlt (h : Sits c par nq g f) {P : ℕ} (hP : 2 * nq ≤ P) :
    ∀ q ∈ instrQ g, 2 * q + 1 < P := by
  intro q hq
  have := h.lt q hq
  omega

theorem Sits.touch (h : Sits c par nq g f) (idx P z : ℕ) (hP : 2 * nq ≤ P) (hz : 2 * nq ≤ z)
    (hz2 : ¬ (P ≤ z ∧ z < P + (instrHer g f).length)) :
    Pres (wtP (· = z)) (instrHom c par idx g f P) := by
  rw [h.hom]
  apply place_pres_outside _ P _ _ h.nodup (h.hlt hP) _ hz2
  rintro ⟨hm, _⟩
  have := h.lt _ hm
  omega

theorem Sits.redistributes (h : Sits c par nq g f) {idx P : ℕ} {w s : ℕ →₀ ℕ} (hP : 2 * nq ≤ P)
    (hne : amp (instrHom c par idx g f P) w s ≠ 0) (hw : HerAt P (instrHer g f) w)
    (hs : HerAt P (instrHer g f) s) : redistributes g.qubits (cfgN nq s) (cfgN nq w) := by
  rw [h.hom] at hne
  have hlt := h.hlt hP
  refine ⟨fun q hq => ?_, ?_⟩
  · by_cases hqn : q < nq
    · have hqQ : q ∉ instrQ g := fun hc => hq (h.perm.mem_iff.mp hc)
      have h0 : w (2 * q) = s (2 * q) :=
        place_outside_qubit _ P _ _ h.nodup hlt hne Nat.two_pos hqQ (by omega)
      rw [cfgN_lt _ hqn, cfgN_lt _ hqn, h0,
        place_outside_qubit _ P _ _ h.nodup hlt hne Nat.one_lt_two hqQ (by omega)]
    · rw [cfgN_ge _ hqn, cfgN_ge _ hqn]
  · have e : ∀ t : ℕ →₀ ℕ,
        (instrQ g).map (cfgN nq t) = (instrQ g).map fun q => t (2 * q) + t (2 * q + 1) :=
      fun t => List.map_congr_left fun q hq => cfgN_lt t (h.lt q hq)
    rw [← (h.perm.map (cfgN nq s)).sum_eq, ← (h.perm.map (cfgN nq w)).sum_eq, e, e]
    exact (place_sum _ P _ _ h.nodup hlt rfl hne hw hs).symm

/-- the amplitude between dual-rail states is 0 when the bit strings differ on a qubit the
instruction does not name, and the sub-circuit's amplitude between the local states (`hloc`)
otherwise -/
theorem Sits.table (h : Sits c par nq g f)
    (hloc : ∀ idx (ib mid : List Bool), ib.length = nq → mid.length = nq →
      (∀ q, q < nq → q ∉ g.qubits → getBit mid q = getBit ib q) →
      amp (circHom c.i (instrSub c par idx g f))
          (dualRail ((instrQ g).map (getBit mid)) ++ instrHer g f).toFinsupp
          (dualRail ((instrQ g).map (getBit ib)) ++ instrHer g f).toFinsupp
        = instrK c g f * applyInstr c par idx g (delta ib) mid)
    (idx P : ℕ) (ib mid : List Bool) (η : ℕ →₀ ℕ) (hP : 2 * nq ≤ P) (hib : ib.length = nq)
    (hmid : mid.length = nq) (hη : ∀ z ∈ η.support, 2 * nq ≤ z) (hher : HerAt P (instrHer g f) η) :
    amp (instrHom c par idx g f P) (C12F.mk (dualRail mid) η) (C12F.mk (dualRail ib) η)
      = instrK c g f * applyInstr c par idx g (delta ib) mid := by
  have hlt := h.hlt hP
  have hlm : (dualRail mid).length = 2 * nq := by rw [dualRail_length, hmid]
  have hli : (dualRail ib).length = 2 * nq := by rw [dualRail_length, hib]
  rw [h.hom]
  by_cases hag : ∀ q, q < nq → q ∉ g.qubits → getBit mid q = getBit ib q
  · have hr : rest (P + (instrHer g f).length) (invQ (instrQ g) P) (C12F.mk (dualRail mid) η) =
        rest (P + (instrHer g f).length) (invQ (instrQ g) P) (C12F.mk (dualRail ib) η) := by
      apply rest_eq_of_agree
      intro z hz1 _
      by_cases hz : z < 2 * nq
      · exact mk_dualRail_agree hib hmid hη hz (hag _ (by omega) fun hm =>
          hz1 ⟨h.perm.mem_iff.mpr hm, by omega⟩)
      · rw [mk_apply_ge (by omega), mk_apply_ge (by omega)]
    rw [amp_local _ P _ _ h.nodup hlt rfl _ _ hr ((herAt_mk (by omega)).mpr hher)
        ((herAt_mk (by omega)).mpr hher),
      userList_dualRail _ mid η (by rw [hmid]; exact hη) (by rw [hmid]; exact h.lt),
      userList_dualRail _ ib η (by rw [hib]; exact hη) (by rw [hib]; exact h.lt),
      ← hloc idx ib mid hib hmid hag]
    unfold circHom
    rw [h.dim idx]
  · push Not at hag
    obtain ⟨q, hq, hqg, hd⟩ := hag
    rw [(applyInstr_reads c par idx g).delta_outside ib mid q hqg hd, mul_zero]
    by_contra hne
    exact mk_dualRail_differ hib hmid hη hq hd
      (place_outside_qubit _ P _ _ h.nodup hlt hne Nat.two_pos
        (fun hc => hqg (h.perm.mem_iff.mp hc)) (by omega))

theorem Sits.allOne (h : Sits c par nq g f)
    (hleak : ∀ idx (β : List Bool) (o : List ℕ), β.length = (instrQ g).length →
      o.length = 2 * (instrQ g).length → o.sum = (instrQ g).length → isDualRail o = false →
      amp (circHom c.i (instrSub c par idx g f)) (o ++ instrHer g f).toFinsupp
        (dualRail β ++ instrHer g f).toFinsupp = 0)
    {idx P : ℕ} {w s : ℕ →₀ ℕ} (hP : 2 * nq ≤ P)
    (hne : amp (instrHom c par idx g f P) w s ≠ 0) (hw : HerAt P (instrHer g f) w)
    (hs : HerAt P (instrHer g f) s) (hall : ∀ q ∈ g.qubits, cfgN nq s q = 1) :
    ∀ q ∈ g.qubits, cfgN nq w q = 1 := by
  have hnd := h.nodup
  have hQlt := h.lt
  rw [h.hom] at hne
  have hlt := h.hlt hP
  have hr := place_rest _ P _ _ hnd hlt hne
  have hne0 := hne
  rw [amp_local _ P _ _ hnd hlt rfl w s hr hw hs] at hne
  have hsl := userList_length (instrQ g) s
  have hwl := userList_length (instrQ g) w
  have hpair : ∀ (t : ℕ →₀ ℕ) j, j < (instrQ g).length →
      (userList (instrQ g) t).getD (2 * j) 0 + (userList (instrQ g) t).getD (2 * j + 1) 0
        = cfgN nq t ((instrQ g).getD j 0) := by
    intro t j hj
    have h0 := userList_getD (instrQ g) t j 0 hj Nat.two_pos
    have h1 := userList_getD (instrQ g) t j 1 hj Nat.one_lt_two
    simp only [Nat.add_zero] at h0
    rw [h0, h1, cfgN_lt t (hQlt _ (getD_mem _ _ hj))]
  -- the local input is a dual-rail state, so by `hleak` the local output is one as well
  have hsdr : isDualRail (userList (instrQ g) s) = true :=
    (isDualRail_iff _ _ hsl).mpr fun j hj => by
      rw [hpair s j hj]
      exact hall _ (h.perm.mem_iff.mp (getD_mem _ _ hj))
  have hssum : (userList (instrQ g) s).sum = (instrQ g).length := by
    rw [userList_sum]
    exact sum_map_eq_length _ _ fun q hq' =>
      (cfgN_lt s (hQlt q hq')).symm.trans (hall q (h.perm.mem_iff.mp hq'))
  have hwsum : (userList (instrQ g) w).sum = (instrQ g).length := by
    rw [← hssum, userList_sum, userList_sum]
    exact place_sum _ P _ _ hnd hlt rfl hne0 hw hs
  have hwdr : isDualRail (userList (instrQ g) w) = true := by
    by_contra hc
    apply hne
    rw [← dualRail_unDualRail _ hsdr, ← h.dim idx]
    exact hleak idx (unDualRail (userList (instrQ g) s)) (userList (instrQ g) w)
      (unDualRail_length _ _ hsl) hwl hwsum (Bool.eq_false_iff.mpr hc)
  intro q' hq'
  obtain ⟨j, hj, hjq⟩ := List.getElem_of_mem (h.perm.mem_iff.mpr hq')
  have := (isDualRail_iff _ _ hwl).mp hwdr j hj
  rw [hpair w j hj, List.getD_eq_getElem _ _ hj, hjq] at this
  exact this

/-- `hloc`: between the dual-rail states of the local bits (in port order) the sub-circuit of the
instruction has the amplitudes scalar × ideal gate; `hleak`: the heralded variant does not leak -/
theorem Sits.iface (h : Sits c par nq g f) (hlen : g.qubits.length ≠ 1) (hn : g.name ≠ "swap")
    (hleak : f = false → ∀ idx (β : List Bool) (o : List ℕ), β.length = (instrQ g).length →
      o.length = 2 * (instrQ g).length → o.sum = (instrQ g).length → isDualRail o = false →
      amp (circHom c.i (instrSub c par idx g f)) (o ++ instrHer g f).toFinsupp
        (dualRail β ++ instrHer g f).toFinsupp = 0)
    (hloc : ∀ idx (ib mid : List Bool), ib.length = nq → mid.length = nq →
      (∀ q, q < nq → q ∉ g.qubits → getBit mid q = getBit ib q) →
      amp (circHom c.i (instrSub c par idx g f))
          (dualRail ((instrQ g).map (getBit mid)) ++ instrHer g f).toFinsupp
          (dualRail ((instrQ g).map (getBit ib)) ++ instrHer g f).toFinsupp
        = instrK c g f * applyInstr c par idx g (delta ib) mid) : Iface c par nq g f :=
  ⟨h.touch,
    fun _ _ _ _ hP hne hw hs => (stepRel_multi hlen hn f _ _).mpr
      ⟨h.redistributes hP hne hw hs, fun hf => h.allOne (hleak hf) hP hne hw hs⟩,
    h.table hloc,
    fun cf _ => (stepRel_multi hlen hn f cf cf).mpr ⟨⟨fun _ _ => rfl, rfl⟩, fun _ h => h⟩⟩

end

theorem getBit_swapBits (mid : List Bool) (a b q : ℕ) (hab : a ≠ b) (ha : a < mid.length)
    (hb : b < mid.length) :
    getBit ((mid.set a (getBit mid b)).set b (getBit mid a)) q = getBit mid (applySwap (a, b) q) := by
  rw [getBit_set, getBit_set, List.length_set]
  by_cases h1 : q = b
  · subst h1
    rw [if_pos ⟨rfl, hb⟩, applySwap_right]
  · rw [if_neg (fun hc => h1 hc.1)]
    by_cases h2 : q = a
    · subst h2
      rw [if_pos ⟨rfl, ha⟩, applySwap_left]
    · rw [if_neg (fun hc => h2 hc.1), applySwap_of_ne h2 h1]

theorem iface_swap (c : GC R) (par : ℕ → R × R) (nq : ℕ) (g : Instr) (f : Bool)
    (a b : ℕ) (hq : g.qubits = [a, b]) (hab : a ≠ b) (ha : a < nq) (hb : b < nq)
    (hn : g.name = "swap") : Iface c par nq g f := by
  obtain ⟨-, -, hK⟩ := instr_swap (K := R) f hq hn
  have hlen : g.qubits.length ≠ 1 := by rw [hq]; exact Nat.succ_succ_ne_one 0
  have hφ : ∀ idx P, instrHom c par idx g f P = (rename (qswap a b) : Hom R) := fun idx P =>
    instrHom_swap c par idx f hq hn P
  have hσ := qswap_invol a b
  have hfix : ∀ z, 2 * nq ≤ z → qswap a b z = z := fun z hz => qswap_of_ge a b z (by omega)
  refine ⟨?_, ?_, ?_, ?_⟩
  · intro idx P z hP hz _
    rw [hφ]
    have := pres2_rename (R := R) (qswap a b) (wtP (· = z))
    have e : (fun j => wtP (· = z) (qswap a b j)) = wtP (· = z) := by
      funext j
      unfold wtP
      by_cases hj : j = z
      · rw [if_pos hj, if_pos (by rw [hj]; exact hfix z hz)]
      · rw [if_neg hj, if_neg]
        intro hc
        apply hj
        have := congrArg (qswap a b) hc
        rw [hσ, hfix z hz] at this
        exact this
    rw [e] at this
    exact this
  · intro idx P w s hP hne _ _
    rw [hφ, amp_rename] at hne
    have hw : Finsupp.mapDomain (qswap a b) s = w := by
      by_contra hc
      rw [if_neg hc] at hne
      exact hne rfl
    have hwz : ∀ z, w z = s (qswap a b z) := by
      intro z
      rw [← hw]
      exact mapDomain_invol hσ s z
    have hcfg : ∀ q, q < nq → cfgN nq w q = cfgN nq s (applySwap (a, b) q) := by
      intro q hq'
      rw [cfgN_lt w hq', cfgN_lt s (applySwap_lt ha hb hq'), hwz, hwz, qswap_even, qswap_odd]
    rw [stepRel_swap hlen hn]
    refine ⟨a, b, hq, ?_, ?_, ?_⟩
    · rw [hcfg a ha, applySwap_left]
    · rw [hcfg b hb, applySwap_right]
    · intro q hqa hqb
      by_cases hqn : q < nq
      · rw [hcfg q hqn, applySwap_of_ne hqa hqb]
      · rw [cfgN_ge _ hqn, cfgN_ge _ hqn]
  · intro idx P ib mid η hP hib hmid hη _
    rw [hφ, amp_rename, hK c, one_mul]
    rw [applyInstr_swap c par idx _ _ hq hn]
    unfold delta
    have hkey : (Finsupp.mapDomain (qswap a b) (mk (dualRail ib) η) = mk (dualRail mid) η) ↔
        ((mid.set a (getBit mid b)).set b (getBit mid a) = ib) := by
      constructor
      · intro h
        apply bits_ext (n := nq) (by simpa using hmid) hib
        intro q hq'
        rw [getBit_swapBits mid a b q hab (by omega) (by omega)]
        have hp := applySwap_lt ha hb hq'
        have := DFunLike.congr_fun h (2 * applySwap (a, b) q)
        rw [mapDomain_invol hσ, qswap_even, applySwap_invol, mk_dualRail_even hib hη hq',
          mk_dualRail_even hmid hη hp] at this
        exact (bit_eq_of_ite this).symm
      · intro h
        ext z
        rw [mapDomain_invol hσ]
        by_cases hz : z < 2 * nq
        · have hzq : z / 2 < nq := by omega
          have hbit : getBit mid (z / 2) = getBit ib (applySwap (a, b) (z / 2)) := by
            rw [← h, getBit_swapBits mid a b _ hab (by omega) (by omega), applySwap_invol]
          have hp := applySwap_lt ha hb hzq
          rcases Nat.mod_two_eq_zero_or_one z with h0 | h1
          · have e : z = 2 * (z / 2) := by omega
            rw [e, qswap_even, mk_dualRail_even hib hη hp, mk_dualRail_even hmid hη hzq, hbit]
          · have e : z = 2 * (z / 2) + 1 := by omega
            rw [e, qswap_odd, mk_dualRail_odd hib hη hp, mk_dualRail_odd hmid hη hzq, hbit]
        · rw [hfix z (by omega), mk_apply_ge (by rw [dualRail_length, hib]; omega),
            mk_apply_ge (by rw [dualRail_length, hmid]; omega)]
    by_cases hc : (mid.set a (getBit mid b)).set b (getBit mid a) = ib
    · rw [if_pos hc, if_pos (hkey.mpr hc)]
    · rw [if_neg hc, if_neg (fun h => hc (hkey.mp h))]
  · intro cf hcf
    rw [stepRel_swap hlen hn]
    exact ⟨a, b, hq, by rw [hcf a ha, hcf b hb], by rw [hcf a ha, hcf b hb], fun _ _ _ => rfl⟩

end LW.C12F
