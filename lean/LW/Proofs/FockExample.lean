/-
  LW.Proofs.FockExample — non-vacuity of the hypotheses of `amplitudes_unit_vector`:
  a 2-mode rotation over ℂ with the two-photon input `[1, 1]`.
-/
import LW.Proofs.FockFunctor
import LW.Proofs.MatAlg
import Mathlib.Data.Complex.Basic
import Mathlib.Tactic.NormNum

namespace LW.Proofs.FockIso

noncomputable def rot : M ℂ := M.ofFn 2 fun i j =>
  if i = 0 then (if j = 0 then 3 / 5 else 4 / 5) else (if j = 0 then -4 / 5 else 3 / 5)

theorem rotation_unitary {K : Type} [CommRing K] [StarRing K] (a b : K) (ha : star a = a)
    (hb : star b = b) (h : a * a + b * b = 1) :
    IsUnitary (M.ofFn 2 fun i j =>
      if i = 0 then (if j = 0 then a else b) else (if j = 0 then -b else a)) := by
  rw [M.isUnitary_iff, M.UN_iff_rows]
  intro r c hr hc
  change r < 2 at hr
  change c < 2 at hc
  show ∑ k ∈ Finset.range 2, _ = _
  rw [Finset.sum_range_succ, Finset.sum_range_one, M.get_ofFn _ hr (by decide),
    M.get_ofFn _ hr (by decide), M.get_ofFn _ hc (by decide), M.get_ofFn _ hc (by decide)]
  have h10 : (1 : Nat) ≠ 0 := Nat.one_ne_zero
  obtain rfl | rfl : r = 0 ∨ r = 1 := by omega
  · obtain rfl | rfl : c = 0 ∨ c = 1 := by omega
    · simp only [if_true, if_neg h10, ha, hb]; exact h
    · simp only [if_true, if_neg h10, if_neg h10.symm, ha, hb, star_neg]; ring
  · obtain rfl | rfl : c = 0 ∨ c = 1 := by omega
    · simp only [if_true, if_neg h10, ha, hb]; ring
    · simp only [if_true, if_neg h10, ha, hb, star_neg, neg_mul_neg]
      rw [add_comm]; exact h

theorem rot_unitary : IsUnitary rot := by
  have h := rotation_unitary (3 / 5 : ℂ) (4 / 5) (by simp) (by simp) (by norm_num)
  rwa [← neg_div] at h

example : ((fockBasis 2 2).map fun t =>
    ampNum rot [1, 1] t * star (ampNum rot [1, 1] t) / ((ampNormSq [1, 1] t : Nat) : ℂ)).sum = 1 :=
  amplitudes_unit_vector rot rot_unitary (by decide) [1, 1] rfl

end LW.Proofs.FockIso
