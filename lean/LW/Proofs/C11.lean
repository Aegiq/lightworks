/-
  LW.Proofs.C11 — caches whose computation may raise, and components shared by several long-lived
  objects (a heap that every holder sees): the cached world equals the cache-free world read for read.
-/
import LW.Model.Cache
import LW.Proofs.ListLemmas
import LW.Proofs.Run

namespace LW.C11P

open Cached

variable {Cfg Snap Val : Type} [DecidableEq Snap]

theorem stale_eq_false_iff (snap : Cfg → Snap) (s : Cached Cfg Snap Val) :
    s.stale snap = false ↔ ∃ v, s.cache = some (snap s.cfg, v) := by
  cases hc : s.cache with
  | none => simp [Cached.stale, hc]
  | some kv =>
    obtain ⟨k, v⟩ := kv
    by_cases hk : k = snap s.cfg
    · simp [Cached.stale, hc, hk]
    · simp [Cached.stale, hc, hk]

theorem readE_ok {E : Type} (snap : Cfg → Snap) (compute : Cfg → Val) (s : Cached Cfg Snap Val) :
    s.readE snap (fun c => (Except.ok (compute c) : Except E Val)) =
      (Except.ok (s.read snap compute).1, (s.read snap compute).2) := by
  cases hc : s.cache with
  | none => simp [Cached.readE, Cached.read, Cached.stale, hc]
  | some kv =>
    obtain ⟨k, v⟩ := kv
    by_cases hk : k = snap s.cfg
    · simp [Cached.readE, Cached.read, Cached.stale, hc, hk]
    · simp [Cached.readE, Cached.read, Cached.stale, hc, hk]

variable {H Own E : Type}

/-- invariant of one holder's cache in a world: the stored value is the successful computation of
SOME configuration with the stored snapshot.  It does not mention the heap, so an in-place change
of a shared component preserves it trivially. -/
def InvW (snap : Cfg → Snap) (compute : Cfg → Except E Val) (s : Cached Own Snap Val) : Prop :=
  ∀ k v, s.cache = some (k, v) → ∃ c, snap c = k ∧ compute c = .ok v

/-- one read of a holder whose settings `Own` are seen through `r` (in a world: `resolve heap`, so `r`
changes between reads while the invariant, which does not mention it, stays); `readE_correct` is
the case `r = id` -/
theorem read_correctW (r : Own → Cfg) (snap : Cfg → Snap) (compute : Cfg → Except E Val)
    (hf : ∀ c1 c2, snap c1 = snap c2 → compute c1 = compute c2)
    (s : Cached Own Snap Val) (hs : InvW snap compute s) :
    (s.readE (fun o => snap (r o)) (fun o => compute (r o))).1 = compute (r s.cfg) ∧
    InvW snap compute (s.readE (fun o => snap (r o)) (fun o => compute (r o))).2 ∧
    (s.readE (fun o => snap (r o)) (fun o => compute (r o))).2.cfg = s.cfg := by
  unfold Cached.readE
  cases hst : s.stale (fun o => snap (r o)) with
  | true =>
    rw [if_pos rfl]
    dsimp only
    cases hcomp : compute (r s.cfg) with
    | error e => exact ⟨rfl, hs, rfl⟩
    | ok v' =>
      refine ⟨rfl, fun k v h => ?_, rfl⟩
      cases h
      exact ⟨r s.cfg, rfl, hcomp⟩
  | false =>
    obtain ⟨v, hv⟩ := (stale_eq_false_iff (fun o => snap (r o)) s).mp hst
    obtain ⟨c, hc1, hc2⟩ := hs _ v hv
    rw [if_neg Bool.false_ne_true, hv]
    exact ⟨hc2.symm.trans (hf c (r s.cfg) hc1), hs, rfl⟩

theorem readE_correct (snap : Cfg → Snap) (compute : Cfg → Except E Val)
    (hf : ∀ c1 c2, snap c1 = snap c2 → compute c1 = compute c2)
    (s : Cached Cfg Snap Val) (hs : InvW snap compute s) :
    (s.readE snap compute).1 = compute s.cfg ∧ InvW snap compute (s.readE snap compute).2 ∧
    (s.readE snap compute).2.cfg = s.cfg :=
  read_correctW id snap compute hf s hs

theorem run_isCollect (snap : Cfg → Snap) (compute : Cfg → Val) :
    IsCollect (fun s op => ((step snap compute s op).1.map fun v =>
      ((step snap compute s op).2.cfg, v), (step snap compute s op).2)) (run snap compute) :=
  ⟨fun _ => rfl, fun s op ops => by
    rw [run]; rcases step snap compute s op with ⟨_ | v, s'⟩ <;> rfl⟩

theorem runE_isCollect (snap : Cfg → Snap) (compute : Cfg → Except E Val) :
    IsCollect (fun s op => ((stepE snap compute s op).1.map fun r =>
      ((stepE snap compute s op).2.cfg, r), (stepE snap compute s op).2)) (runE snap compute) :=
  ⟨fun _ => rfl, fun s op ops => by
    rw [runE]; rcases stepE snap compute s op with ⟨_ | ⟨b, v⟩, s'⟩ <;> rfl⟩

theorem history_independentE {E : Type} (snap : Cfg → Snap) (compute : Cfg → Except E Val)
    (hf : ∀ c1 c2, snap c1 = snap c2 → compute c1 = compute c2)
    (ops : List (Op Cfg)) (s : Cached Cfg Snap Val) (hs : InvW snap compute s) :
    ∀ r ∈ runE snap compute s ops, r.2.2 = compute r.1 :=
  (runE_isCollect snap compute).forall_mem (Q := InvW snap compute) (fun s op hs => by
    cases op with
    | reconfig f => exact ⟨hs, nofun⟩
    | read =>
      obtain ⟨h1, h2, h3⟩ := readE_correct snap compute hf s hs
      exact ⟨h2, fun r hr => by cases hr; exact h1.trans (congrArg compute h3.symm)⟩) hs ops

/-- the state of the cache-free world (`CWorld.specRun`) that corresponds to `w`: the heap and the
holders' settings, the caches dropped -/
def forget (w : CWorld H Own Snap Val) : H × List Own := (w.heap, w.holders.map (·.cfg))

theorem cworld_isCollect (resolve : H → Own → Cfg) (snap : Cfg → Snap)
    (compute : Cfg → Except E Val) :
    IsCollect (CWorld.step resolve snap compute) (CWorld.run (Val := Val) resolve snap compute) :=
  ⟨fun _ => rfl, fun w op ops => by
    rw [CWorld.run]; rcases CWorld.step resolve snap compute w op with ⟨_ | r, w'⟩ <;> rfl⟩

theorem spec_isCollect (resolve : H → Own → Cfg) (compute : Cfg → Except E Val) :
    IsCollect (CWorld.specStep resolve compute) (CWorld.specRun (Val := Val) resolve compute) :=
  ⟨fun _ => rfl, fun w op ops => by
    rw [CWorld.specRun]; rcases CWorld.specStep resolve compute w op with ⟨_ | r, w'⟩ <;> rfl⟩

theorem step_forget (resolve : H → Own → Cfg) (snap : Cfg → Snap)
    (compute : Cfg → Except E Val) (hf : ∀ c1 c2, snap c1 = snap c2 → compute c1 = compute c2)
    (w : CWorld H Own Snap Val) (hw : ∀ s ∈ w.holders, InvW snap compute s) (op : WOp H Own) :
    (CWorld.step resolve snap compute w op).1 = (CWorld.specStep resolve compute (forget w) op).1 ∧
    forget (CWorld.step resolve snap compute w op).2 =
      (CWorld.specStep resolve compute (forget w) op).2 ∧
    ∀ s ∈ (CWorld.step resolve snap compute w op).2.holders, InvW snap compute s := by
  have hset : ∀ {i s s'}, w.holders[i]? = some s → InvW snap compute s' →
      ∀ x ∈ w.holders.set i s', InvW snap compute x := fun _ h' x hx =>
    (List.mem_or_eq_of_mem_set hx).elim (hw x) fun e => e ▸ h'
  cases op with
  | new o =>
    refine ⟨rfl, by simp [CWorld.step, CWorld.specStep, forget], fun s hs => ?_⟩
    rcases List.mem_append.mp hs with h | h
    · exact hw s h
    · cases List.mem_singleton.mp h; exact nofun
  | mutate g => exact ⟨rfl, rfl, hw⟩
  | reconfig i f =>
    simp only [CWorld.step, CWorld.specStep, forget, List.getElem?_map]
    cases hi : w.holders[i]? with
    | none => exact ⟨rfl, rfl, hw⟩
    | some s =>
      exact ⟨rfl, by simp [List.map_set], hset hi (hw s (List.mem_of_getElem? hi))⟩
  | read i =>
    simp only [CWorld.step, CWorld.specStep, forget, List.getElem?_map]
    cases hi : w.holders[i]? with
    | none => exact ⟨rfl, rfl, hw⟩
    | some s =>
      obtain ⟨h1, h2, h3⟩ := read_correctW (resolve w.heap) snap compute hf s
        (hw s (List.mem_of_getElem? hi))
      refine ⟨by simp only [Option.map_some, h1], ?_, hset hi h2⟩
      simp only [Option.map_some, List.map_set, h3]
      rw [set_of_getElem? (by rw [List.getElem?_map, hi]; rfl)]

theorem shared_history_independent (resolve : H → Own → Cfg) (snap : Cfg → Snap)
    (compute : Cfg → Except E Val) (hf : ∀ c1 c2, snap c1 = snap c2 → compute c1 = compute c2)
    (ops : List (WOp H Own)) (w : CWorld H Own Snap Val)
    (hw : ∀ s ∈ w.holders, InvW snap compute s) :
    CWorld.run resolve snap compute w ops = CWorld.specRun resolve compute (forget w) ops :=
  (cworld_isCollect resolve snap compute).eq_of_sim (spec_isCollect resolve compute)
    (Rel := fun w t => t = forget w ∧ ∀ s ∈ w.holders, InvW snap compute s)
    (fun w _ op ⟨e, hw⟩ =>
      have h := step_forget resolve snap compute hf w hw op
      e ▸ ⟨h.1, h.2.1.symm, h.2.2⟩) ⟨rfl, hw⟩ ops

theorem specRun_computes (resolve : H → Own → Cfg) (compute : Cfg → Except E Val)
    (ops : List (WOp H Own)) (w : H × List Own) :
    ∀ r ∈ CWorld.specRun resolve compute w ops, r.2.2 = compute r.2.1 :=
  (spec_isCollect resolve compute).forall_mem (Q := fun _ => True) (fun w op _ => ⟨trivial, by
    cases op with
    | read i =>
      simp only [CWorld.specStep]
      cases w.2[i]? with
      | none => exact nofun
      | some o => intro r hr; cases hr; rfl
    | reconfig i f => simp only [CWorld.specStep]; cases w.2[i]? <;> exact nofun
    | _ => exact nofun⟩) trivial ops

end LW.C11P
