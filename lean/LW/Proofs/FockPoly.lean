/-
  LW.Proofs.FockPoly — algebra of the substitution homomorphisms `homOf`:
  products of matrices are compositions, and amplitudes compose by summing over the monomials of the
  intermediate polynomial.
-/
import LW.Proofs.C12FullDefs
import LW.Proofs.MatAlg

open MvPolynomial

namespace LW.C12F

variable {R : Type} [CommRing R]

abbrev Hom (R : Type) [CommRing R] := MvPolynomial ℕ R →ₐ[R] MvPolynomial ℕ R

theorem homOf_X_lt (U : Nat → Nat → R) {D j : Nat} (h : j < D) :
    homOf U D (X j) = colForm U D j := by
  unfold homOf
  rw [aeval_X, if_pos h]

theorem homOf_X_ge (U : Nat → Nat → R) {D j : Nat} (h : D ≤ j) : homOf U D (X j) = X j := by
  unfold homOf
  rw [aeval_X, if_neg (by omega)]

theorem colForm_congr {U V : Nat → Nat → R} {D j : Nat} (h : ∀ i, i < D → U i j = V i j) :
    colForm U D j = colForm V D j := by
  unfold colForm
  apply Finset.sum_congr rfl
  intro i hi
  rw [h i (Finset.mem_range.mp hi)]

theorem colForm_single (U : Nat → Nat → R) {D r j : Nat} (hr : r < D)
    (h : ∀ i, i < D → U i j = if i = r then 1 else 0) : colForm U D j = X r := by
  unfold colForm
  rw [Finset.sum_eq_single r]
  · rw [h r hr, if_pos rfl, C_1, one_mul]
  · intro i hi hne
    rw [h i (Finset.mem_range.mp hi), if_neg hne, C_0, zero_mul]
  · intro hn
    exact absurd (Finset.mem_range.mpr hr) hn

theorem homOf_congr {U V : Nat → Nat → R} {D : Nat} (h : ∀ i j, i < D → j < D → U i j = V i j) :
    homOf U D = homOf V D := by
  apply algHom_ext
  intro j
  by_cases hj : j < D
  · rw [homOf_X_lt _ hj, homOf_X_lt _ hj]
    exact colForm_congr fun i hi => h i j hi hj
  · rw [homOf_X_ge _ (by omega), homOf_X_ge _ (by omega)]

theorem homOf_colForm (U V : Nat → Nat → R) (D j : Nat) :
    homOf U D (colForm V D j) = ∑ k ∈ Finset.range D, C (V k j) * colForm U D k := by
  unfold colForm
  rw [map_sum]
  apply Finset.sum_congr rfl
  intro k hk
  rw [map_mul, algHom_C, homOf_X_lt _ (Finset.mem_range.mp hk)]
  rfl

/-- entry function of a product at dimension `D` -/
def mulE (D : Nat) (A B : Nat → Nat → R) : Nat → Nat → R :=
  fun r c => ∑ k ∈ Finset.range D, A r k * B k c

theorem homOf_mulE (A B : Nat → Nat → R) (D : Nat) :
    homOf (mulE D A B) D = (homOf A D).comp (homOf B D) := by
  apply algHom_ext
  intro j
  rw [AlgHom.comp_apply]
  by_cases hj : j < D
  · rw [homOf_X_lt _ hj, homOf_X_lt _ hj, homOf_colForm]
    unfold colForm mulE
    simp only [Finset.mul_sum]
    rw [Finset.sum_comm]
    apply Finset.sum_congr rfl
    intro i _
    rw [map_sum, Finset.sum_mul]
    apply Finset.sum_congr rfl
    intro k _
    rw [C_mul]
    ring
  · rw [homOf_X_ge _ (by omega), homOf_X_ge _ (by omega), homOf_X_ge _ (by omega)]

theorem homOf_mul (A B : M R) {D : Nat} (hA : A.n = D) :
    homOf (A.mul B).get D = (homOf A.get D).comp (homOf B.get D) := by
  subst hA
  rw [← homOf_mulE]
  exact homOf_congr fun r c hr hc => M.get_mul A B hr hc

theorem homOf_one (n : ℕ) : homOf (M.one n : M R).get n = AlgHom.id R _ := by
  apply algHom_ext
  intro j
  rw [AlgHom.id_apply]
  by_cases hj : j < n
  · rw [homOf_X_lt _ hj]
    exact colForm_single _ hj fun r hr => M.get_one hr hj
  · exact homOf_X_ge _ (by omega)

theorem amp_comp (φ ψ : Hom R) (t s : ℕ →₀ ℕ) :
    amp (φ.comp ψ) t s =
      ∑ w ∈ (ψ (monomial s 1)).support, amp ψ w s * amp φ t w := by
  unfold amp
  rw [AlgHom.comp_apply]
  conv_lhs => rw [as_sum (ψ (monomial s 1))]
  rw [map_sum, coeff_sum]
  apply Finset.sum_congr rfl
  intro w _
  rw [← mul_one (coeff w (ψ (monomial s 1))), ← C_mul_monomial, map_mul, algHom_C, mul_one]
  exact coeff_C_mul _ _ _

theorem exists_of_amp_comp_ne (φ ψ : Hom R) (t s : ℕ →₀ ℕ) (h : amp (φ.comp ψ) t s ≠ 0) :
    ∃ w, amp ψ w s ≠ 0 ∧ amp φ t w ≠ 0 := by
  rw [amp_comp] at h
  obtain ⟨w, _, hw⟩ := Finset.exists_ne_zero_of_sum_ne_zero h
  exact ⟨w, left_ne_zero_of_mul hw, right_ne_zero_of_mul hw⟩

theorem amp_comp_subset (φ ψ : Hom R) (t s : ℕ →₀ ℕ) (A : Finset (ℕ →₀ ℕ))
    (h : ∀ w, w ∉ A → amp ψ w s * amp φ t w = 0) :
    amp (φ.comp ψ) t s = ∑ w ∈ A, amp ψ w s * amp φ t w := by
  classical
  rw [amp_comp]
  have h1 : ∑ w ∈ (ψ (monomial s 1)).support, amp ψ w s * amp φ t w
      = ∑ w ∈ (ψ (monomial s 1)).support ∪ A, amp ψ w s * amp φ t w := by
    apply Finset.sum_subset Finset.subset_union_left
    intro w _ hw
    have : amp ψ w s = 0 := by
      unfold amp
      exact notMem_support_iff.mp hw
    rw [this, zero_mul]
  have h2 : ∑ w ∈ A, amp ψ w s * amp φ t w
      = ∑ w ∈ (ψ (monomial s 1)).support ∪ A, amp ψ w s * amp φ t w := by
    apply Finset.sum_subset Finset.subset_union_right
    intro w _ hw
    exact h w hw
  rw [h1, h2]

theorem amp_id (t s : ℕ →₀ ℕ) : amp (AlgHom.id R (MvPolynomial ℕ R)) t s = if s = t then 1 else 0 := by
  classical
  unfold amp
  rw [AlgHom.id_apply, coeff_monomial]

end LW.C12F
