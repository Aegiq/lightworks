/-
  The amplitude-table statement `HasTable` (`TableOf`: the same about an amplitude function), the
  Boolean test `tableB` that decides it in the exact towers, the lemmas about the named matrices
  (`flipAt`, `othersSet`, `scaleBy`) and the executable form of the SWAP statement (core Lean only).
-/
import LW.Proofs.C13Tab.Defs

namespace LW.Gates

open LW.QF

variable {K : Type} [Add K] [Mul K] [Neg K] [Zero K] [One K]

/-- **The table statement.**  The constructor returns a circuit `c` with `2·nq` user modes such
that, with the heralds of `c` on input and output, from every dual-rail basis input `ib`
  * the amplitude to every dual-rail output `ob` is the common scalar `k` times the named entry
    `G ob ib`, and
  * (`leakFree`) the amplitude to every other state of the user modes with the same photon number
    — i.e. to every other output the heralds accept — is 0.
`rel` is the equality used for scalars: semantic equality `Eqv.eqv` in the exact towers (whose
base ring `ℤ[1/6]` is not stored in canonical form), `=` in a field. -/
def HasTable (rel : K → K → Prop) (i : K) (g : Except Err (Circ K)) (nq : Nat) (k : K)
    (G : List Bool → List Bool → Int) (leakFree : Bool) : Prop :=
  ∃ c, g = .ok c ∧ c.n - c.inHer.length = 2 * nq ∧
    ∀ ib ∈ bitStrings nq,
      (∀ ob ∈ bitStrings nq, rel (gateAmp i c (dualRail ib) (dualRail ob)) (scaleBy k (G ob ib))) ∧
      (leakFree = true → ∀ o ∈ fockStates (2 * nq) nq, isDualRail o = false →
        rel (gateAmp i c (dualRail ib) o) 0)

def eqvRel [Eqv K] (x y : K) : Prop := Eqv.eqv x y = true

/-- the table of an amplitude function: what `HasTable` says of `gateAmp i c` (`hasTable_ok_iff`; the
two bodies are the same text).  `n` is the number of user modes of the circuit `amp` comes from; the
first clause says that it is `2·nq`. -/
def TableOf (rel : K → K → Prop) (n : Nat) (amp : List Nat → List Nat → K) (nq : Nat) (k : K)
    (G : List Bool → List Bool → Int) (leakFree : Bool) : Prop :=
  n = 2 * nq ∧ ∀ ib ∈ bitStrings nq,
    (∀ ob ∈ bitStrings nq, rel (amp (dualRail ib) (dualRail ob)) (scaleBy k (G ob ib))) ∧
    (leakFree = true → ∀ o ∈ fockStates (2 * nq) nq, isDualRail o = false →
      rel (amp (dualRail ib) o) 0)

theorem hasTable_ok_iff {rel : K → K → Prop} {i : K} {c : Circ K} {nq : Nat} {k : K}
    {G : List Bool → List Bool → Int} {leakFree : Bool} :
    HasTable rel i (.ok c) nq k G leakFree ↔
      TableOf rel (c.n - c.inHer.length) (gateAmp i c) nq k G leakFree :=
  ⟨fun ⟨_, hc, h⟩ => by cases hc; exact h, fun h => ⟨c, rfl, h⟩⟩

/-- the Boolean table test over an amplitude function `amp` on `n` user modes: `hasTableB` is this
test on `gateAmp` of the constructed circuit, `closedTable` (LW/Proofs/C13Eval.lean) on the closed-form
amplitude of a matrix given directly -/
def tableB [Eqv K] (n : Nat) (amp : List Nat → List Nat → K) (nq : Nat) (k : K)
    (G : List Bool → List Bool → Int) (leakFree : Bool) : Bool :=
  (n == 2 * nq) &&
  (bitStrings nq).all fun ib =>
    ((bitStrings nq).all fun ob =>
      Eqv.eqv (amp (dualRail ib) (dualRail ob)) (scaleBy k (G ob ib))) &&
    (!leakFree || (fockStates (2 * nq) nq).all fun o =>
      isDualRail o || Eqv.eqv (amp (dualRail ib) o) 0)

omit [Add K] [Mul K] [One K] in
theorem tableB_spec [Eqv K] {n : Nat} {amp : List Nat → List Nat → K} {nq : Nat} {k : K}
    {G : List Bool → List Bool → Int} {leakFree : Bool} (h : tableB n amp nq k G leakFree = true) :
    TableOf eqvRel n amp nq k G leakFree := by
  unfold tableB at h
  simp only [Bool.and_eq_true, beq_iff_eq, List.all_eq_true, Bool.or_eq_true,
    Bool.not_eq_eq_eq_not, Bool.not_true] at h
  refine ⟨h.1, fun ib hib => ⟨fun ob hob => (h.2 ib hib).1 ob hob, fun hl o ho hnd => ?_⟩⟩
  rcases (h.2 ib hib).2 with h1 | h1
  · simp [hl] at h1
  · rcases h1 o ho with h2 | h2
    · simp [hnd] at h2
    · exact h2

/-- what the model's test `hasTableB` establishes (no table of the development is decided through
it: the kernel decides `closedTable`, LW/Proofs/C13Eval.lean) -/
theorem hasTable_of_B [Eqv K] (i : K) (g : Except Err (Circ K)) (nq : Nat) (k : K)
    (G : List Bool → List Bool → Int) (leakFree : Bool)
    (h : hasTableB i g nq k G leakFree = true) : HasTable eqvRel i g nq k G leakFree := by
  cases g with
  | error e => exact absurd h Bool.false_ne_true
  | ok c => exact hasTable_ok_iff.mpr (tableB_spec h)

/-- squared moduli of the scalars: `(-1/3)² = 1/9`, `(1/4)² = 1/16`, `k·conj k = 1/72` -/
theorem scalar_sq_tower :
    eqvRel (kCZ * kCZ) (TCZ.ofT2 (T2.ofS ⟨4, 2⟩)) ∧
    eqvRel (kCZH * kCZH) (TCZH.ofT2 (T2.ofS ⟨81, 4⟩)) ∧
    eqvRel (kCCZ * kCCZc) (TCCZ.ofTCZ (TCZ.ofT2 (T2.ofS ⟨3, 3⟩))) := by
  refine ⟨?_, ?_, ?_⟩ <;> (unfold eqvRel; decide +kernel)

theorem flipAt_length : ∀ (t : Nat) (b : List Bool), (flipAt t b).length = b.length
  | 0, [] => rfl
  | _ + 1, [] => rfl
  | 0, _ :: _ => rfl
  | t + 1, _ :: b => by simp [flipAt, flipAt_length t b]

theorem flipAt_flipAt : ∀ (t : Nat) (b : List Bool), flipAt t (flipAt t b) = b
  | 0, [] => rfl
  | _ + 1, [] => rfl
  | 0, _ :: _ => by simp [flipAt]
  | t + 1, _ :: b => by simp [flipAt, flipAt_flipAt t b]

theorem getD_flipAt : ∀ (t : Nat) (b : List Bool), t < b.length →
    (flipAt t b).getD t false = !b.getD t false
  | 0, _ :: _, _ => rfl
  | t + 1, _ :: b, h => by
    simp only [flipAt, List.getD_cons_succ]
    exact getD_flipAt t b (by simpa using h)
  | _, [], h => by simp at h

theorem flipAt_ne {t : Nat} {b : List Bool} (h : t < b.length) : flipAt t b ≠ b := by
  intro e
  have := getD_flipAt t b h
  rw [e] at this
  cases b.getD t false <;> simp at this

theorem othersSet_cons_zero (x : Bool) (b : List Bool) : othersSet 0 (x :: b) = b.all id := by
  unfold othersSet
  rw [List.zipIdx_cons', List.all_cons, List.all_map]
  show (true && _) = _
  rw [Bool.true_and, ← congrArg (List.all · id) (List.zipIdx_map_fst 0 b), List.all_map]
  rfl

theorem othersSet_cons_succ (t : Nat) (x : Bool) (b : List Bool) :
    othersSet (t + 1) (x :: b) = (x && othersSet t b) := by
  unfold othersSet
  rw [List.zipIdx_cons', List.all_cons, List.all_map]
  congr 2
  funext p
  simp [Function.comp]

theorem all_eq_othersSet : ∀ (t : Nat) (b : List Bool), t < b.length →
    b.all id = (othersSet t b && b.getD t false)
  | 0, x :: b, _ => by
    rw [othersSet_cons_zero, List.all_cons, List.getD_cons_zero, Bool.and_comm]; rfl
  | t + 1, x :: b, h => by
    rw [othersSet_cons_succ, List.all_cons, List.getD_cons_succ,
      all_eq_othersSet t b (by simpa using h), Bool.and_assoc]; rfl
  | _, [], h => by simp at h

theorem othersSet_flipAt : ∀ (t : Nat) (b : List Bool), othersSet t (flipAt t b) = othersSet t b
  | 0, [] => rfl
  | _ + 1, [] => rfl
  | 0, x :: b => by simp only [flipAt, othersSet_cons_zero]
  | t + 1, x :: b => by simp only [flipAt, othersSet_cons_succ, othersSet_flipAt t b]

section
variable {R : Type} [Neg R] [Zero R]

theorem scaleBy_zero (k : R) : scaleBy k 0 = 0 := if_pos rfl

theorem scaleBy_one (k : R) : scaleBy k 1 = k := by
  unfold scaleBy
  rw [if_neg (by decide), if_pos rfl]

theorem scaleBy_neg_one (k : R) : scaleBy k (-1) = -k := by
  unfold scaleBy
  rw [if_neg (by decide), if_neg (by decide)]

theorem scaleBy_namedCZ (k : R) (o i : List Bool) :
    scaleBy k (namedCZ o i) = if o = i then (if i.all id = true then -k else k) else 0 := by
  unfold namedCZ czSign
  rw [apply_ite (scaleBy k), apply_ite (scaleBy k), scaleBy_zero, scaleBy_one, scaleBy_neg_one]

theorem scaleBy_namedCNOT (k : R) (t : Nat) (o i : List Bool) :
    scaleBy k (namedCNOT t o i) =
      if othersSet t i = true then (if o = flipAt t i then k else 0) else (if o = i then k else 0) := by
  unfold namedCNOT cnotAct
  rw [apply_ite (scaleBy k), scaleBy_zero, scaleBy_one]
  by_cases hO : othersSet t i = true
  · rw [if_pos hO, if_pos hO]
  · rw [if_neg hO, if_neg hO]

end

theorem TableOf.mono {R R' : Type} [Neg R] [Zero R] [Neg R'] [Zero R'] {rel : R → R → Prop}
    {rel' : R' → R' → Prop} {n nq : Nat} {amp : List Nat → List Nat → R}
    {amp' : List Nat → List Nat → R'} {k : R} {k' : R'} {G : List Bool → List Bool → Int} {lf : Bool}
    (h : ∀ ins outs g, rel (amp ins outs) (scaleBy k g) → rel' (amp' ins outs) (scaleBy k' g))
    (ht : TableOf rel n amp nq k G lf) : TableOf rel' n amp' nq k' G lf :=
  ⟨ht.1, fun ib hib => ⟨fun ob hob => h _ _ _ ((ht.2 ib hib).1 ob hob), fun hl o ho hnd =>
    scaleBy_zero k' ▸ h _ _ 0 ((scaleBy_zero k).symm ▸ (ht.2 ib hib).2 hl o ho hnd)⟩⟩

def occ (n : Nat) (ms : List Nat) : List Nat := (List.range n).map fun m => ms.count m

/-- executable form of the SWAP statement for one pair of qubits `q1 = [a0, a1]`, `q2 = [b0, b1]`
over the exact ring `T1` (`c1`: its constants, LW/Model/GateTowers.lean): the constructor succeeds
without heralds, and from each of the four basis inputs (photon on `a_x` and on `b_y`) the amplitude
to every two-photon output state is 1 on the swapped state (photon on `b_x` and on `a_y`) and 0
elsewhere -/
def swapOK (q1 q2 : List Nat) : Bool :=
  match SWAP (K := T1) (q1.map Int.ofNat) (q2.map Int.ofNat) with
  | .error _ => false
  | .ok circ =>
    circ.inHer.isEmpty &&
    [false, true].all fun x => [false, true].all fun y =>
      (fockStates circ.n 2).all fun o =>
        decide (gateAmp c1.i circ (occ circ.n [q1.getD x.toNat 0, q2.getD y.toNat 0]) o =
          if o = occ circ.n [q2.getD x.toNat 0, q1.getD y.toNat 0] then 1 else 0)

theorem length_occ (n : Nat) (ms : List Nat) : (occ n ms).length = n := by simp [occ]

end LW.Gates
