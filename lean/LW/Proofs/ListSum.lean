/-
  LW.Proofs.ListSum — sums over lists.  A left fold that adds is a sum; a sum over a filtered list
  is the sum of the terms weighted by the indicator of the filter, so terms that vanish off the
  filter may be dropped or added back.  In an insertion-ordered dictionary whose values add
  (namespace `LW.Assoc`), the accumulation `d[k] += p`: the weight of one key after a step and
  after a loop.
-/
import Mathlib.Algebra.BigOperators.Group.List.Basic
import Mathlib.Algebra.Ring.Defs
import LW.Proofs.AssocList

namespace LW

theorem foldl_add_map_eq_sum {Q α : Type} [AddCommMonoid Q] (f : α → Q) (l : List α) (a : Q) :
    l.foldl (fun acc x => acc + f x) a = a + (l.map f).sum := by
  induction l generalizing a with
  | nil => simp
  | cons x l ih => rw [List.foldl_cons, ih, List.map_cons, List.sum_cons, add_assoc]

theorem sum_filter_ite {ι A : Type} [AddCommMonoid A] (l : List ι) (c : ι → Prop) [DecidablePred c]
    (v : ι → A) :
    ((l.filter fun o => c o).map v).sum = (l.map fun o => if c o then v o else 0).sum := by
  rw [List.sum_map_ite]
  simp

theorem sum_mul_indicator {ι Q : Type} [NonAssocSemiring Q] (l : List ι)
    (v : ι → Q) (p : ι → Prop) [DecidablePred p] :
    (l.map fun o => v o * if p o then 1 else 0).sum = ((l.filter fun o => p o).map v).sum := by
  rw [sum_filter_ite]
  exact congrArg List.sum (List.map_congr_left fun o _ => by rw [mul_ite, mul_one, mul_zero])

theorem sum_filter_of_zero {ι A : Type} [AddCommMonoid A] (l : List ι) (c : ι → Prop)
    [DecidablePred c] (v : ι → A) (h : ∀ o ∈ l, ¬ c o → v o = 0) :
    ((l.filter fun o => c o).map v).sum = (l.map v).sum := by
  rw [sum_filter_ite]
  exact congrArg List.sum (List.map_congr_left fun o ho => ite_eq_left_iff.mpr fun hc => (h o ho hc).symm)

theorem sum_filter_pos {Q β : Type} [AddCommMonoid Q] [LinearOrder Q] (f : β → Q) (l : List β)
    (hf : ∀ x ∈ l, 0 ≤ f x) :
    ((l.filter fun o => decide (0 < f o)).map f).sum = (l.map f).sum :=
  sum_filter_of_zero l (fun o => 0 < f o) f fun o ho hc => le_antisymm (not_lt.1 hc) (hf o ho)

theorem sum_map_ite_eq_of_nodup {M α : Type} [AddCommMonoid M] [DecidableEq α] {l : List α}
    (hl : l.Nodup) (a : α) (c : α → M) :
    (l.map fun o => if o = a then c o else 0).sum = if a ∈ l then c a else 0 := by
  rw [List.sum_map_eq_nsmul_single a _ fun o ho _ => if_neg ho, if_pos rfl, hl.count]
  by_cases ha : a ∈ l
  · rw [if_pos ha, if_pos ha, one_nsmul]
  · rw [if_neg ha, if_neg ha, zero_nsmul]

end LW

namespace LW.Assoc

variable {κ β : Type} [BEq κ] [LawfulBEq κ] [DecidableEq κ] [AddCommMonoid β]

theorem getD_find_add (l : List (κ × β)) (k : κ) (p : β) (r : κ) :
    (((upd l k (fun x => x.2 + p) p).find? (·.1 == r)).map (·.2)).getD 0 =
      ((l.find? (·.1 == r)).map (·.2)).getD 0 + if k = r then p else 0 := by
  rw [find_upd]
  by_cases h : r = k
  · rw [if_pos h, if_pos h.symm, h]
    cases l.find? (·.1 == k)
    · exact (zero_add p).symm
    · rfl
  · rw [if_neg h, if_neg (Ne.symm h), add_zero]

theorem getD_find_foldl_add (ps l : List (κ × β)) (r : κ) :
    (((ps.foldl (fun d x => upd d x.1 (fun y => y.2 + x.2) x.2) l).find? (·.1 == r)).map (·.2)).getD 0 =
      ((l.find? (·.1 == r)).map (·.2)).getD 0 + ((ps.filter fun x => x.1 = r).map (·.2)).sum := by
  induction ps generalizing l with
  | nil => exact (add_zero _).symm
  | cons x ps ih =>
    rw [List.foldl_cons, ih, getD_find_add, add_assoc]
    by_cases hk : x.1 = r
    · simp only [List.filter_cons, hk, decide_true, if_true, List.map_cons, List.sum_cons]
    · simp only [List.filter_cons, hk, decide_false, Bool.false_eq_true, if_false, zero_add]

end LW.Assoc
