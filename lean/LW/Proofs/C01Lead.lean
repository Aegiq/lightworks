/-
  LW.Proofs.C01Lead — the dimension of `compile` (`compile_n`) and its leading `n × n` block, which is the ordered
  product of the documented component matrices (`foldl_compilePrim_lead`); a group compiles as its leaves.
  Namespace: `LW.Proofs.C01Aux`, as in C01Api.
-/
import LW.Proofs.CircuitWf
import LW.Proofs.C02SemEmbed
import LW.Proofs.DictLemmas

namespace LW.Proofs.C01Aux

variable {K : Type} [CommRing K]

theorem Prim.mat_n (i : K) (N : Nat) (p : Prim K) : (p.mat i N).n = N := by
  rcases p with ⟨m1, m2, c, s, cv⟩ | _ | _ | _ | _ | _
  · cases cv <;> rfl
  all_goals rfl

theorem compilePrim_n (i : K) (U : M K) (p : Prim K) :
    (compilePrim i U p).n = U.n + (if p.isLoss then 1 else 0) := by
  rcases p with ⟨m1, m2, c, s, cv⟩ | _ | _ | _ | _ | _ <;>
    simp [compilePrim, Prim.isLoss, Prim.mat_n]

theorem foldl_compilePrim_n (i : K) (cs : List (Prim K)) (U : M K) :
    (cs.foldl (compilePrim i) U).n = U.n + (cs.filter Prim.isLoss).length := by
  induction cs generalizing U with
  | nil => simp
  | cons p cs ih =>
    rw [List.foldl_cons, ih, compilePrim_n, List.filter_cons]
    split <;> (simp; try omega)

theorem compileComp_n (i : K) (U : M K) (c : Comp K) :
    (compileComp i U c).n = U.n + c.lossCount := by
  cases c with
  | prim p => simp [compileComp, Comp.lossCount, compilePrim_n]
  | group cs m1 m2 hin hout => simp [compileComp, Comp.lossCount, foldl_compilePrim_n]

theorem foldl_compileComp_n (i : K) (spec : List (Comp K)) (U : M K) :
    (spec.foldl (compileComp i) U).n = U.n + lossCount spec := by
  induction spec generalizing U with
  | nil => simp [lossCount]
  | cons c cs ih =>
    rw [List.foldl_cons, ih, compileComp_n]
    simp [lossCount]; omega

theorem compile_n (i : K) (n : Nat) (spec : List (Comp K)) :
    (compile i n spec).n = n + lossCount spec :=
  foldl_compileComp_n i spec (M.one n)

theorem le_compilePrim_n (i : K) (U : M K) (p : Prim K) : U.n ≤ (compilePrim i U p).n := by
  rw [compilePrim_n]; omega

theorem le_compileComp_n (i : K) (U : M K) (c : Comp K) : U.n ≤ (compileComp i U c).n := by
  rw [compileComp_n]; omega

theorem le_foldl_compileComp_n (i : K) (spec : List (Comp K)) (U : M K) :
    U.n ≤ (spec.foldl (compileComp i) U).n := by
  rw [foldl_compileComp_n]; omega

open scoped BigOperators
open LW.Proofs.C02Sem

/-- the left factor does not mix the leading modes with the trailing ones; the hypotheses are entrywise so that the
loss dilation is covered as well -/
theorem lead_mul {n : Nat} (G U G' V : M K) (hn : n ≤ G.n) (hG' : G'.n = n)
    (ha : ∀ r c k, r < n → c < n → k < n → G.get r k * U.get k c = G'.get r k * V.get k c)
    (hb : ∀ r c k, r < n → c < n → n ≤ k → k < G.n → G.get r k * U.get k c = 0) :
    (G.mul U).lead n = G'.mul V := by
  unfold M.lead
  conv_rhs => unfold M.mul
  rw [hG']
  apply M.ofFn_congr
  intro r c hr hc
  rw [M.get_mul _ _ (by omega) (by omega), M.sumN_eq_sum]
  symm
  rw [Finset.sum_congr rfl (fun k hk => (ha r c k hr hc (Finset.mem_range.mp hk)).symm)]
  apply Finset.sum_subset
  · intro k hk; rw [Finset.mem_range] at *; omega
  · intro k hk hk'
    rw [Finset.mem_range] at *
    exact hb r c k hr hc (by omega) hk

theorem specMat_n (i : K) (n : Nat) (p : Prim K) : (p.specMat i n).n = n := by
  rcases p with ⟨m1, m2, c, s, cv⟩ | _ | _ | _ | _ | _
  · cases cv <;> rfl
  all_goals rfl

theorem specMat_of_not_loss (i : K) (n : Nat) (p : Prim K) (hl : p.isLoss = false) :
    p.specMat i n = p.mat i n := by
  rcases p with ⟨m1, m2, c, s, cv⟩ | _ | _ | _ | _ | _
  · cases cv <;> rfl
  · rfl
  · simp [Prim.isLoss] at hl
  all_goals rfl

theorem compilePrim_cases (i : K) (U : M K) (p : Prim K) :
    (∃ ms, p = .barrier ms ∧ compilePrim i U p = U) ∨
    (∃ m a b, p = .loss m a b ∧
      compilePrim i U p = (embed2 (U.n + 1) m U.n a b (-b) a).mul (U.pad 1)) ∨
    (p.isLoss = false ∧ compilePrim i U p = (p.mat i U.n).mul U) := by
  rcases p with ⟨m1, m2, c, s, cv⟩ | _ | ⟨m, a, b⟩ | ms | _ | _
  · exact Or.inr (Or.inr ⟨rfl, rfl⟩)
  · exact Or.inr (Or.inr ⟨rfl, rfl⟩)
  · exact Or.inr (Or.inl ⟨m, a, b, rfl, rfl⟩)
  · exact Or.inl ⟨ms, rfl, rfl⟩
  · exact Or.inr (Or.inr ⟨rfl, rfl⟩)
  · exact Or.inr (Or.inr ⟨rfl, rfl⟩)

theorem compileComp_eq_foldl (i : K) (U : M K) (c : Comp K) :
    compileComp i U c = c.toPrims.foldl (compilePrim i) U := by
  cases c <;> rfl

theorem foldl_compileComp_eq (i : K) (spec : List (Comp K)) (U : M K) :
    spec.foldl (compileComp i) U = (flattenSpec spec).foldl (compilePrim i) U := by
  induction spec generalizing U with
  | nil => rfl
  | cons c cs ih =>
    rw [List.foldl_cons, ih, compileComp_eq_foldl]
    simp [flattenSpec, List.foldl_append]

theorem compile_eq_foldl (i : K) (n : Nat) (spec : List (Comp K)) :
    compile i n spec = (flattenSpec spec).foldl (compilePrim i) (M.one n) :=
  foldl_compileComp_eq i spec (M.one n)

theorem one_lead (n : Nat) : (M.one n : M K).lead n = M.one n := by
  unfold M.lead M.one
  apply M.ofFn_congr
  intro r c hr hc
  rw [M.get_ofFn _ hr hc]

variable [StarRing K]

theorem mat_eq_embedVia {n N : Nat} (i : K) (p : Prim K) (hp : p.Wf n) (hl : p.isLoss = false)
    (hN : n ≤ N) : p.mat i N = Optic.embedVia N (p.mat i n) (below n) := by
  have h := pinj_below hN
  rcases p with ⟨m1, m2, c, s, cv⟩ | ⟨m, ph⟩ | ⟨m, a, b⟩ | ms | σ | ⟨m, u⟩
  · cases cv <;> exact embed2_embedVia h hp.1 hp.2.1 _ _ _ _
  · exact embed1_embedVia h hp.1 ph
  · simp [Prim.isLoss] at hl
  · exact (embedVia_one h).symm
  · have hσ : SwapsOk n σ := hp
    refine permF_embedVia h _ _ (fun x hx => hσ.fn_lt (Nat.le_refl n) hx) (fun _ _ => rfl)
      (fun r _ hr => Dict.getD_of_not_mem_keys fun hmem => ?_)
    exact Nat.not_le.mpr (hσ.lt r hmem) (below_eq_none.mp hr)
  · exact embedBlock_embedVia h u hp.1 (fun j _ => rfl)

theorem compilePrim_lead {n : Nat} (i : K) (U : M K) (p : Prim K) (hp : p.Wf n) (hn : n ≤ U.n) :
    (compilePrim i U p).lead n = (p.specMat i n).mul (U.lead n) := by
  rcases compilePrim_cases i U p with ⟨ms, rfl, e⟩ | ⟨m, a, b, rfl, e⟩ | ⟨hl, e⟩
  · exact (M.one_mul' (U.lead n) (M.isOfFn_lead U n)).symm
  · obtain ⟨hm, -⟩ := hp
    rw [e]
    show _ = (embed1 n m a).mul (U.lead n)
    have hdim : (embed2 (U.n + 1) m U.n a b (-b) a).n = U.n + 1 := rfl
    apply lead_mul (n := n) _ _ _ _ (by rw [hdim]; omega) rfl
    · intro r c k hr hc hk
      rw [get_embed2 _ _ _ _ _ _ (by omega) (by omega), get_embed1 _ _ hr hk,
        M.get_pad _ (by omega) (by omega), M.get_lead _ hk hc,
        if_pos (by omega : k < U.n ∧ c < U.n)]
      have e1 : k ≠ U.n := by omega
      have e2 : r ≠ U.n := by omega
      congr 1
      by_cases hrk : r = k
      · subst hrk
        by_cases hrm : r = m
        · simp [hrm]
        · simp [hrm, e1]
      · simp [hrk, e1, e2]
        intro h1 h2; omega
    · intro r c k hr hc hk hkN
      rw [hdim] at hkN
      by_cases hkU : k = U.n
      · subst hkU
        rw [M.get_pad _ (by omega) (by omega), if_neg (by omega), if_neg (by omega), mul_zero]
      · rw [get_embed2 _ _ _ _ _ _ (by omega) (by omega)]
        have e1 : k ≠ m := by omega
        have e3 : r ≠ k := by omega
        simp [e1, hkU, e3]
  · rw [e, specMat_of_not_loss i n p hl, mat_eq_embedVia i p hp hl hn]
    apply lead_mul _ _ _ _ (le_of_le_of_eq hn (embedVia_n _ _ _).symm) (Prim.mat_n i n p)
    · intro r c k hr hc hk
      have e : (Optic.embedVia U.n (p.mat i n) (below n)).get r k = (p.mat i n).get r k :=
        get_embedVia_fwd (pinj_below hn) _ hr hk
      rw [e, M.get_lead _ hk hc]
    · intro r c k hr hc hk hkN
      rw [get_embedVia_none_right _ (Nat.lt_of_lt_of_le hr hn) hkN (below_eq_none.mpr hk),
        if_neg (by omega), zero_mul]

theorem foldl_compilePrim_lead {n : Nat} (i : K) (cs : List (Prim K)) (U : M K)
    (hcs : ∀ p ∈ cs, p.Wf n) (hn : n ≤ U.n) :
    (cs.foldl (compilePrim i) U).lead n =
      cs.foldl (fun V p => (p.specMat i n).mul V) (U.lead n) := by
  induction cs generalizing U with
  | nil => rfl
  | cons p cs ih =>
    rw [List.foldl_cons, List.foldl_cons,
      ih _ (fun q hq => hcs q (List.mem_cons_of_mem _ hq))
        (le_trans hn (le_compilePrim_n i U p)),
      compilePrim_lead i U p (hcs p List.mem_cons_self) hn]

theorem _root_.LW.Comp.wf_iff_toPrims {n : Nat} (c : Comp K) : c.Wf n ↔ ∀ p ∈ c.toPrims, p.Wf n := by
  cases c with
  | prim p => simp [Comp.Wf, Comp.toPrims]
  | group cs m1 m2 hin hout => rfl

theorem mem_flattenSpec_wf {n : Nat} {spec : List (Comp K)} (h : SpecWf n spec) :
    ∀ p ∈ flattenSpec spec, p.Wf n := by
  intro p hp
  obtain ⟨c, hc, hpc⟩ := List.mem_flatMap.mp hp
  exact (Comp.wf_iff_toPrims c).mp (h c hc) p hpc

end LW.Proofs.C01Aux
