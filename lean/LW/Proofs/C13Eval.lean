/-
  LW.Proofs.C13Eval — `closedTable`, the closed-form table checker for the multi-qubit gates: the
  table test `tableB` on the amplitudes of a matrix given directly, with the permanents of the sizes
  that occur (2, 3, 4 photons including heralds) in closed form; and `czhClosed`, the matrix of
  `CZ_Heralded` entry by entry.  Core Lean only, as everything the kernel evaluates: what only the
  proof of `czhUnitary_get` needs (`czhUbs`) is in LW/Proofs/C13Field.lean.
-/
import LW.Proofs.C13

namespace LW.Gates

variable {K : Type} [Add K] [Mul K] [Neg K] [Zero K] [One K]

def perm2 (A : Nat → Nat → K) (r1 r2 c1 c2 : Nat) : K := A r1 c1 * A r2 c2 + A r1 c2 * A r2 c1

def perm3 (A : Nat → Nat → K) : K :=
  A 0 0 * perm2 A 1 2 1 2 + A 0 1 * perm2 A 1 2 0 2 + A 0 2 * perm2 A 1 2 0 1

/-- Laplace expansion along the rows 0 and 3.  In every 4×4 minor of a table these are the two
herald rows (the heralded gates keep their heralds on the outermost modes), so the six factors
`perm2 A 0 3 _ _` are the same terms for all outputs of one input and the kernel shares them;
`QF.permN` expands along one row through nested closures and shares nothing. -/
def perm4 (A : Nat → Nat → K) : K :=
  perm2 A 0 3 0 1 * perm2 A 1 2 2 3 + perm2 A 0 3 0 2 * perm2 A 1 2 1 3 +
  perm2 A 0 3 0 3 * perm2 A 1 2 1 2 + perm2 A 0 3 1 2 * perm2 A 1 2 0 3 +
  perm2 A 0 3 1 3 * perm2 A 1 2 0 2 + perm2 A 0 3 2 3 * perm2 A 1 2 0 1

/-- the last case makes `permC n A = QF.permN n A` (`permC_eq`) hold for every `n` -/
def permC : Nat → (Nat → Nat → K) → K
  | 2, A => perm2 A 0 1 0 1
  | 3, A => perm3 A
  | 4, A => perm4 A
  | n, A => QF.permN n A

/-- `QF.permAmp` with `permC` -/
def closedAmp (U : Nat → Nat → K) (n : Nat) (hin hout : Dict) (ins outs : List Nat) : K :=
  let x := QF.idxs (QF.fullState hout n outs)
  let y := QF.idxs (QF.fullState hin n ins)
  if x.length = y.length then permC x.length (fun r c => U (x.getD r 0) (y.getD c 0)) else 0

/-- `tableB` for a circuit with heralds `her` (input = output) whose `U_full` is `U` -/
def closedTable [Eqv K] (U : M K) (her : Dict) (nq : Nat) (k : K)
    (G : List Bool → List Bool → Int) (leakFree : Bool) : Bool :=
  tableB (U.n - her.length) (closedAmp U.get U.n her her) nq k G leakFree

/-- `h · U · h` for a 2×2 block `h` on the modes `m`, `m + 1`, entrywise: only the rows and columns
`m`, `m + 1` of `U` are combined -/
def blockConj (h : Nat → Nat → K) (m : Nat) (U : Nat → Nat → K) : Nat → Nat → K :=
  let V : Nat → Nat → K := fun r c =>
    if m ≤ c ∧ c < m + 2 then U r m * h 0 (c - m) + U r (m + 1) * h 1 (c - m) else U r c
  fun r c =>
    if m ≤ r ∧ r < m + 2 then h (r - m) 0 * V m c + h (r - m) 1 * V (m + 1) c else V r c

/-- `u_a` of `CZ_Heralded.__init__`: the `let ua` of the model's `czhUnitary` under a name -/
def czhUa (c : GC K) : M K := M.ofFn 8 fun r k =>
  let v :=
    if 1 ≤ r ∧ r < 4 ∧ 1 ≤ k ∧ k < 4 then uNS c (3 - r) (3 - k)
    else if 4 ≤ r ∧ r < 7 ∧ 4 ≤ k ∧ k < 7 then uNS c (r - 4) (k - 4)
    else if r = k then 1 else 0
  if k = 3 then -v else v

/-- the 2×2 block `[[1, i], [i, 1]]/√2` of `u_bs` -/
def bsM (c : GC K) : M K := M.ofFn 2 (m2 c.rh (c.i * c.rh) (c.i * c.rh) c.rh)

/-- `u_perm2 @ u_bs @ u_a @ u_bs @ u_perm1` with the two permutations read as a renaming of the
modes and the two beam splitters as combinations of the rows and columns 3, 4 of `u_a`; it is
`czhUnitary` entry by entry over a commutative ring (`czhUnitary_get`) -/
def czhClosed (c : GC K) : M K := M.ofFn 8 fun r k =>
  blockConj (bsM c).get 3 (czhUa c).get (czhSwaps.getD r r) (czhSwaps.getD k k)

end LW.Gates
