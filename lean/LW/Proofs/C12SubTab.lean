/-
  LW.Proofs.C12SubTab — the coefficient amplitudes (`amp` of `circHom`) of the explicit
  sub-circuits behind the placements of the converter's plan: a single-qubit gate has the entries of
  its 2×2 matrix; the CZ-type gates have the amplitude tables of LW/Proofs/C13Field.lean,
  C13Cnot.lean (`HasTable`), transported from the model's permanent amplitude `gateAmp` by
  `gateAmp_eq_amp` (the factorial factor is 1 on dual-rail outputs with 0/1 heralds, and a product
  of 1s and 2s — invertible — on the leak outputs).
-/
import LW.Proofs.C12Sub
import LW.Proofs.C13Cnot

namespace LW.C12F

open LW LW.QC LW.Gates LW.QF

section Ring
variable {R : Type} [CommRing R] [StarRing R]

theorem gateAmp_of_subOk (i : R) (sub : Circ R) {q : Nat} {H : List Nat} (hsub : SubOk sub q H)
    (ins outs : List Nat) (hi : ins.length = q) (ho : outs.length = q) :
    gateAmp i sub ins outs =
      ((factProd (outs ++ H) : ℕ) : R) *
        amp (circHom i sub) (outs ++ H).toFinsupp (ins ++ H).toFinsupp := by
  have h := gateAmp_eq_amp i sub hsub.wf hsub.io ins outs (by rw [hsub.ports]; exact hi)
    (by rw [hsub.ports]; exact ho)
  rw [hsub.her] at h
  exact h

theorem amp_of_table (i : R) (g : Except Err (Circ R)) (sub : Circ R) (hg : g = .ok sub)
    (nq : Nat) (k : R) (G : List Bool → List Bool → Int) (lf : Bool) (H : List Nat)
    (hsub : SubOk sub (2 * nq) H) (hH : factProd H = 1)
    (ht : HasTable Eq i g nq k G lf) (β β' : List Bool) (hβ : β.length = nq)
    (hβ' : β'.length = nq) :
    amp (circHom i sub) (dualRail β' ++ H).toFinsupp (dualRail β ++ H).toFinsupp
      = scaleBy k (G β' β) := by
  subst hg
  have h1 := ((hasTable_ok_iff.mp ht).2 β (mem_bitStrings.mpr hβ)).1 β' (mem_bitStrings.mpr hβ')
  rw [gateAmp_of_subOk i sub hsub _ _ (by rw [dualRail_length, hβ])
    (by rw [dualRail_length, hβ']), factProd_append, factProd_dualRail, hH, Nat.cast_one,
    one_mul] at h1
  exact h1

theorem amp_sq (c : GC R) (g : SQ R) (b b' : Bool) :
    amp (circHom c.i (sqCirc c g)) (dualRail [b']).toFinsupp (dualRail [b]).toFinsupp
      = sqEntry c g b'.toNat b.toNat := by
  have h1 := single_qubit_amp c g b b'
  rw [gateAmp_of_subOk c.i (sqCirc c g) (subOk_sq c g) _ _ (by rw [dualRail_length]; rfl)
    (by rw [dualRail_length]; rfl), List.append_nil, List.append_nil, factProd_dualRail,
    Nat.cast_one, one_mul] at h1
  exact h1

end Ring

section Field
variable {R : Type} [Field R] [StarRing R]

/-- The table speaks of `gateAmp`, which is the amplitude times the factorials of the occupations;
these are at most `N` (at most `nq ≤ N` photons on the user modes, heralds `≤ N`) and `N!` is
invertible. -/
theorem amp_leak_of_table {N : Nat} (hN : ((N.factorial : ℕ) : R) ≠ 0) (i : R)
    (g : Except Err (Circ R)) (sub : Circ R) (hg : g = .ok sub) (nq : Nat) (hnq : nq ≤ N) (k : R)
    (G : List Bool → List Bool → Int) (H : List Nat) (hsub : SubOk sub (2 * nq) H)
    (hH : ∀ x ∈ H, x ≤ N)
    (ht : HasTable Eq i g nq k G true) (β : List Bool) (hβ : β.length = nq)
    (o : List Nat) (ho : o.length = 2 * nq) (hs : o.sum = nq) (hnd : isDualRail o = false) :
    amp (circHom i sub) (o ++ H).toFinsupp (dualRail β ++ H).toFinsupp = 0 := by
  subst hg
  have h1 := ((hasTable_ok_iff.mp ht).2 β (mem_bitStrings.mpr hβ)).2 rfl o (mem_fockStates_of ho hs) hnd
  rw [gateAmp_of_subOk i sub hsub _ _ (by rw [dualRail_length, hβ]) ho] at h1
  have hf : ((factProd (o ++ H) : ℕ) : R) ≠ 0 := by
    apply factProd_cast_ne_zero hN
    intro x hx
    rcases List.mem_append.mp hx with hx | hx
    · have := List.le_sum_of_mem hx; omega
    · exact hH x hx
  exact (mul_eq_zero.mp h1).resolve_left hf

omit [StarRing R] in
theorem two_table (c : GC R) (hv : c.Valid) (cx ps : Bool) (t : Nat) (ht : t < 2) :
    HasTable Eq c.i (.ok (twoCirc c cx ps t)) 2 (if ps then -c.third else c.half * c.half)
      (if cx then namedCNOT t else namedCZ) (!ps) := by
  cases ps <;> cases cx
  · exact CZH_struct c ▸ CZH_table_field c hv
  · exact CNOTH_struct c ht ▸ CNOTH_table c hv ht
  · exact CZ_struct c ▸ CZ_table_field c hv
  · exact CNOT_struct c ht ▸ CNOT_table c hv ht

omit [StarRing R] in
theorem three_table (c : GC R) (hv : c.Valid) (ccx : Bool) (t : Nat) (ht : t < 3) :
    HasTable Eq c.i (.ok (threeCirc c ccx t)) 3 (kCCZf c)
      (if ccx then namedCNOT t else namedCZ) false := by
  cases ccx
  · exact CCZ_struct c ▸ CCZ_table_field c hv
  · exact CCNOT_struct c ht ▸ CCNOT_table c hv ht

theorem amp_two (c : GC R) (hv : c.Valid) (cx ps : Bool) (t : Nat) (ht : t < 2)
    (β β' : List Bool) (hβ : β.length = 2) (hβ' : β'.length = 2) :
    amp (circHom c.i (twoCirc c cx ps t))
        (dualRail β' ++ (if ps then [0, 0] else [0, 1, 1, 0])).toFinsupp
        (dualRail β ++ (if ps then [0, 0] else [0, 1, 1, 0])).toFinsupp
      = scaleBy (if ps then -c.third else c.half * c.half)
          ((if cx then namedCNOT t else namedCZ) β' β) :=
  amp_of_table c.i _ _ rfl 2 _ _ (!ps) _ (subOk_two c cx ps t ht) (by cases ps <;> rfl)
    (two_table c hv cx ps t ht) β β' hβ hβ'

theorem amp_two_leak (c : GC R) (hv : c.Valid) (cx : Bool) (t : Nat) (ht : t < 2)
    (β : List Bool) (hβ : β.length = 2) (o : List Nat) (ho : o.length = 4) (hs : o.sum = 2)
    (hnd : isDualRail o = false) :
    amp (circHom c.i (twoCirc c cx false t)) (o ++ [0, 1, 1, 0]).toFinsupp
        (dualRail β ++ [0, 1, 1, 0]).toFinsupp = 0 :=
  amp_leak_of_table (N := 2) (by rw [Nat.factorial_two]; exact_mod_cast hv.two_ne) c.i _ _ rfl 2
    (le_refl _) _ _ [0, 1, 1, 0] (subOk_two c cx false t ht) (by decide)
    (two_table c hv cx false t ht) β hβ o ho hs hnd

theorem amp_three (c : GC R) (hv : c.Valid) (ccx : Bool) (t : Nat) (ht : t < 3)
    (β β' : List Bool) (hβ : β.length = 3) (hβ' : β'.length = 3) :
    amp (circHom c.i (threeCirc c ccx t)) (dualRail β' ++ [0, 0, 0, 0]).toFinsupp
        (dualRail β ++ [0, 0, 0, 0]).toFinsupp
      = scaleBy (kCCZf c)
          ((if ccx then namedCNOT t else namedCZ) β' β) :=
  amp_of_table c.i _ _ rfl 3 _ _ false _ (subOk_three c ccx t ht) rfl
    (three_table c hv ccx t ht) β β' hβ hβ'

end Field

end LW.C12F
