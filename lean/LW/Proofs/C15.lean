/-
  `StateTomography.process()` on noiseless data returns the density operator.  The eigenvalue
  multiplier on dual-rail states; `_calculate_expectation_value` on the Born table of the setting
  serving a Pauli string is `tr(P ρ₀)/tr ρ₀`; the results are read back by setting whatever order
  the callback saw; Pauli reconstruction (`Dual.reconstruct`) puts `ρ₀/tr ρ₀` together.
-/
import LW.Proofs.TomoLocal
import LW.Proofs.RangeSum
import LW.Proofs.ExceptLemmas
import LW.Proofs.AssocList

open scoped BigOperators

namespace LW.Tomo

variable {K : Type} [Field K] [StarRing K]

-- a theorem of this file whose statement mentions `K` takes all instance arguments of the `variable` line, used or
-- not, unless an `omit` stands in front of it: LW/Properties and the later modules cite them with these
set_option linter.unusedSectionVars false

theorem dualRail_length (n b : Nat) : (dualRail n b).length = 2 * n := by
  induction n generalizing b with
  | zero => rfl
  | succ n ih =>
    simp only [dualRail, List.length_append, ih]
    split <;> simp <;> omega

theorem pairAt_append_left (l t : List Nat) (j : Nat) (h : 2 * j + 2 ≤ l.length) :
    pairAt (l ++ t) j = pairAt l j := by
  unfold pairAt
  rw [List.drop_append_of_le_length (by omega), List.take_append_of_le_length (by
    rw [List.length_drop]; omega)]

theorem pairAt_dualRail_last (n b : Nat) :
    pairAt (dualRail (n + 1) b) n = if b % 2 = 0 then [1, 0] else [0, 1] := by
  unfold pairAt
  simp only [dualRail]
  rw [List.drop_append_of_le_length (by rw [dualRail_length]),
    List.drop_of_length_le (by rw [dualRail_length]), List.nil_append]
  split <;> rfl

theorem multOne_congr (g : Pauli) (s s' : List Nat) (j : Nat) (h : pairAt s j = pairAt s' j) :
    (multOne g s j : Except Err K) = multOne g s' j := by
  unfold multOne
  rw [h]

theorem multGo_congr (s s' : List Nat) (l : Meas) (j0 : Nat)
    (h : ∀ j, j0 ≤ j → j < j0 + l.length → pairAt s j = pairAt s' j) :
    (multGo s j0 l : Except Err K) = multGo s' j0 l := by
  induction l generalizing j0 with
  | nil => rfl
  | cons g t ih =>
    simp only [multGo]
    rw [multOne_congr g s s' j0 (h j0 (le_refl _) (by simp)),
      ih (j0 + 1) (fun j h1 h2 => h j (by omega) (by simp only [List.length_cons]; omega))]

theorem multGo_snoc (s : List Nat) (l : Meas) (g : Pauli) (j : Nat) :
    (multGo s j (l ++ [g]) : Except Err K) =
      (multGo s j l).bind fun m => (multOne g s (j + l.length)).bind fun m2 => .ok (m * m2) := by
  induction l generalizing j with
  | nil =>
    simp only [List.nil_append, multGo, List.length_nil, Nat.add_zero]
    cases (multOne g s j : Except Err K) <;> simp [bind, Except.bind, pure, Except.pure]
  | cons x t ih =>
    simp only [List.cons_append, multGo, List.length_cons]
    rw [ih (j + 1), show j + 1 + t.length = j + (t.length + 1) by omega]
    cases (multOne x s j : Except Err K) <;> cases (multGo s (j + 1) t : Except Err K) <;>
      cases (multOne g s (j + (t.length + 1)) : Except Err K) <;>
      simp [bind, Except.bind, pure, Except.pure, mul_assoc]

theorem multGo_dualRail (r : List Pauli) (b : Nat) :
    (multGo (dualRail r.length b) 0 r.reverse : Except Err K) = .ok (sgnRev r b) := by
  induction r generalizing b with
  | nil => rfl
  | cons g t ih =>
    rw [List.reverse_cons, multGo_snoc, List.length_cons]
    have h1 : (multGo (dualRail (t.length + 1) b) 0 t.reverse : Except Err K)
        = multGo (dualRail t.length (b / 2)) 0 t.reverse := by
      apply multGo_congr
      intro j _ hj
      simp only [dualRail]
      apply pairAt_append_left
      rw [dualRail_length]
      simp only [List.length_reverse] at hj
      omega
    rw [h1, ih (b / 2)]
    simp only [Except.bind, List.length_reverse, Nat.zero_add]
    unfold multOne
    rw [pairAt_dualRail_last]
    simp only [sgnRev, sgn]
    by_cases hb : b % 2 = 0
    · simp [hb]
    · by_cases hg : g = Pauli.I
      · simp [hb, hg]
      · simp [hb, hg]

theorem multiplier_dualRail (c : Meas) (b : Nat) :
    (multiplier c (dualRail c.length b) : Except Err K) = .ok (sgnRev c.reverse b) := by
  have := multGo_dualRail (K := K) c.reverse b
  simpa [multiplier] using this

theorem born_eq (U rho0 : M K) (b : Nat) :
    born U rho0 b = ∑ a ∈ Finset.range U.n, ∑ a' ∈ Finset.range U.n,
      U.get b a * rho0.get a a' * star (U.get b a') := by
  unfold born
  rw [M.sumN_eq_sum]
  refine Finset.sum_congr rfl fun a _ => ?_
  rw [M.sumN_eq_sum]
  rfl

/-- qubit `t` is measured in setting `s t`, its outcomes weighed by the eigenvalue signs of `g t`; the
outcome index is summed out qubit by qubit -/
theorem born_sum {τ : Type} (i h : K) (rho0 : M K) (l : List τ) (g s : τ → Pauli) :
    ∑ b ∈ Finset.range (2 ^ l.length),
        sgnRev (l.map g).reverse b * born (settingU i h (l.map s)) rho0 b
      = ∑ a ∈ Finset.range (2 ^ l.length), ∑ a' ∈ Finset.range (2 ^ l.length),
          rho0.get a a' * entryRev (l.reverse.map fun t => loc i h (g t) (s t)) a' a := by
  have hfac := sum_factor i h (l.reverse.map fun t => (g t, s t))
  simp only [List.length_map, List.length_reverse, List.map_map, Function.comp_def] at hfac
  have hl : (l.map s).length = l.length := List.length_map _
  have hU : ∀ {b a}, b < 2 ^ l.length → a < 2 ^ l.length →
      (settingU i h (l.map s)).get b a = entryRev (l.reverse.map fun t => (measU i h (s t)).get) b a :=
    fun hb ha => by
      rw [settingU_get i h _ (by rw [hl]; exact hb) (by rw [hl]; exact ha), ← List.map_reverse,
        List.map_map]
      rfl
  calc _ = ∑ b ∈ Finset.range (2 ^ l.length), ∑ a ∈ Finset.range (2 ^ l.length),
          ∑ a' ∈ Finset.range (2 ^ l.length),
            rho0.get a a' * (sgnRev (l.reverse.map g) b
              * entryRev (l.reverse.map fun t => (measU i h (s t)).get) b a
              * star (entryRev (l.reverse.map fun t => (measU i h (s t)).get) b a')) := by
        refine Finset.sum_congr rfl fun b hb => ?_
        rw [born_eq, settingU_n, hl, Finset.mul_sum, List.map_reverse]
        refine Finset.sum_congr rfl fun a ha => ?_
        rw [Finset.mul_sum]
        refine Finset.sum_congr rfl fun a' ha' => ?_
        rw [hU (Finset.mem_range.mp hb) (Finset.mem_range.mp ha),
          hU (Finset.mem_range.mp hb) (Finset.mem_range.mp ha')]
        ring
    _ = _ := by
        rw [Finset.sum_comm]
        refine Finset.sum_congr rfl fun a _ => ?_
        rw [Finset.sum_comm]
        refine Finset.sum_congr rfl fun a' _ => ?_
        rw [← Finset.mul_sum, hfac a a']

/-- `tr(ρ₀ · P_c)` written as a double sum over entries (`trPauli_eq_trace` of LW.Proofs.C16Choi) -/
def trPauli (i : K) (rho0 : M K) (c : Meas) : K :=
  ∑ a ∈ Finset.range (2 ^ c.length), ∑ a' ∈ Finset.range (2 ^ c.length),
    rho0.get a a' * (pauliKron i c).get a' a

/-- the trace of the leading `2ⁿ × 2ⁿ` block -/
def trN (n : Nat) (rho0 : M K) : K := ∑ a ∈ Finset.range (2 ^ n), rho0.get a a

theorem born_sum_pauli {i h : K} (hc : Consts i h) (rho0 : M K) (c : Meas) :
    ∑ b ∈ Finset.range (2 ^ c.length),
        sgnRev c.reverse b * born (settingU i h (c.map toZ)) rho0 b
      = trPauli i rho0 c := by
  have hb := born_sum i h rho0 c id toZ
  rw [List.map_id] at hb
  rw [hb, trPauli]
  refine Finset.sum_congr rfl fun a ha => Finset.sum_congr rfl fun a' ha' => ?_
  rw [pauliKron_get i c (Finset.mem_range.mp ha') (Finset.mem_range.mp ha)]
  exact congrArg _ (entryRev_congr _ _ _ (fun g _ x y hx hy => loc_pauli hc g hx hy) a' a)

/-- the counts of any setting's Born table add up to `tr ρ₀` (basis changes are unitary) -/
theorem born_sum_total {i h : K} (hc : Consts i h) (rho0 : M K) (s : Meas) :
    ∑ b ∈ Finset.range (2 ^ s.length), born (settingU i h s) rho0 b
      = trN s.length rho0 := by
  have hb := born_sum i h rho0 s (fun _ => Pauli.I) id
  rw [List.map_id, Finset.sum_congr rfl fun b _ => by
    rw [sgnRev_allI _ (fun g hg => by
      obtain ⟨_, _, rfl⟩ := List.mem_map.mp (List.mem_reverse.mp hg); rfl) b, one_mul]] at hb
  rw [hb, trN]
  refine Finset.sum_congr rfl fun a ha => ?_
  rw [Finset.sum_congr rfl fun a' ha' => by
    rw [entryRev_congr (fun t => loc i h Pauli.I (id t)) (fun _ x' x => if x' = x then (1 : K) else 0)
        s.reverse (fun t _ x y hx hy => loc_unitary hc t hx hy) a' a,
      entryRev_delta s.reverse (by simpa using Finset.mem_range.mp ha')
        (by simpa using Finset.mem_range.mp ha), mul_ite, mul_one, mul_zero],
    Finset.sum_ite_eq' _ a, if_pos ha]

variable [DecidableEq K]

def weight (c : Meas) (sc : List Nat × K) : K :=
  (match (multiplier c sc.1 : Except Err K) with
   | .ok m => m
   | .error _ => 0) * sc.2

theorem expectation_born {i h : K} (hc : Consts i h) (c : Meas) (rho0 : M K) (r : Res K)
    (hr : r.Perm (bornTable i h c.length rho0 (c.map toZ))) (htr : trN c.length rho0 ≠ 0) :
    expectation c r = .ok (trPauli i rho0 c * (trN c.length rho0)⁻¹) := by
  set T := bornTable i h c.length rho0 (c.map toZ) with hT
  have hmemT : ∀ sc ∈ T, ∃ b, b < 2 ^ c.length ∧
      sc = (dualRail c.length b, born (settingU i h (c.map toZ)) rho0 b) := by
    intro sc hsc
    simp only [hT, bornTable, List.mem_map, List.mem_range] at hsc
    obtain ⟨b, hb, rfl⟩ := hsc
    exact ⟨b, hb, rfl⟩
  have hw : ∀ sc ∈ T, (do let m ← (multiplier c sc.1 : Except Err K); pure (m * sc.2))
      = Except.ok (weight c sc) := by
    intro sc hsc
    obtain ⟨b, _, rfl⟩ := hmemT sc hsc
    simp only [weight, multiplier_dualRail]
    rfl
  have hterms : r.mapM (fun sc => do let m ← (multiplier c sc.1 : Except Err K); pure (m * sc.2))
      = .ok (r.map (weight c)) :=
    Except.mapM_ok_of_forall r (fun sc hsc => hw sc (hr.mem_iff.mp hsc))
  have hsumW : lsum (r.map (weight c)) = trPauli i rho0 c := by
    rw [lsum_eq_sum, (hr.map (weight c)).sum_eq, hT, bornTable, List.map_map]
    have : (weight c ∘ fun b => (dualRail c.length b, born (settingU i h (c.map toZ)) rho0 b))
        = fun b => sgnRev c.reverse b * born (settingU i h (c.map toZ)) rho0 b := by
      funext b
      simp only [Function.comp, weight, multiplier_dualRail]
    rw [this, list_range_sum, born_sum_pauli hc rho0 c]
  have hsumN : lsum (r.map (·.2)) = trN c.length rho0 := by
    rw [lsum_eq_sum, (hr.map (·.2)).sum_eq, hT, bornTable, List.map_map]
    have : ((fun sc : List Nat × K => sc.2) ∘
        fun b => (dualRail c.length b, born (settingU i h (c.map toZ)) rho0 b))
        = fun b => born (settingU i h (c.map toZ)) rho0 b := rfl
    rw [this, list_range_sum]
    have := born_sum_total hc rho0 (c.map toZ)
    rw [List.length_map] at this
    exact this
  unfold expectation
  rw [hterms]
  simp only [bind, Except.bind, hsumW, hsumN, if_neg htr]
  rfl

theorem lookup_forall2 {β : Type} {R : Meas → β → Prop} {order : List Meas} {rs : List β}
    (h : List.Forall₂ R order rs) {s : Meas} (hs : s ∈ order) :
    ∃ r, lookup (order.zip rs) s = some r ∧ R s r := by
  obtain ⟨hlen, hz⟩ := List.forall₂_iff_zip.mp h
  cases hf : lookup (order.zip rs) s with
  | none =>
    have := (Assoc.find_eq_none_iff (order.zip rs) s).mp hf
    rw [List.map_fst_zip (Nat.le_of_eq hlen)] at this
    exact absurd hs this
  | some r => exact ⟨r, rfl, hz (Assoc.mem_of_find hf)⟩

theorem pauliKron_dual {i : K} (hi : i * i = -1) {vals : List Pauli} (hp : Pauli.all.Perm vals)
    (k : Nat) :
    Dual (2 ^ (k + 1)) (combos vals k) (fun ps => (pauliKron i ps).get)
      (fun ps a b => (pauliKron i ps).get b a) ((1 + 1) ^ (k + 1)) :=
  (((pauliM_dual hi).perm hp).combos k).congr
    (fun _ hps _ _ ha hb => kronList_get_of_mem_combos _ (pauliM_n i) hps ha hb)
    (fun ps hps a b ha hb => by
      rw [entryRev_swap (fun p => (pauliM i p).get)]
      exact kronList_get_of_mem_combos _ (pauliM_n i) hps hb ha)

theorem pauli_reconstruction {i : K} (hi : i * i = -1) (h2 : (1 + 1 : K) ≠ 0) (n : Nat) (hn : 0 < n)
    (rho0 : M K) {r k : Nat} (hr : r < 2 ^ n) (hk : k < 2 ^ n) :
    ((tomoMeasurements n).map fun c =>
        trPauli i rho0 c * (twoPow n)⁻¹ * (pauliKron i c).get r k).sum = rho0.get r k := by
  obtain ⟨m, rfl⟩ : ∃ m, n = m + 1 := ⟨n - 1, by omega⟩
  rw [show tomoMeasurements (m + 1) = combos Pauli.all m from rfl,
    List.map_congr_left (g := fun c => (twoPow (m + 1))⁻¹ *
      ((∑ a' ∈ Finset.range (2 ^ (m + 1)), ∑ b' ∈ Finset.range (2 ^ (m + 1)),
        (pauliKron i c).get b' a' * rho0.get a' b') * (pauliKron i c).get r k))
      (fun c hc => by
        unfold trPauli
        rw [combos_length _ _ c hc, mul_comm _ (twoPow (m + 1))⁻¹, mul_assoc]
        simp only [mul_comm (rho0.get _ _)]),
    List.sum_map_mul_left, (pauliKron_dual hi (List.Perm.refl _) m).reconstruct rho0.get hr hk,
    twoPow_eq, ← mul_assoc, inv_mul_cancel₀ (pow_ne_zero _ h2), one_mul]

/-- `ρ₀ / tr ρ₀` -/
def normalised (n : Nat) (rho0 : M K) : M K :=
  M.ofFn (2 ^ n) fun r k => rho0.get r k * (trN n rho0)⁻¹

theorem densityMatrix_born {i h : K} (hc : Consts i h) (h2 : (1 + 1 : K) ≠ 0) (n : Nat) (hn : 0 < n)
    (rho0 : M K) (htr : trN n rho0 ≠ 0) (full : List (Meas × Res K))
    (hkeys : full.map (·.1) = tomoMeasurements n)
    (hvals : ∀ p ∈ full, p.2.Perm (bornTable i h n rho0 (p.1.map toZ))) :
    densityMatrix i n full = .ok (normalised n rho0) := by
  have hlen := tomoMeasurements_length hn
  have hlenp : ∀ p ∈ full, p.1.length = n := by
    intro p hp
    apply hlen
    rw [← hkeys]
    exact List.mem_map_of_mem hp
  have hws : full.mapM (fun mr => do
        let e ← expectation mr.1 mr.2
        pure (e * (twoPow n)⁻¹, pauliKron i mr.1))
      = .ok (full.map fun p => (trPauli i rho0 p.1 * (trN n rho0)⁻¹ * (twoPow n)⁻¹, pauliKron i p.1)) := by
    apply Except.mapM_ok_of_forall
    intro p hp
    have hl := hlenp p hp
    have := expectation_born hc p.1 rho0 p.2 (by rw [hl]; exact hvals p hp) (by rw [hl]; exact htr)
    rw [this, hl]
    rfl
  unfold densityMatrix
  rw [hws]
  simp only [bind, Except.bind, pure, Except.pure, normalised]
  congr 1
  apply M.ofFn_congr
  intro r k hr hk
  rw [lsum_eq_sum, List.map_map]
  have e : ((fun wm : K × M K => wm.1 * wm.2.get r k) ∘
      fun p : Meas × Res K => (trPauli i rho0 p.1 * (trN n rho0)⁻¹ * (twoPow n)⁻¹, pauliKron i p.1))
      = (fun c : Meas => (trN n rho0)⁻¹ * (trPauli i rho0 c * (twoPow n)⁻¹ * (pauliKron i c).get r k))
          ∘ (·.1) := by
    funext p
    simp only [Function.comp]
    ring
  rw [e, ← List.map_map, hkeys, List.sum_map_mul_left, pauli_reconstruction hc.i_sq h2 n hn rho0 hr hk]
  ring

/-- `StateTomography.process()` on noiseless outcome tables of the density operator `ρ₀` returns
`ρ₀ / tr ρ₀`, for every order in which the callback saw the settings and every ordering of the
entries inside each result dictionary -/
theorem process_born {i h : K} (hc : Consts i h) (h2 : (1 + 1 : K) ≠ 0) (n : Nat) (hn : 0 < n)
    (rho0 : M K) (htr : trN n rho0 ≠ 0) (order : List Meas) (rs : List (Res K))
    (hcover : ∀ c ∈ tomoMeasurements n, c.map toZ ∈ order)
    (hrs : List.Forall₂ (fun s r => r.Perm (bornTable i h n rho0 s)) order rs) :
    process i n order rs = .ok (normalised n rho0) := by
  have hl : order.length = rs.length := hrs.length_eq
  let G : Meas → Meas × Res K := fun c =>
    match lookup (order.zip rs) (c.map toZ) with
    | some r => (c, r)
    | none => (c, [])
  unfold process
  simp only [hl, ne_eq, not_true_eq_false, if_false]
  have : densityMatrix i n ((tomoMeasurements n).map G) = .ok (normalised n rho0) := by
    apply densityMatrix_born hc h2 n hn rho0 htr
    · rw [List.map_map]
      conv_rhs => rw [← List.map_id (tomoMeasurements n)]
      apply List.map_congr_left
      intro c _
      simp only [Function.comp, G]
      split <;> rfl
    · intro p hp
      simp only [List.mem_map] at hp
      obtain ⟨c, hcm, rfl⟩ := hp
      obtain ⟨r, hr1, hr2⟩ := lookup_forall2 hrs (hcover c hcm)
      simp only [G, hr1]
      exact hr2
  simp only [bind, Except.bind, pure, Except.pure]
  rw [Except.mapM_ok_of_forall (g := G) (tomoMeasurements n)]
  · exact this
  · intro c hcm
    obtain ⟨r, hr1, _⟩ := lookup_forall2 hrs (hcover c hcm)
    simp only [G, hr1]

end LW.Tomo
