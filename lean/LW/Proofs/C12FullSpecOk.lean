/-
  LW.Proofs.C12FullSpecOk — shared definitions for the proof of `convert_correct`:
  * `PrimOk` / `SpecOk`: the *positional* part of the documented parameter ranges (`Prim.Wf`
    without unitarity): enough for the matrix lemmas about `Circuit.add`, and satisfied by the
    gate library's blocks over ANY commutative ring and for ANY rotation parameters (a rotation
    block with arbitrary parameters need not be invertible, so `SpecWf` is not available);
  * `Tidy`: an optic without loss whose heralds are exactly its private ancillas, in order.
-/
import LW.Model.Abs
import LW.Model.CircuitSpec
import LW.Proofs.CircuitWf
import LW.Proofs.MatAlg

namespace LW.C12F

open LW

variable {K : Type}

/-- positional well-formedness of a leaf component on `n` modes; only unitary blocks and mode
swaps occur in converted circuits -/
def PrimOk (n : Nat) : Prim K → Prop
  | .unitary m u => m + u.n ≤ n
  | .swaps σ => SwapsOk n σ
  | _ => False

/-- every leaf component (through groups) is positionally well formed -/
def SpecOk (n : Nat) (spec : List (Comp K)) : Prop := ∀ p ∈ flattenSpec spec, PrimOk n p

/-- an optic without loss whose heralds are exactly its private ancillas, in index order -/
structure Tidy [Zero K] (x : Optic K) : Prop where
  l0 : x.l = 0
  len : x.her.length = x.a
  idx : ∀ j (hj : j < x.her.length), (x.her[j]).i = x.p + j ∧ (x.her[j]).o = x.p + j
  wn : x.W.n = x.p + x.a
  wofn : x.W.IsOfFn

end LW.C12F
