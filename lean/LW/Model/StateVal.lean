/-
  LW.Model.StateVal — model of the state value types and the small utilities of C18.

  Mirrors  lightworks/sdk/state/state.py            (State)
           lightworks/sdk/state/state_utils.py       (state_to_string)
           lightworks/emulator/state/annotated_state.py (AnnotatedState)
           lightworks/emulator/utils/state_utils.py  (annotated_state_to_string)
           lightworks/sdk/utils/heralding_utils.py   (add_heralds_to_state, remove_heralds_from_state)
           lightworks/sdk/utils/conversion.py        (db_loss_to_decimal, decimal_to_db_loss)
           lightworks/sdk/utils/random_utils.py      (process_random_seed, random_permutation)

  Core Lean only.  Python exceptions are `LW.Err`; classes that have no constructor there
  (IndexError, AnnotatedStateError) are `.other` — the op that raised it determines which one it is
  (the harness maps it back per op).
-/
import LW.Model.Circuit

namespace LW.SV

/-! ### Python list indexing and slicing -/

/-- position addressed by a Python integer index on a sequence of length `n`
(negative counts from the end); `none` = IndexError -/
def pyIndex (n : Nat) (i : Int) : Option Nat :=
  if 0 ≤ i then (if i < (n : Int) then some i.toNat else none)
  else if 0 ≤ i + (n : Int) then some (i + (n : Int)).toNat else none

/-- `l[i]` -/
def getItem {α : Type} (l : List α) (i : Int) : Except Err α :=
  match pyIndex l.length i with
  | some k => match l[k]? with
    | some x => .ok x
    | none => .error .other
  | none => .error .other  -- IndexError

/-- a Python `slice(start, stop, step)`; `none` = omitted -/
structure Slice where
  start : Option Int
  stop : Option Int
  step : Option Int
deriving Repr, DecidableEq

/-- CPython `PySlice_AdjustIndices` for one bound -/
def adjust (len step : Int) (x : Option Int) (dflt : Int) : Int :=
  match x with
  | none => dflt
  | some v =>
    let v := if v < 0 then v + len else v
    if v < 0 then (if step < 0 then -1 else 0)
    else if len ≤ v then (if step < 0 then len - 1 else len)
    else v

/-- the three numbers of `slice.indices(len)` and the number of selected positions -/
def sliceParams (len : Nat) (sl : Slice) : Except Err (Int × Int × Int × Nat) :=
  let step := sl.step.getD 1
  if step = 0 then .error .value  -- "slice step cannot be zero"
  else
    let n : Int := len
    let start := adjust n step sl.start (if step < 0 then n - 1 else 0)
    let stop := adjust n step sl.stop (if step < 0 then -1 else n)
    let cnt : Int :=
      if step < 0 then (if stop < start then (start - stop - 1) / (-step) + 1 else 0)
      else (if start < stop then (stop - start - 1) / step + 1 else 0)
    .ok (start, stop, step, cnt.toNat)

/-- the positions selected by a slice, in order -/
def sliceIdx (len : Nat) (sl : Slice) : Except Err (List Int) := do
  let (start, _, step, cnt) ← sliceParams len sl
  return (List.range cnt).map fun (k : Nat) => start + (k : Int) * step

/-- `l[start:stop:step]` -/
def sliceList {α : Type} [Inhabited α] (l : List α) (sl : Slice) : Except Err (List α) := do
  let idx ← sliceIdx l.length sl
  return idx.map fun i => l.getD i.toNat default

/-! ### printing integers -/

/-- `str(x)` of a Python int, as characters -/
def intChars (x : Int) : List Char :=
  if x < 0 then '-' :: Nat.toDigits 10 x.natAbs else Nat.toDigits 10 x.natAbs

/-! ### State -/

/-- `lightworks.State`: the private list `__s`; contents are not validated by the constructor,
so any integers (negative ones included) are admitted -/
structure State where
  s : List Int
deriving DecidableEq, Repr

namespace State

def nPhotons (a : State) : Int := a.s.sum
def nModes (a : State) : Nat := a.s.length
/-- `__len__` -/
def len (a : State) : Nat := a.nModes
/-- the `s` property: a copy of the contents -/
def getS (a : State) : List Int := a.s
/-- `__iter__`: `yield from self.s` -/
def iter (a : State) : List Int := a.getS

def merge (a b : State) : Except Err State :=
  if a.nModes ≠ b.nModes then .error .value
  else .ok ⟨List.zipWith (· + ·) a.s b.getS⟩

/-- `__add__` -/
def add (a b : State) : State := ⟨a.s ++ b.s⟩

/-- `__eq__` between two States -/
def eq (a b : State) : Bool := a.s == b.getS

/-- `state_to_string` as characters: `"|" + "".join(str(s) + ",") `, last character dropped, `">"` -/
def strChars (a : State) : List Char :=
  ('|' :: a.s.flatMap fun x => intChars x ++ [',']).dropLast ++ ['>']
def str (a : State) : String := String.ofList a.strChars

/-- `__hash__` = Python's string hash of `__str__`; `h` stands for that hash function -/
def hash {H : Type} (h : String → H) (a : State) : H := h a.str

def getItem (a : State) (i : Int) : Except Err Int := SV.getItem a.s i
def slice (a : State) (sl : Slice) : Except Err State := do
  return ⟨← sliceList a.s sl⟩

/-- attribute/item assignment through the API: always refused -/
def setS (_ : State) : Except Err State := .error .state
def setNModes (_ : State) : Except Err State := .error .state
def setItem (_ : State) : Except Err State := .error .state

/-- `_validate` on integer contents -/
def validate (a : State) : Except Err Unit :=
  if a.s.any (· < 0) then .error .value else .ok ()

end State

/-! ### AnnotatedState -/

/-- insertion into a sorted list (`sorted`) -/
def insInt (x : Int) : List Int → List Int
  | [] => [x]
  | y :: ys => if x ≤ y then x :: y :: ys else y :: insInt x ys
def sortInt (l : List Int) : List Int := l.foldr insInt []

/-- `AnnotatedState`: the private list `__s` of per-mode label lists (sorted by the constructor) -/
structure AState where
  s : List (List Int)
deriving DecidableEq, Repr

namespace AState

/-- the constructor on a list of label lists -/
def new (rows : List (List Int)) : AState := ⟨rows.map sortInt⟩

/-- the constructor on arbitrary elements: `none` stands for an element that is not a list -/
def newChecked (rows : List (Option (List Int))) : Except Err AState :=
  if rows.any Option.isNone then .error .type else .ok (new (rows.filterMap id))

def nPhotons (a : AState) : Nat := (a.s.map List.length).sum
def nModes (a : AState) : Nat := a.s.length
def len (a : AState) : Nat := a.nModes
/-- the `s` property: `[list(i) for i in self.__s]` -/
def getS (a : AState) : List (List Int) := a.s
def iter (a : AState) : List (List Int) := a.getS

def merge (a b : AState) : Except Err AState :=
  if a.nModes ≠ b.nModes then .error .value
  else .ok (new (List.zipWith (· ++ ·) a.s b.getS))

def add (a b : AState) : AState := new (a.s ++ b.s)
def eq (a b : AState) : Bool := a.s == b.s

/-- `annotated_state_to_string` as characters -/
def strChars (a : AState) : List Char :=
  ('|' :: a.s.flatMap fun row =>
    if row.length > 0 then
      (Nat.toDigits 10 row.length ++ [':', '('] ++
        (row.flatMap fun l => intChars l ++ [','])).dropLast ++ [')', ',']
    else ['0', ',']).dropLast ++ ['>']
def str (a : AState) : String := String.ofList a.strChars
def hash {H : Type} (h : String → H) (a : AState) : H := h a.str

/-- `__getitem__` with an int (the repaired code returns a copy of the row; see the section on aliasing
below for the behaviour of the pinned code, finding F14) -/
def getItem (a : AState) (i : Int) : Except Err (List Int) := SV.getItem a.s i
def slice (a : AState) (sl : Slice) : Except Err AState := do
  return new (← sliceList a.s sl)

/-- AnnotatedStateError (no constructor in `Err`) -/
def setS (_ : AState) : Except Err AState := .error .other
def setNModes (_ : AState) : Except Err AState := .error .other
def setItem (_ : AState) : Except Err AState := .error .other

end AState

/-! ### Aliasing: what client code can do with the values the API hands out

A value object holds its rows in private storage.  Every API read hands the client a *handle*: a
fresh list, or — `AnnotatedState.__getitem__(int)` of the pinned code — a reference to an internal
row.  Client code may then mutate whatever it was handed (`append`).  Integers are immutable in
Python, so `State.__getitem__(int)` hands out nothing mutable; a `State` is the one-row case with
`getRow` unavailable. -/

inductive Handle
  | fresh (v : List Int)
  | internalRow (k : Nat)
deriving DecidableEq, Repr

inductive ClientOp
  | readS                      -- `.s` / iteration: one fresh list per row
  | getRow (i : Int)           -- `obj[i]` on an AnnotatedState
  | setS | setNModes | setItem -- refused assignments
  | slice (sl : Slice)         -- builds a new object from a fresh list
  | append (h : Nat) (x : Int) -- `handle[h].append(x)` in client code
deriving Repr

structure World where
  rows : List (List Int)
  handles : List Handle
deriving DecidableEq, Repr

/-- one client action; `aliasing = true` is the pinned `__getitem__` (returns `self.__s[i]`),
`false` the repaired one (returns `list(self.__s[i])`) -/
def clientStep (aliasing : Bool) (w : World) : ClientOp → World
  | .readS => { w with handles := w.handles ++ w.rows.map Handle.fresh }
  | .getRow i =>
    match pyIndex w.rows.length i with
    | none => w
    | some k =>
      if aliasing then { w with handles := w.handles ++ [Handle.internalRow k] }
      else { w with handles := w.handles ++ [Handle.fresh (w.rows.getD k [])] }
  | .setS | .setNModes | .setItem => w
  | .slice _ => w
  | .append h x =>
    match w.handles[h]? with
    | none => w
    | some (.fresh v) => { w with handles := w.handles.set h (.fresh (v ++ [x])) }
    | some (.internalRow k) => { w with rows := w.rows.modify k (· ++ [x]) }

def clientRun (aliasing : Bool) (w : World) (ops : List ClientOp) : World :=
  ops.foldl (clientStep aliasing) w

/-! ### heralds -/

/-- a herald dictionary `{mode: photons}` in insertion order (keys are unique in a Python dict) -/
abbrev HDict := List (Int × Int)

def HDict.get? (h : HDict) (k : Int) : Option Int := (h.find? (·.1 == k)).map (·.2)

/-- the loop of `add_heralds_to_state` from position `i` for `k` more positions, `st` = the part
of the state not yet consumed; `state[count]` out of range is an IndexError -/
def addGo (h : HDict) : Nat → Nat → List Int → Except Err (List Int)
  | _, 0, _ => .ok []
  | i, k + 1, st =>
    match h.get? (i : Int) with
    | some v => do return v :: (← addGo h (i + 1) k st)
    | none =>
      match st with
      | [] => .error .other  -- IndexError
      | x :: st' => do return x :: (← addGo h (i + 1) k st')

def addHeralds (s : List Int) (h : HDict) : Except Err (List Int) :=
  if h.isEmpty then .ok s else addGo h 0 (s.length + h.length) s

/-- `list.pop(m)` -/
def popAt (l : List Int) (m : Int) : Except Err (List Int) :=
  match pyIndex l.length m with
  | some k => .ok (l.eraseIdx k)
  | none => .error .other  -- IndexError

/-- `sorted(herald_modes, reverse=True)` -/
def sortDesc (l : List Int) : List Int := (sortInt l).reverse

def removeHeralds (s : List Int) (modes : List Int) : Except Err (List Int) :=
  (sortDesc modes).foldlM popAt s

/-! ### dB ↔ decimal loss

`10 ** x` and `log10` are float library calls; the model takes them as a parameter `E` and the
theorems use only their inverse laws (instantiated with the real functions in LW/Proofs). -/

structure ExpLog (K : Type) where
  pow10 : K → K
  log10 : K → K

section DB
variable {K : Type} [Neg K] [Sub K] [Mul K] [Div K] [LT K] [LE K] [OfNat K 0] [OfNat K 1] [OfNat K 10]
  [DecidableLT K] [DecidableLE K]

def absK (x : K) : K := if x < 0 then -x else x

def dbToDec (E : ExpLog K) (loss : K) : K :=
  let loss := -(absK loss)
  1 - E.pow10 (loss / 10)

def decToDb (E : ExpLog K) (loss : K) : Except Err K :=
  if loss < 0 ∨ 1 ≤ loss then .error .value
  else .ok (absK (10 * E.log10 (1 - loss)))
end DB

/-! ### random seeds and permutations -/

/-- what can be passed as `seed` -/
inductive Seed
  | none
  | int (i : Int)
  | bool (b : Bool)
  | real (q : Rat)     -- a finite float / numpy number of value `q`
  | other              -- `int(seed)` raises, or `int(seed) == seed` is False (strings, nan, inf, …)
deriving Repr, DecidableEq

/-- `process_random_seed`; for a finite non-int number `int(seed) == seed` holds exactly when the
value is integral -/
def processSeed : Seed → Except Err (Option Int)
  | .none => .ok none
  | .int i => .ok (some i)
  | .bool _ => .error .type
  | .real q => if q.den = 1 then .ok (some q.num) else .error .type
  | .other => .error .type

/-- `rng.permutation(np.identity(N))`: row `i` of the result is row `σ[i]` of the identity; `σ` is
the order drawn by numpy's generator (an input of the model: the random tape) -/
def permRows {K : Type} [Zero K] [One K] (N : Nat) (σ : List Nat) : M K :=
  M.ofFn N fun i j => if σ.getD i N = j then 1 else 0

def randomPermutation {K : Type} [Zero K] [One K] (N : Nat) (seed : Seed) (tape : Option Int → List Nat) :
    Except Err (M K) := do
  let sd ← processSeed seed
  return permRows N (tape sd)

end LW.SV
