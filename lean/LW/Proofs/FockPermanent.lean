/-
  LW.Proofs.FockPermanent — Laplace expansion of `Matrix.permanent`; the recursive permanents `permRC`
  and `QF.permN` of the two Fock models are the same recursion, and it is Mathlib's permanent; the
  closed form when all photons enter (or leave) through one mode.
-/
import Mathlib.LinearAlgebra.Matrix.Permanent
import Mathlib.GroupTheory.Perm.Fin
import Mathlib.Algebra.BigOperators.Fin
import LW.Proofs.MatAlg
import LW.Proofs.FockBasis

open scoped BigOperators
open Equiv Finset

namespace Matrix

variable {R : Type*} [CommSemiring R]

/-! Mathlib (at the revision used here) has `det_succ_column_zero` and `det_succ_row_zero` but no Laplace expansion of the
permanent; the two below are stated in their form. -/

theorem permanent_succ_column_zero {n : ℕ} (A : Matrix (Fin n.succ) (Fin n.succ) R) :
    permanent A = ∑ i : Fin n.succ, A i 0 * permanent (A.submatrix i.succAbove Fin.succ) := by
  rw [permanent, Finset.univ_perm_fin_succ, ← Finset.univ_product_univ]
  simp only [Finset.sum_map, Equiv.toEmbedding_apply, Finset.sum_product]
  refine Finset.sum_congr rfl fun i _ => Fin.cases ?_ (fun i => ?_) i
  · simp only [Fin.prod_univ_succ, permanent, Finset.mul_sum,
      Equiv.Perm.decomposeFin_symm_apply_zero,
      Equiv.Perm.decomposeFin_symm_apply_succ, Fin.succAbove_zero, Equiv.swap_self,
      Equiv.coe_refl, id, submatrix_apply]
  rw [← permanent_permute_cols i.cycleRange, permanent, Finset.mul_sum]
  refine Finset.sum_congr rfl fun σ _ => ?_
  simp only [Fin.prod_univ_succ, Fin.succAbove_cycleRange,
    Equiv.Perm.decomposeFin_symm_apply_zero, Equiv.Perm.decomposeFin_symm_apply_succ,
    submatrix_apply, id]

theorem permanent_succ_row_zero {n : ℕ} (A : Matrix (Fin n.succ) (Fin n.succ) R) :
    permanent A = ∑ j : Fin n.succ, A 0 j * permanent (A.submatrix Fin.succ j.succAbove) := by
  rw [← permanent_transpose A, permanent_succ_column_zero]
  refine Finset.sum_congr rfl fun i _ => ?_
  rw [← permanent_transpose]
  simp only [transpose_apply, transpose_submatrix, transpose_transpose]

end Matrix

namespace LW.Proofs.C03

variable {K : Type}

theorem sumN_congr [Add K] [Zero K] {n : Nat} {f g : Nat → K} (h : ∀ j, j < n → f j = g j) :
    M.sumN n f = M.sumN n g := by
  induction n with
  | zero => rfl
  | succ n ih =>
    rw [M.sumN, M.sumN, ih fun j hj => h j (Nat.lt_succ_of_lt hj), h n (Nat.lt_succ_self n)]

theorem getD_eraseIdx (l : List Nat) (j c : Nat) :
    (l.eraseIdx j).getD c 0 = l.getD (QF.skip j c) 0 := by
  unfold QF.skip
  simp only [List.getD_eq_getElem?_getD, List.getElem?_eraseIdx]
  split <;> rfl

theorem permRC_eq_permN [Add K] [Mul K] [Zero K] [One K] (U : M K) :
    ∀ rows cols : List Nat, rows.length = cols.length →
      permRC U rows cols = QF.permN rows.length fun r c => U.get (rows.getD r 0) (cols.getD c 0)
  | [], _, _ => rfl
  | r :: rs, cols, h => by
    rw [permRC, List.length_cons, QF.permN, ← h, List.length_cons]
    refine sumN_congr fun j hj => ?_
    rw [permRC_eq_permN U rs (cols.eraseIdx j)
      (by rw [List.length_eraseIdx_of_lt (h ▸ hj), ← h]; rfl)]
    simp only [getD_eraseIdx, List.getD_cons_zero, List.getD_cons_succ]

theorem ampNum_eq_permAmpFull [Add K] [Mul K] [Zero K] [One K] (U : M K) (s t : FState)
    (h : (QF.idxs t).length = (QF.idxs s).length) : ampNum U s t = QF.permAmpFull U.get s t := by
  unfold ampNum QF.permAmpFull
  rw [partitionIdx_eq_idxs, partitionIdx_eq_idxs, permRC_eq_permN U _ _ h]
  exact (if_pos h).symm

theorem skip_succAbove {n : ℕ} (j : Fin (n + 1)) (c : Fin n) :
    QF.skip j.val c.val = (j.succAbove c).val := by
  unfold QF.skip
  by_cases h : c.val < j.val
  · rw [if_pos h, Fin.succAbove_of_castSucc_lt _ _ h]
    rfl
  · rw [if_neg h, Fin.succAbove_of_le_castSucc _ _ (Nat.le_of_not_lt h)]
    rfl

theorem permN_eq_permanent [CommRing K] (n : ℕ) (A : ℕ → ℕ → K) :
    QF.permN n A = Matrix.permanent (Matrix.of fun (r c : Fin n) => A r.val c.val) := by
  induction n generalizing A with
  | zero => simp [QF.permN, Matrix.permanent]
  | succ n ih =>
    rw [QF.permN, M.sumN_eq_sum, Finset.sum_range, Matrix.permanent_succ_row_zero]
    refine Finset.sum_congr rfl fun j _ => ?_
    rw [ih]
    congr 1
    congr 1
    funext r c
    simp only [Matrix.submatrix_apply, Matrix.of_apply, skip_succAbove]
    rfl

theorem getD_ofFn {α : Type} {k : Nat} (f : Fin k → α) (j : Fin k) (d : α) :
    (List.ofFn f).getD j d = f j := by
  simp [List.getD]

theorem permRC_eq_permanent [CommRing K] (U : M K) (k : Nat) (rows cols : Fin k → Nat) :
    permRC U (List.ofFn rows) (List.ofFn cols) =
      Matrix.permanent (Matrix.of fun a b => U.get (rows a) (cols b)) := by
  rw [permRC_eq_permN U _ _ (by rw [List.length_ofFn, List.length_ofFn]), List.length_ofFn,
    permN_eq_permanent]
  simp only [getD_ofFn]

example : Matrix.permanent (Matrix.of ![![(1 : ℤ), 2], ![3, 4]]) = 10 := by
  rw [Matrix.permanent_succ_row_zero]
  simp [Fin.sum_univ_succ, Matrix.permanent_unique]

example : permRC (M.ofFn 2 fun i j => ((2 * i + j + 1 : Nat) : Int)) [0, 1] [0, 1] = 10 := by
  decide

example : permRC (M.ofFn 2 fun i j => ((2 * i + j + 1 : Nat) : Int)) [0, 0] [1, 1] = 8 := by
  decide

/-! All photons in one mode: the photon-indexed sub-matrix has identical columns (rows), and
the permanent of a rank-one matrix is `k! · ∏ aᵢ · ∏ bⱼ` -/

section Bunch
variable [CommRing K]

theorem permanent_rank_one {k : Nat} (a b : Fin k → K) :
    Matrix.permanent (Matrix.of fun i j => a i * b j) = (k.factorial : K) * (∏ i, a i) * ∏ j, b j := by
  unfold Matrix.permanent
  have h : ∀ σ : Equiv.Perm (Fin k), ∏ i, (Matrix.of fun i j => a i * b j) (σ i) i
      = (∏ i, a i) * ∏ j, b j := by
    intro σ
    simp only [Matrix.of_apply, Finset.prod_mul_distrib]
    congr 1
    exact Equiv.prod_comp σ a
  rw [Finset.sum_congr rfl fun σ _ => h σ, Finset.sum_const, Finset.card_univ, Fintype.card_perm,
    Fintype.card_fin, nsmul_eq_mul, mul_assoc]

theorem permRC_bunched_input (U : M K) (k : Nat) (rows : Fin k → Nat) (c : Nat) :
    permRC U (List.ofFn rows) (List.ofFn fun _ : Fin k => c)
      = (k.factorial : K) * ∏ r, U.get (rows r) c := by
  rw [permRC_eq_permanent U k rows fun _ => c]
  have := permanent_rank_one (fun r => U.get (rows r) c) (fun _ : Fin k => (1 : K))
  simp only [mul_one, Finset.prod_const_one] at this
  exact this

theorem permRC_bunched_output (U : M K) (k : Nat) (r : Nat) (cols : Fin k → Nat) :
    permRC U (List.ofFn fun _ : Fin k => r) (List.ofFn cols)
      = (k.factorial : K) * ∏ c, U.get r (cols c) := by
  rw [permRC_eq_permanent U k (fun _ => r) cols]
  have := permanent_rank_one (fun _ : Fin k => (1 : K)) (fun c => U.get r (cols c))
  simp only [one_mul, Finset.prod_const_one, mul_one] at this
  exact this

end Bunch

end LW.Proofs.C03
