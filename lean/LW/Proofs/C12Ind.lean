/-
  LW.Proofs.C12Ind — the forward induction `main_ind` of `convert_correct` over the instruction
  list, relative to an interface `Iface` of facts about the homomorphism of one instruction.  A
  non-zero amplitude of the list (heralds in place on both sides) is witnessed by a run of the
  abstract photon-number semantics `Run` (`listHom_path`); so when the post-selection rules are safe
  for the list (`Safe`), only dual-rail intermediate states contribute to the sum over paths.
-/
import LW.Proofs.C12Modes
import LW.Proofs.C12Ideal
import LW.Proofs.C12

namespace LW.C12F

open LW LW.QC LW.Gates LW.QF

variable {R : Type} [CommRing R]

/-- What the induction needs to know about one instruction `g` converted with flag `f`, whose
heralds occupy the modes `P, P+1, …` (`P ≥ 2·nq`: the user modes come first, every instruction
appends its heralds, so in `listHom` the next instruction starts at `P + (instrHer g f).length`).
In `amp φ w s` the output state `w` comes first and the input `s` second. -/
structure Iface (c : GC R) (par : ℕ → R × R) (nq : ℕ) (g : Instr) (f : Bool) : Prop where
  /-- a mode that is neither a user mode nor one of the instruction's heralds keeps its occupation:
  the heralds of the other instructions pass through unchanged -/
  touch : ∀ idx P z, 2 * nq ≤ P → 2 * nq ≤ z → ¬ (P ≤ z ∧ z < P + (instrHer g f).length) →
    Pres (wtP (· = z)) (instrHom c par idx g f P)
  /-- with the heralds in place before and after, a possible transition `s → w` is a step of the
  photon-number semantics from the configuration of `s` to that of `w`: through it `ps_analysis_safe`
  speaks about amplitudes (`listHom_path`) -/
  step : ∀ idx P (w s : ℕ →₀ ℕ), 2 * nq ≤ P → amp (instrHom c par idx g f P) w s ≠ 0 →
    HerAt P (instrHer g f) w → HerAt P (instrHer g f) s → stepRel g f (cfgN nq s) (cfgN nq w)
  /-- between dual-rail states the instruction is `instrK ×` the ideal gate.  The part `η` beyond the
  user modes is the same on both sides: the instruction's heralds are read in as they are read
  out (`HerAt` for both), and by `touch` every other such mode keeps its occupation. -/
  table : ∀ idx P (ib mid : List Bool) (η : ℕ →₀ ℕ), 2 * nq ≤ P → ib.length = nq →
    mid.length = nq → (∀ z ∈ η.support, 2 * nq ≤ z) → HerAt P (instrHer g f) η →
    amp (instrHom c par idx g f P) (mk (dualRail mid) η) (mk (dualRail ib) η)
      = instrK c g f * applyInstr c par idx g (delta ib) mid
  /-- staying at one photon per qubit is a possible step: it lets a run of the rest of the list be
  prefixed to a run of the whole list, so that `Safe` passes to the tail (`Safe.tail`) -/
  idle : ∀ cf, AllOne nq cf → stepRel g f cf cf

theorem cfgN_mk_dualRail (nq : ℕ) (b : List Bool) (hb : b.length = nq) (η : ℕ →₀ ℕ)
    (hη : ∀ z ∈ η.support, 2 * nq ≤ z) : AllOne nq (cfgN nq (mk (dualRail b) η)) := by
  intro q hq
  rw [cfgN_lt _ hq, mk_dualRail_even hb hη hq, mk_dualRail_odd hb hη hq]
  cases getBit b q <;> rfl

theorem listHom_touch {c : GC R} {par : ℕ → R × R} {nq : ℕ} {gs : List Instr} {fs : List Bool}
    (h : List.Forall₂ (Iface c par nq) gs fs) :
    ∀ idx P z, 2 * nq ≤ P → 2 * nq ≤ z → ¬ (P ≤ z ∧ z < P + (listHer gs fs).length) →
      Pres (wtP (· = z)) (listHom c par idx gs fs P) := by
  induction h with
  | nil =>
    intro idx P z _ _ _
    exact Pres.id _
  | @cons g f gs' fs' hg _ ih =>
    intro idx P z hP hz hn
    simp only [listHom, listHer, List.headD_cons, List.tail_cons, List.length_append] at hn ⊢
    apply Pres.comp
    · exact ih (idx + 1) (P + (instrHer g f).length) z (by omega) hz (by omega)
    · exact hg.touch idx P z hP hz (by omega)

theorem listHom_path {c : GC R} {par : ℕ → R × R} {nq : ℕ} {gs : List Instr} {fs : List Bool}
    (h : List.Forall₂ (Iface c par nq) gs fs) :
    ∀ idx P (w t : ℕ →₀ ℕ), 2 * nq ≤ P → amp (listHom c par idx gs fs P) t w ≠ 0 →
      HerAt P (listHer gs fs) w → HerAt P (listHer gs fs) t →
      ∃ tr, Run gs fs (cfgN nq w) tr ∧ finalOf (cfgN nq w) tr = cfgN nq t := by
  induction h with
  | nil =>
    intro idx P w t _ hne _ _
    simp only [listHom] at hne
    rw [amp_id] at hne
    have : w = t := by
      by_contra hc
      rw [if_neg hc] at hne
      exact hne rfl
    subst this
    exact ⟨[], Run.nil _, rfl⟩
  | @cons g f gs' fs' hg hrest ih =>
    intro idx P w t hP hne hw ht
    simp only [listHom, listHer, List.headD_cons, List.tail_cons] at hne hw ht
    obtain ⟨w', h1, h2⟩ := exists_of_amp_comp_ne _ _ _ _ hne
    obtain ⟨hw1, hw2⟩ := herAt_append.mp hw
    obtain ⟨ht1, ht2⟩ := herAt_append.mp ht
    -- heralds of `g` in `w'` are those of `t`, the later heralds those of `w`
    have hw'1 : HerAt P (instrHer g f) w' := by
      apply herAt_congr _ ht1
      intro z hz1 hz2
      exact ((listHom_touch hrest (idx + 1) (P + (instrHer g f).length) z (by omega) (by omega)
        (by omega)).apply_eq h2).symm
    have hw'2 : HerAt (P + (instrHer g f).length) (listHer gs' fs') w' := by
      apply herAt_congr _ hw2
      intro z hz1 hz2
      exact (hg.touch idx P z hP (by omega) (by omega)).apply_eq h1
    have hstep := hg.step idx P w' w hP h1 hw'1 hw1
    obtain ⟨tr, hrun, hfin⟩ := ih (idx + 1) (P + (instrHer g f).length) w' t (by omega) h2 hw'2 ht2
    exact ⟨cfgN nq w' :: tr, Run.cons g f gs' fs' _ _ tr hstep hrun, by rw [finalOf_cons]; exact hfin⟩

theorem main_ind {c : GC R} {par : ℕ → R × R} {nq : ℕ} {gs : List Instr} {fs : List Bool}
    (h : List.Forall₂ (Iface c par nq) gs fs) (rules : List ℕ) (out : List ℕ)
    (hout : out.length = 2 * nq) :
    ∀ idx P (ib : List Bool) (η : ℕ →₀ ℕ), 2 * nq ≤ P → Safe nq gs fs rules → ib.length = nq →
      (∀ z ∈ η.support, 2 * nq ≤ z) → HerAt P (listHer gs fs) η →
      (∀ q ∈ rules, cfgN nq (mk out η) q = 1) →
      amp (listHom c par idx gs fs P) (mk out η) (mk (dualRail ib) η) =
        if isDualRail out = true then
          listK c gs fs * idealRun c par idx gs (delta ib) (unDualRail out)
        else 0 := by
  induction h with
  | nil =>
    intro idx P ib η _ _ hib hη _ _
    simp only [listHom, listK, idealRun, one_mul]
    rw [amp_id]
    have hl : (dualRail ib).length = out.length := by rw [dualRail_length, hib, hout]
    by_cases hdr : isDualRail out = true
    · rw [if_pos hdr]
      unfold delta
      by_cases he : unDualRail out = ib
      · rw [if_pos he, if_pos]
        rw [← he, dualRail_unDualRail out hdr]
      · rw [if_neg he, if_neg]
        intro hc
        apply he
        rw [← mk_injective_left hl hc, unDualRail_dualRail]
    · rw [if_neg hdr, if_neg]
      intro hc
      apply hdr
      rw [← mk_injective_left hl hc]
      exact isDualRail_dualRail ib
  | @cons g f gs' fs' hg hrest ih =>
    intro idx P ib η hP hsafe hib hη hher hrules
    simp only [listHom, listHer, listK, idealRun, List.headD_cons, List.tail_cons] at hher ⊢
    obtain ⟨hη1, hη2⟩ := herAt_append.mp hher
    have hsafe' : Safe nq gs' fs' rules := hsafe.tail hg.idle
    have hlib : (dualRail ib).length = 2 * nq := by rw [dualRail_length, hib]
    -- the intermediate states that matter: dual-rail states with the same herald part
    have hA : ∀ w, w ∉ (bitStrings nq).toFinset.image (fun mid => mk (dualRail mid) η) →
        amp (instrHom c par idx g f P) w (mk (dualRail ib) η) *
          amp (listHom c par (idx + 1) gs' fs' (P + (instrHer g f).length)) (mk out η) w = 0 := by
      intro w hw
      by_contra hne
      have h1 := left_ne_zero_of_mul hne
      have h2 := right_ne_zero_of_mul hne
      apply hw
      have hwge : ∀ z, 2 * nq ≤ z → w z = η z := by
        intro z hz
        by_cases hzr : P ≤ z ∧ z < P + (instrHer g f).length
        · have := (listHom_touch hrest (idx + 1) (P + (instrHer g f).length) z (by omega) hz
            (by omega)).apply_eq h2
          rw [← this, mk_apply_ge (by omega)]
        · have := (hg.touch idx P z hP hz hzr).apply_eq h1
          rw [this, mk_apply_ge (by omega)]
      have hwmk := eq_mk_of_agree (2 * nq) w η hη hwge
      have hw1 : HerAt P (instrHer g f) w :=
        herAt_congr (fun z hz1 _ => hwge z (by omega)) hη1
      have hw2 : HerAt (P + (instrHer g f).length) (listHer gs' fs') w :=
        herAt_congr (fun z hz1 _ => hwge z (by omega)) hη2
      have hstep := hg.step idx P w (mk (dualRail ib) η) hP h1 hw1
        ((herAt_mk (by omega)).mpr hη1)
      obtain ⟨tr, hrun, hfin⟩ := listHom_path hrest (idx + 1) (P + (instrHer g f).length) w
        (mk out η) (by omega) h2 hw2 ((herAt_mk (by omega)).mpr hη2)
      have hall := hsafe (cfgN nq (mk (dualRail ib) η)) (cfgN nq w :: tr)
        (cfgN_mk_dualRail nq ib hib η hη) (Run.cons g f gs' fs' _ _ tr hstep hrun) (by
          intro q hq
          rw [finalOf_cons, hfin]
          exact hrules q hq) (cfgN nq w) List.mem_cons_self
      -- so the user part of `w` is a dual-rail state
      have hul : ((List.range (2 * nq)).map w).length = 2 * nq := by simp
      have hu : ∀ z, z < 2 * nq → ((List.range (2 * nq)).map w).getD z 0 = w z := by
        intro z hz
        rw [List.getD_eq_getElem _ _ (by simpa using hz)]
        simp
      have hdr : isDualRail ((List.range (2 * nq)).map w) = true := by
        apply (isDualRail_iff _ nq hul).mpr
        intro q hq
        rw [hu _ (by omega), hu _ (by omega)]
        exact (cfgN_lt w hq).symm.trans (hall q hq)
      rw [Finset.mem_image]
      refine ⟨unDualRail ((List.range (2 * nq)).map w), ?_, ?_⟩
      · exact mem_bitsF.mpr (unDualRail_length _ nq hul)
      · rw [dualRail_unDualRail _ hdr]
        exact hwmk.symm
    rw [amp_comp_subset _ _ _ _ _ hA, Finset.sum_image (by
      intro m1 hm1 m2 hm2 he
      have e1 := mem_bitsF.mp hm1
      have e2 := mem_bitsF.mp hm2
      exact dualRail_injective (mk_injective_left (by
        rw [dualRail_length, dualRail_length, e1, e2]) he))]
    have hterm : ∀ mid ∈ (bitStrings nq).toFinset,
        amp (instrHom c par idx g f P) (mk (dualRail mid) η) (mk (dualRail ib) η) *
          amp (listHom c par (idx + 1) gs' fs' (P + (instrHer g f).length)) (mk out η)
            (mk (dualRail mid) η)
        = (instrK c g f * applyInstr c par idx g (delta ib) mid) *
            (if isDualRail out = true then
              listK c gs' fs' * idealRun c par (idx + 1) gs' (delta mid) (unDualRail out)
            else 0) := by
      intro mid hmid
      rw [hg.table idx P ib mid η hP hib (mem_bitsF.mp hmid) hη hη1,
        ih (idx + 1) (P + (instrHer g f).length) mid η (by omega) hsafe' (mem_bitsF.mp hmid) hη hη2
          hrules]
    rw [Finset.sum_congr rfl hterm]
    by_cases hdr : isDualRail out = true
    · simp only [if_pos hdr]
      rw [idealRun_linear c par nq gs' (idx + 1) (applyInstr c par idx g (delta ib)) (unDualRail out)
        (unDualRail_length out nq hout), Finset.mul_sum]
      apply Finset.sum_congr rfl
      intro mid _
      ring
    · simp only [if_neg hdr, mul_zero, Finset.sum_const_zero]

end LW.C12F
