/-
  LW.Proofs.C13Compile — the image of a circuit under a homomorphism `φ` of the scalars is the
  model's `Circ.map φ` (LW/Model/PCircuit.lean): `A.map φ` is an image of `A` in the sense of
  `MRel φ` (LW/Proofs/C13Lift.lean), `U_full` commutes with `φ` (`compile_rel`), and with it the
  amplitudes of every circuit (`map_gateAmp`).
-/
import LW.Proofs.ScalarMap
import LW.Proofs.C13Lift

namespace LW.Gates

open LW.QF

variable {T R : Type} [Add T] [Mul T] [Neg T] [Zero T] [One T] [CommRing R] {φ : T → R}

omit [Add T] [Mul T] [Neg T] [One T] in
theorem MRel.map (h0 : φ 0 = 0) (A : M T) : MRel φ A (A.map φ) :=
  ⟨rfl, fun r k => (M.get_map φ h0 A r k).symm⟩

theorem _root_.LW.M.IsOfFn.map {K K' : Type} [Zero K] [Zero K'] (f : K → K') {u : M K}
    (hu : u.IsOfFn) : (u.map f).IsOfFn := by
  have h : u.map f = M.ofFn u.n fun r c => f (u.get r c) := by rw [← M.ofFn_map, ← hu]
  rw [h]
  exact M.isOfFn_ofFn _ _

theorem MRel.pad (hφ : THom φ) {A : M T} {B : M R} (h : MRel φ A B) (k : Nat) :
    MRel φ (A.pad k) (B.pad k) := by
  unfold M.pad
  rw [h.1]
  apply MRel.ofFn hφ
  intro r c _ _
  simp only [apply_ite φ, h.2, hφ.map_one, hφ.map_zero]

theorem MRel.embed2 (hφ : THom φ) (n m1 m2 : Nat) (a b c d : T) :
    MRel φ (embed2 n m1 m2 a b c d) (embed2 n m1 m2 (φ a) (φ b) (φ c) (φ d)) := by
  apply MRel.ofFn hφ
  intro r k _ _
  simp only [apply_ite φ, hφ.map_one, hφ.map_zero]

theorem MRel.embed1 (hφ : THom φ) (n m : Nat) (p : T) :
    MRel φ (embed1 n m p) (embed1 n m (φ p)) := by
  apply MRel.ofFn hφ
  intro r k _ _
  simp only [apply_ite φ, hφ.map_one, hφ.map_zero]

theorem MRel.primMat (hφ : THom φ) (i : T) (n : Nat) (p : Prim T) :
    MRel φ (p.mat i n) ((p.map φ).mat (φ i) n) := by
  cases p with
  | bs m1 m2 c s cv =>
    cases cv
    · show MRel φ _ (LW.embed2 n m1 m2 (φ c) (φ i * φ s) (φ i * φ s) (φ c))
      rw [← hφ.map_mul]
      exact MRel.embed2 hφ _ _ _ _ _ _ _
    · show MRel φ _ (LW.embed2 n m1 m2 (φ c) (φ s) (φ s) (-φ c))
      rw [← hφ.map_neg]
      exact MRel.embed2 hφ _ _ _ _ _ _ _
  | ps m p => exact MRel.embed1 hφ _ _ _
  | loss m a b =>
    show MRel φ _ (LW.embed2 n m (n - 1) (φ a) (φ b) (-φ b) (φ a))
    rw [← hφ.map_neg]
    exact MRel.embed2 hφ _ _ _ _ _ _ _
  | barrier ms => exact MRel.one hφ n
  | swaps σ => exact MRel.permMat hφ σ n
  | unitary m u => exact MRel.embedBlock hφ n m (MRel.map hφ.map_zero u)

theorem compilePrim_rel (hφ : THom φ) (i : T) {U : M T} {V : M R} (h : MRel φ U V) (p : Prim T) :
    MRel φ (compilePrim i U p) (compilePrim (φ i) V (p.map φ)) := by
  have hmat : ∀ q : Prim T, MRel φ ((q.mat i U.n).mul U) (((q.map φ).mat (φ i) V.n).mul V) :=
    fun q => h.1 ▸ MRel.mul hφ (MRel.primMat hφ i _ q) h
  cases p with
  | barrier ms => exact h
  | loss m a b =>
    have hp := h.pad hφ 1
    show MRel φ (((Prim.loss m a b).mat i (U.pad 1).n).mul (U.pad 1))
      ((((Prim.loss m a b).map φ).mat (φ i) (V.pad 1).n).mul (V.pad 1))
    rw [hp.1]
    exact MRel.mul hφ (MRel.primMat hφ i _ _) hp
  | unitary m u => exact hmat _
  | bs m1 m2 c s cv => exact hmat _
  | ps m p => exact hmat _
  | swaps σ => exact hmat _

theorem compileComp_rel (hφ : THom φ) (i : T) {U : M T} {V : M R} (h : MRel φ U V) (x : Comp T) :
    MRel φ (compileComp i U x) (compileComp (φ i) V (x.map φ)) := by
  cases x with
  | prim p => exact compilePrim_rel hφ i h p
  | group ps _ _ _ _ =>
    show MRel φ (ps.foldl (compilePrim i) U) ((ps.map (Prim.map φ)).foldl (compilePrim (φ i)) V)
    rw [List.foldl_map]
    exact List.foldl_rel (r := MRel φ) h fun p _ _ _ hc => compilePrim_rel hφ i hc p

/-- The one relation `MRel φ` between the matrix compiled so far and its image is carried through
`compile` component by component: the matrix of each component is related to that of its image
(`MRel.primMat`), and products keep the relation. -/
theorem compile_rel (hφ : THom φ) (i : T) (n : Nat) (spec : List (Comp T)) :
    MRel φ (compile i n spec) (compile (φ i) n (spec.map (Comp.map φ))) := by
  unfold compile
  rw [List.foldl_map]
  exact List.foldl_rel (r := MRel φ) (MRel.one hφ n) fun x _ _ _ hc => compileComp_rel hφ i hc x

theorem map_gateAmp (hφ : THom φ) (i : T) (c : Circ T) (ins outs : List Nat) :
    φ (gateAmp i c ins outs) = gateAmp (φ i) (c.map φ) ins outs :=
  map_permAmp hφ _ _ (compile_rel hφ i c.n c.spec).2 _ _ _ _ _

end LW.Gates
