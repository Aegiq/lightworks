/-
  LW.Proofs.C10Rewrite — the two circuit rewrites (`compress_mode_swaps`,
  `remove_non_adjacent_bs`) are natural in the scalar type as well: they look at modes only, so a
  circuit stays linked to its parameters across them (finding F22 was the code deep-copying the
  Parameter objects at this point).
-/
import LW.Proofs.C10Map
import LW.Proofs.RewriteShape

namespace LW

variable {K K' : Type}

theorem Comp.blocked_map (f : K → K') (c : Comp K) : (c.map f).blocked = c.blocked := by
  cases c with
  | prim p => cases p <;> rfl
  | group cs m1 m2 hin hout => rfl

theorem Comp.asSwaps_map (f : K → K') (c : Comp K) : (c.map f).asSwaps = c.asSwaps := by
  cases c with
  | prim p => cases p <;> rfl
  | group cs m1 m2 hin hout => rfl

theorem compressScan_map (f : K → K') (l : List (Nat × Comp K)) (σ : Dict) (b s : List Nat) :
    compressScan (l.map fun p => (p.1, p.2.map f)) σ b s = compressScan l σ b s := by
  induction l generalizing σ b s with
  | nil => rfl
  | cons x xs ih =>
    obtain ⟨k, c⟩ := x
    simp only [List.map_cons, compressScan_cons, Comp.asSwaps_map, Comp.blocked_map, ih]

theorem compressGo_map (f : K → K') (l : List (Nat × Comp K)) (s : List Nat) :
    compressGo (l.map fun p => (p.1, p.2.map f)) s = (compressGo l s).map (Comp.map f) := by
  induction l generalizing s with
  | nil => rfl
  | cons x xs ih =>
    obtain ⟨i, c⟩ := x
    simp only [List.map_cons, compressGo_cons, Comp.asSwaps_map, compressScan_map, ih]
    split
    · rfl
    · cases c.asSwaps <;> rfl

theorem compressSwaps_map (f : K → K') (spec : List (Comp K)) :
    compressSwaps (spec.map (Comp.map f)) = (compressSwaps spec).map (Comp.map f) := by
  unfold compressSwaps
  rw [List.length_map, ← compressGo_map]
  congr 1
  rw [List.zip_map_right]
  rfl

theorem Prim.convertNonAdj_map (f : K → K') (p : Prim K) :
    (p.map f).convertNonAdj = p.convertNonAdj.map (Prim.map f) := by
  cases p with
  | bs m1 m2 c s cv =>
    simp only [Prim.map, Prim.convertNonAdj]
    split
    · rfl
    · split <;> rfl
  | _ => rfl

theorem convertNonAdj_map (f : K → K') (spec : List (Comp K)) :
    convertNonAdj (spec.map (Comp.map f)) = (convertNonAdj spec).map (Comp.map f) := by
  unfold convertNonAdj
  induction spec with
  | nil => rfl
  | cons c cs ih =>
    simp only [List.map_cons, List.flatMap_cons, List.map_append, ih]
    congr 1
    cases c with
    | prim p =>
      simp only [Comp.map, Prim.convertNonAdj_map, List.map_map]
      rfl
    | group ps m1 m2 hin hout =>
      simp only [Comp.map, List.map_cons, List.map_nil]
      congr 2
      rw [List.flatMap_map, List.map_flatMap]
      congr 1
      funext p
      exact Prim.convertNonAdj_map f p

namespace Circ

theorem map_compress (f : K → K') (c : Circ K) : (c.map f).compress = c.compress.map f := by
  simp only [Circ.compress, Circ.map, compressSwaps_map]

theorem map_removeNonAdj (f : K → K') (c : Circ K) : (c.map f).removeNonAdj = c.removeNonAdj.map f := by
  simp only [Circ.removeNonAdj, Circ.map, convertNonAdj_map]

end Circ

end LW
