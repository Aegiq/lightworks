/-
  LW.Proofs.C16Proj — the projection steps of the MLE process tomography (LW.Model.MLEProj):
  `_tp_proj` lands in (and fixes) the trace-preserving matrices; what it removes pairs with a
  matrix only through that matrix's partial trace (`removed_tp_pairing`, from which
  LW/Properties/C16Proj derives that it is the orthogonal projection); `partialTrace` is linear, so
  trace preservation is an invariant of `pgdb`.
-/
import LW.Proofs.TomoMat
import LW.Model.MLEProj

open scoped BigOperators

namespace LW.Tomo

variable {K : Type} [Field K] [StarRing K] [DecidableEq K]

-- a theorem of this file whose statement mentions `K` takes all instance arguments of the `variable` line, used or
-- not, unless an `omit` stands in front of it: LW/Properties and the later modules cite them with these
set_option linter.unusedSectionVars false

@[simp] theorem msub_n (A B : M K) : (msub A B).n = A.n := rfl
@[simp] theorem partialTrace_n (d : Nat) (A : M K) : (partialTrace d A).n = d := rfl
@[simp] theorem tpProj_n (d : Nat) (A : M K) : (tpProj d A).n = A.n := rfl

omit [StarRing K] [DecidableEq K] in
theorem get_msub (A B : M K) {r k : Nat} (hr : r < A.n) (hk : k < A.n) :
    (msub A B).get r k = A.get r k - B.get r k := by
  unfold msub; rw [M.get_ofFn _ hr hk]

theorem toMatN_msub {K : Type} [Field K] (A B : M K) (n : Nat) (hA : A.n = n) :
    (msub A B).toMatN n = A.toMatN n - B.toMatN n := by
  subst hA
  ext r k
  simp only [M.toMatN, Matrix.sub_apply]
  exact get_msub _ _ r.isLt k.isLt

theorem natK_eq (d : Nat) : (natK d : K) = (d : K) := by
  induction d with
  | zero => simp [natK]
  | succ n ih => simp [natK, ih]

theorem get_partialTrace (d : Nat) (A : M K) {a c : Nat} (ha : a < d) (hc : c < d) :
    (partialTrace d A).get a c = ∑ b ∈ Finset.range d, A.get (a * d + b) (c * d + b) := by
  unfold partialTrace
  rw [M.get_ofFn _ ha hc, M.sumN_eq_sum]

theorem get_tpProj (d : Nat) (A : M K) (hA : A.n = d * d) {a b c e : Nat}
    (ha : a < d) (hb : b < d) (hc : c < d) (he : e < d) :
    (tpProj d A).get (a * d + b) (c * d + e)
      = A.get (a * d + b) (c * d + e)
        - (d : K)⁻¹ * ((partialTrace d A).get a c - (if a = c then 1 else 0))
          * (if b = e then 1 else 0) := by
  have h1 : a * d + b < A.n := hA ▸ idx_lt ha hb
  have h2 : c * d + e < A.n := hA ▸ idx_lt hc he
  unfold tpProj
  simp only
  rw [get_msub _ _ h1 h2]
  congr 1
  have hn : (scale (natK d : K)⁻¹ (msub (partialTrace d A) (M.one d))).n = d := rfl
  rw [get_kron_gen _ _ (by rw [hn, M.one_n]; exact idx_lt ha hb)
    (by rw [hn, M.one_n]; exact idx_lt hc he)]
  simp only [M.one_n]
  rw [idx_div hb, idx_div he, Nat.mul_add_mod_of_lt hb, Nat.mul_add_mod_of_lt he,
    get_scale _ _ (by simpa using ha) (by simpa using hc),
    get_msub _ _ (by simpa using ha) (by simpa using hc), M.get_one ha hc, M.get_one hb he,
    natK_eq]

theorem tpProj_tracePreserving (d : Nat) (A : M K) (hA : A.n = d * d) (hd : (d : K) ≠ 0)
    {a c : Nat} (ha : a < d) (hc : c < d) :
    (partialTrace d (tpProj d A)).get a c = if a = c then 1 else 0 := by
  rw [get_partialTrace _ _ ha hc]
  have : ∀ b ∈ Finset.range d, (tpProj d A).get (a * d + b) (c * d + b)
      = A.get (a * d + b) (c * d + b)
        - (d : K)⁻¹ * ((partialTrace d A).get a c - (if a = c then 1 else 0)) := by
    intro b hb
    have hb' := Finset.mem_range.mp hb
    rw [get_tpProj d A hA ha hb' hc hb', if_pos rfl, mul_one]
  rw [Finset.sum_congr rfl this, Finset.sum_sub_distrib, Finset.sum_const, Finset.card_range,
    ← get_partialTrace _ _ ha hc, nsmul_eq_mul, ← mul_assoc, mul_inv_cancel₀ hd, one_mul]
  ring

theorem tpProj_fixes_tp (d : Nat) (A : M K) (hA : A.n = d * d)
    (hTP : ∀ a c, a < d → c < d → (partialTrace d A).get a c = if a = c then 1 else 0)
    {a b c e : Nat} (ha : a < d) (hb : b < d) (hc : c < d) (he : e < d) :
    (tpProj d A).get (a * d + b) (c * d + e) = A.get (a * d + b) (c * d + e) := by
  rw [get_tpProj d A hA ha hb hc he, hTP a c ha hc]
  simp

/-- the shape of a `pgdb` step: the TP defect of an iterate is the same affine combination (convex
for a step size in `[0,1]`) of the defects of `choi` and of the projected point. -/
theorem partialTrace_affine (d : Nat) (A B : M K) (alpha : K) (hA : A.n = d * d) (hB : B.n = d * d)
    {a c : Nat} (ha : a < d) (hc : c < d) :
    (partialTrace d (madd A (scale alpha (msub B A)))).get a c
      = (partialTrace d A).get a c
        + alpha * ((partialTrace d B).get a c - (partialTrace d A).get a c) := by
  have h1 : ∀ {a b : Nat}, a < d → b < d → a * d + b < A.n := fun ha hb => hA ▸ idx_lt ha hb
  have h2 : ∀ {a b : Nat}, a < d → b < d → a * d + b < B.n := fun ha hb => hB ▸ idx_lt ha hb
  rw [get_partialTrace _ _ ha hc, get_partialTrace _ _ ha hc, get_partialTrace _ _ ha hc,
    ← Finset.sum_sub_distrib, Finset.mul_sum, ← Finset.sum_add_distrib]
  refine Finset.sum_congr rfl fun b hb => ?_
  have hb' := Finset.mem_range.mp hb
  rw [get_madd _ _ (h1 ha hb') (h1 hc hb'),
    get_scale _ _ (by simpa using h2 ha hb') (by simpa using h2 hc hb'),
    get_msub _ _ (h2 ha hb') (h2 hc hb')]

theorem pgdbStep_n (proj grad : M K → M K) (muInv alpha : K) (choi : M K) :
    (pgdbStep proj grad muInv alpha choi).n = choi.n := rfl

theorem pgdbRun_induction (P : M K → Prop) (proj grad : M K → M K) (muInv : K) (alphas : List K)
    (hstep : ∀ X, P X → ∀ a ∈ alphas, P (pgdbStep proj grad muInv a X)) (choi : M K)
    (h0 : P choi) : P (pgdbRun proj grad muInv alphas choi) := by
  induction alphas generalizing choi with
  | nil => exact h0
  | cons al as ih =>
    exact ih (fun X hX a ha => hstep X hX a (List.mem_cons_of_mem _ ha)) _
      (hstep choi h0 al List.mem_cons_self)

theorem pgdbRun_tracePreserving (d : Nat) (proj grad : M K → M K) (muInv : K)
    (hproj : ∀ X, X.n = d * d → (proj X).n = d * d ∧
      ∀ a c, a < d → c < d → (partialTrace d (proj X)).get a c = if a = c then 1 else 0)
    (alphas : List K) (choi : M K) (hn : choi.n = d * d)
    (hTP : ∀ a c, a < d → c < d → (partialTrace d choi).get a c = if a = c then 1 else 0) :
    (pgdbRun proj grad muInv alphas choi).n = d * d ∧
      ∀ a c, a < d → c < d →
        (partialTrace d (pgdbRun proj grad muInv alphas choi)).get a c = if a = c then 1 else 0 := by
  refine pgdbRun_induction (fun X => X.n = d * d ∧ ∀ a c, a < d → c < d →
    (partialTrace d X).get a c = if a = c then 1 else 0) proj grad muInv alphas ?_ choi ⟨hn, hTP⟩
  rintro X ⟨hXn, hXTP⟩ al -
  refine ⟨hXn, fun a c ha hc => ?_⟩
  obtain ⟨hpn, hpt⟩ := hproj (msub X (scale muInv (grad X))) hXn
  unfold pgdbStep
  rw [partialTrace_affine d X _ al hXn hpn ha hc, hpt a c ha hc, hXTP a c ha hc]
  ring

theorem pgdbInit_tracePreserving (d : Nat) (hd : (d : K) ≠ 0) {a c : Nat} (ha : a < d) (hc : c < d) :
    (partialTrace d (pgdbInit d : M K)).get a c = if a = c then 1 else 0 := by
  rw [get_partialTrace _ _ ha hc]
  have : ∀ b ∈ Finset.range d, (pgdbInit d : M K).get (a * d + b) (c * d + b)
      = (d : K)⁻¹ * (if a = c then 1 else 0) := by
    intro b hb
    have hb' := Finset.mem_range.mp hb
    unfold pgdbInit
    rw [get_scale _ _ (by simpa using idx_lt ha hb') (by simpa using idx_lt hc hb'),
      M.get_one (idx_lt ha hb') (idx_lt hc hb'), natK_eq]
    by_cases h : a = c
    · subst h; simp
    · have : ¬ (a * d + b = c * d + b) := by
        intro h'
        have := Nat.eq_of_mul_eq_mul_right (by omega : 0 < d) (Nat.add_right_cancel h')
        exact h this
      rw [if_neg h, if_neg this, mul_zero]
  rw [Finset.sum_congr rfl this, Finset.sum_const, Finset.card_range, nsmul_eq_mul, ← mul_assoc,
    mul_inv_cancel₀ hd, one_mul]

theorem get_removed_tp (d : Nat) (A : M K) (hA : A.n = d * d) {a b c e : Nat}
    (ha : a < d) (hb : b < d) (hc : c < d) (he : e < d) :
    (msub A (tpProj d A)).get (a * d + b) (c * d + e)
      = (d : K)⁻¹ * ((partialTrace d A).get a c - (if a = c then 1 else 0)) * (if b = e then 1 else 0) := by
  have h1 : a * d + b < A.n := hA ▸ idx_lt ha hb
  have h2 : c * d + e < A.n := hA ▸ idx_lt hc he
  rw [get_msub _ _ h1 h2, get_tpProj d A hA ha hb hc he]
  ring

/-- what `_tp_proj` removes, `kron(X, I_d)`, pairs with a matrix `D` only through the partial trace
of `D` (`X ↦ kron(X, I_d)` is the adjoint of the partial trace); row block `a` of the pairing -/
theorem removed_tp_pairing (d : Nat) (A D : M K) (hA : A.n = d * d) {a : Nat} (ha : a < d) :
    ∑ b ∈ Finset.range d, ∑ k ∈ Finset.range (d * d),
        star ((msub A (tpProj d A)).get (a * d + b) k) * D.get (a * d + b) k
      = ∑ c ∈ Finset.range d,
          star ((d : K)⁻¹ * ((partialTrace d A).get a c - (if a = c then 1 else 0)))
            * ∑ b ∈ Finset.range d, D.get (a * d + b) (c * d + b) := by
  have step : ∀ b ∈ Finset.range d,
      ∑ k ∈ Finset.range (d * d),
          star ((msub A (tpProj d A)).get (a * d + b) k) * D.get (a * d + b) k
        = ∑ c ∈ Finset.range d,
            star ((d : K)⁻¹ * ((partialTrace d A).get a c - (if a = c then 1 else 0)))
              * D.get (a * d + b) (c * d + b) := by
    intro b hb
    have hb' := Finset.mem_range.mp hb
    rw [sum_range_mul]
    refine Finset.sum_congr rfl fun c hc => ?_
    have hc' := Finset.mem_range.mp hc
    have : ∀ e ∈ Finset.range d,
        star ((msub A (tpProj d A)).get (a * d + b) (c * d + e)) * D.get (a * d + b) (c * d + e)
          = if e = b then star ((d : K)⁻¹ * ((partialTrace d A).get a c - (if a = c then 1 else 0)))
              * D.get (a * d + b) (c * d + b) else 0 := by
      intro e he
      have he' := Finset.mem_range.mp he
      rw [get_removed_tp d A hA ha hb' hc' he']
      by_cases h : e = b
      · subst h; simp
      · have h' : ¬ b = e := fun x => h x.symm
        simp [h, h']
    rw [Finset.sum_congr rfl this, Finset.sum_ite_eq', if_pos hb]
  rw [Finset.sum_congr rfl step, Finset.sum_comm]
  exact Finset.sum_congr rfl fun c _ => (Finset.mul_sum _ _ _).symm

end LW.Tomo
