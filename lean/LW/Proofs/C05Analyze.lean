/-
  LW.Proofs.C05Analyze — what a successful `analyze` returns: its fields by their defining formulas
  (`analyze_ok_form`), distinct outputs, a non-negative table, and an error rate in `[0, 1]` (a mean
  of per-input folds, each in `[0, 1]` by `error_fold_in_unit_interval`).
-/
import LW.Model.Analysis
import LW.Proofs.C03
import LW.Proofs.C05ErrorFold
import LW.Proofs.C04Dist
import LW.Proofs.C05Agree

namespace LW.Proofs.C05
open LW

-- `analyze_error_rate_in_unit_interval` is stated under all of these instance arguments
set_option linter.unusedSectionVars false

variable {K Q : Type} [CommRing K] [Field Q] [LinearOrder Q] [IsStrictOrderedRing Q]

/-- the outputs reported by `analyze` for validated inputs `ins` -/
def anOuts (i : K) (c : Circ K) (rules : List Rule) (ins : List FState) : List FState :=
  analyzerOutputs rules c.inputModes
    (match ins with
      | s :: _ => photons s
      | [] => 0)
    ((c.Ufull i).n - c.n != 0)

theorem analyze_ok_form (i : K) (nsq : K → Q) (c : Circ K) (rules : List Rule)
    (inputs : List (List Occ)) (ex : Option (List (List FState))) (r : AnalysisResult Q)
    (h : analyze i nsq c rules inputs ex = .ok r) :
    ∃ ins : List FState,
      inputs.mapM (validateState c.inputModes) = .ok ins ∧
      r.outputs = anOuts i c rules ins ∧
      (ins.map fun s => addHeralds s c.inHer ++ List.replicate ((c.Ufull i).n - c.n) 0).mapM
        (fun fi => (r.outputs.map fun t => addHeralds t c.outHer).mapM fun fo =>
          analyzerProb nsq (c.Ufull i) ((c.Ufull i).n - c.n) fi fo) = .ok r.probs ∧
      r.performance = sumQ (r.probs.map sumQ) / ((ins.length : Nat) : Q) ∧
      r.errorRate = ex.map fun ex =>
        sumQ ((r.probs.zip ex).map fun (row, exps) =>
          exps.eraseDups.foldl (fun e o => match r.outputs.idxOf? o with
            | some k => e - row.getD k 0 / sumQ row
            | none => e) 1) /
          ((((r.probs.zip ex).map fun (row, exps) =>
          exps.eraseDups.foldl (fun e o => match r.outputs.idxOf? o with
            | some k => e - row.getD k 0 / sumQ row
            | none => e) 1).length : Nat) : Q) := by
  simp only [analyze] at h
  split at h
  · exact absurd h Except.throw_bind_ne_ok
  · simp only [Except.bind_ok, Except.guard_ok, Except.pure_ok] at h
    obtain ⟨-, ins, h1, -, probs, hprobs, rfl⟩ := h
    exact ⟨ins, h1, rfl, hprobs, by rw [List.length_map], rfl⟩

theorem analyze_performance_def (i : K) (nsq : K → Q) (c : Circ K) (rules : List Rule)
    (inputs : List (List Occ)) (ex : Option (List (List FState))) (r : AnalysisResult Q)
    (h : analyze i nsq c rules inputs ex = .ok r) :
    r.performance = sumQ (r.probs.map sumQ) / ((r.probs.length : Nat) : Q) ∧
    r.probs.length = inputs.length ∧
    (∀ row ∈ r.probs, row.length = r.outputs.length) ∧
    (r.errorRate.isSome ↔ ex.isSome) := by
  obtain ⟨ins, hins, _, hprobs, hperf, herr⟩ := analyze_ok_form i nsq c rules inputs ex r h
  have hl1 : ins.length = inputs.length := C03.mapM_ok_length hins
  have hl2 : r.probs.length = ins.length := by
    rw [C03.mapM_ok_length hprobs, List.length_map]
  refine ⟨by rw [hperf, hl2], by rw [hl2, hl1], ?_, ?_⟩
  · intro row hrow
    obtain ⟨fi, _, hfi⟩ := Except.mapM_ok_mem hprobs hrow
    rw [C03.mapM_ok_length hfi, List.length_map]
  · rw [herr, Option.isSome_map]

theorem analyze_error_rate_def (i : K) (nsq : K → Q) (c : Circ K) (rules : List Rule)
    (inputs : List (List Occ)) (ex : List (List FState)) (r : AnalysisResult Q)
    (h : analyze i nsq c rules inputs (some ex) = .ok r) :
    r.errorRate = some (sumQ ((r.probs.zip ex).map fun (row, exps) =>
        exps.eraseDups.foldl (fun e o => match r.outputs.idxOf? o with
          | some k => e - row.getD k 0 / sumQ row
          | none => e) 1) / (((r.probs.zip ex).length : Nat) : Q)) := by
  obtain ⟨ins, _, _, _, _, herr⟩ := analyze_ok_form i nsq c rules inputs (some ex) r h
  rw [herr, Option.map_some, List.length_map]

theorem analyzerOutputs_nodup (rules : List Rule) (im n : Nat) (lossy : Bool) :
    (analyzerOutputs rules im n lossy).Nodup := by
  unfold analyzerOutputs
  apply List.Nodup.filter
  cases lossy with
  | false => exact C03.fockBasis_nodup im n
  | true =>
    rw [if_pos rfl, List.nodup_flatMap]
    refine ⟨fun k _ => C03.fockBasis_nodup im k, ?_⟩
    refine List.Pairwise.imp ?_ (List.nodup_range (n := n + 1))
    intro v w hvw
    simp only [Function.onFun]
    rw [List.disjoint_left]
    intro s hv hw
    cases im with
    | zero => simp [fockBasis] at hv
    | succ im =>
      rw [C03.fockBasis_complete _ _ (by omega)] at hv hw
      exact hvw (hv.2.symm.trans hw.2)

theorem analyze_probs_nonneg (i : K) (nsq : K → Q) (hn : ∀ z, 0 ≤ nsq z) (c : Circ K)
    (rules : List Rule) (inputs : List (List Occ)) (ex : Option (List (List FState)))
    (r : AnalysisResult Q) (h : analyze i nsq c rules inputs ex = .ok r) :
    ∀ row ∈ r.probs, ∀ p ∈ row, 0 ≤ p := by
  obtain ⟨ins, _, _, hprobs, _, _⟩ := analyze_ok_form i nsq c rules inputs ex r h
  intro row hrow p hp
  obtain ⟨fi, _, hfi⟩ := Except.mapM_ok_mem hprobs hrow
  obtain ⟨fo, _, hfo⟩ := Except.mapM_ok_mem hfi hp
  exact analyzerProb_nonneg nsq hn _ _ _ _ p hfo

theorem analyze_outputs_nodup (i : K) (nsq : K → Q) (c : Circ K)
    (rules : List Rule) (inputs : List (List Occ)) (ex : Option (List (List FState)))
    (r : AnalysisResult Q) (h : analyze i nsq c rules inputs ex = .ok r) : r.outputs.Nodup := by
  obtain ⟨ins, _, houts, _, _, _⟩ := analyze_ok_form i nsq c rules inputs ex r h
  rw [houts]
  exact analyzerOutputs_nodup _ _ _ _

theorem analyze_inputs_ne_nil (i : K) (nsq : K → Q) (c : Circ K)
    (rules : List Rule) (inputs : List (List Occ)) (ex : Option (List (List FState)))
    (r : AnalysisResult Q) (h : analyze i nsq c rules inputs ex = .ok r) : inputs ≠ [] := by
  rintro rfl
  exact absurd h Except.throw_bind_ne_ok

theorem mean_in_unit_interval (l : List Q) (hl : l ≠ []) (h : ∀ x ∈ l, 0 ≤ x ∧ x ≤ 1) :
    0 ≤ sumQ l / ((l.length : Nat) : Q) ∧ sumQ l / ((l.length : Nat) : Q) ≤ 1 := by
  have hpos : (0 : Q) < ((l.length : Nat) : Q) := by
    rw [Nat.cast_pos]
    exact List.length_pos_iff.2 hl
  rw [sumQ_eq_sum]
  refine ⟨div_nonneg (List.sum_nonneg fun x hx => (h x hx).1) hpos.le, ?_⟩
  rw [div_le_one hpos]
  have := List.sum_le_card_nsmul l 1 (fun x hx => (h x hx).2)
  rwa [nsmul_eq_mul, mul_one] at this

theorem analyze_error_rate_in_unit_interval (i : K) (nsq : K → Q) (hn : ∀ z, 0 ≤ nsq z)
    (c : Circ K) (rules : List Rule) (inputs : List (List Occ)) (ex : List (List FState))
    (r : AnalysisResult Q) (h : analyze i nsq c rules inputs (some ex) = .ok r)
    (hpos : ∀ row ∈ r.probs, 0 < sumQ row) (hlen : ex.length = inputs.length) :
    ∃ e, r.errorRate = some e ∧ 0 ≤ e ∧ e ≤ 1 := by
  refine ⟨_, analyze_error_rate_def i nsq c rules inputs ex r h, ?_⟩
  have hnn := analyze_probs_nonneg i nsq hn c rules inputs (some ex) r h
  have hnd := analyze_outputs_nodup i nsq c rules inputs (some ex) r h
  have hne := analyze_inputs_ne_nil i nsq c rules inputs (some ex) r h
  have hpl := (analyze_performance_def i nsq c rules inputs (some ex) r h).2.1
  have hzl : (r.probs.zip ex).length = inputs.length := by
    rw [List.length_zip, hpl, hlen, Nat.min_self]
  have hzne : r.probs.zip ex ≠ [] := by
    intro h0
    rw [h0, List.length_nil] at hzl
    exact hne (List.length_eq_zero_iff.1 hzl.symm)
  have := mean_in_unit_interval
    ((r.probs.zip ex).map fun (row, exps) =>
      exps.eraseDups.foldl (fun e o => match r.outputs.idxOf? o with
        | some k => e - row.getD k 0 / sumQ row
        | none => e) 1)
    (by simpa using hzne)
    (by
      intro x hx
      obtain ⟨⟨row, exps⟩, hmem, rfl⟩ := List.mem_map.1 hx
      have hrow : row ∈ r.probs := (List.of_mem_zip hmem).1
      exact error_fold_in_unit_interval row r.outputs exps (hnn row hrow) (hpos row hrow) hnd)
  rw [List.length_map] at this
  exact this

/-! Non-vacuity: the lossy two-mode instance of LW/Proofs/C05Agree.lean (beam splitter
`[[3/5, 4/5], [4/5, -3/5]]`, then 64 % loss on mode 0), inputs `|1,1⟩` and `|2,0⟩`, the first with
an expected output listed twice -/

section NonVacuity

private def cexE : Circ Rat :=
  { n := 2, spec := [.prim (.bs 0 1 (3/5) (4/5) .h), .prim (.loss 0 (3/5) (4/5))] }
private def nsqE : Rat → Rat := fun z => z * z
private def insE : List (List Occ) := [[.int 1, .int 1], [.int 2, .int 0]]
private def exE : List (List FState) := [[[1, 1], [1, 1], [2, 0]], [[0, 2]]]

example : ∃ r, analyze 0 nsqE cexE [] insE (some exE) = .ok r ∧
    (∀ row ∈ r.probs, 0 < sumQ row) ∧ exE.length = insE.length ∧
    ∃ e, r.errorRate = some e ∧ 0 ≤ e ∧ e ≤ 1 := by
  have hdec : (match analyze 0 nsqE cexE [] insE (some exE) with
      | .ok r => decide (∀ row ∈ r.probs, 0 < sumQ row)
      | .error _ => false) = true := by decide +kernel
  cases hr : analyze 0 nsqE cexE [] insE (some exE) with
  | error e => rw [hr] at hdec; cases hdec
  | ok r =>
    have hpos : ∀ row ∈ r.probs, 0 < sumQ row := by
      rw [hr] at hdec
      exact of_decide_eq_true hdec
    exact ⟨r, rfl, hpos, rfl,
      analyze_error_rate_in_unit_interval 0 nsqE (fun z => mul_self_nonneg z) cexE [] insE exE r hr
        hpos rfl⟩

end NonVacuity

end LW.Proofs.C05
