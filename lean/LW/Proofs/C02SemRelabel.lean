/-
  LW.Proofs.C02SemRelabel — the relabellings used by `Circuit.add` seen as embeddings:
  `addEmptyMode k` (insert an identity mode at `k`), `shift s` (place into a window) and the iterated
  insertion `specIns ks` along `bumps ks`; what each does to the compiled matrix
  (`compile_addEmptyMode`, `foldl_shift`, `compile_specIns`).
-/
import LW.Proofs.C02SemRun
import LW.Proofs.C02Modes
import LW.Proofs.ReachModes
import LW.Proofs.AddModeUnitary

open scoped BigOperators

namespace LW.Proofs.C02Sem

open LW LW.Proofs.C01Aux LW.Proofs.C02

variable {K : Type}

section
variable [CommRing K]

/-- the part of `Prim.Wf` that constrains positions only: all that the matrix lemmas about
relabelling use (in particular no unitarity of blocks) -/
def PrimPos (n : Nat) : Prim K → Prop
  | .bs m1 m2 _ _ _ => m1 < n ∧ m2 < n
  | .ps m _ => m < n
  | .loss m _ _ => m < n
  | .barrier _ => True
  | .swaps σ => SwapsOk n σ
  | .unitary m u => m + u.n ≤ n

def SpecPos (n : Nat) (spec : List (Comp K)) : Prop := ∀ p ∈ flattenSpec spec, PrimPos n p

theorem PrimPos.of_wf [StarRing K] {n : Nat} {p : Prim K} (h : p.Wf n) : PrimPos n p := by
  cases p with
  | bs m1 m2 c s cv => exact ⟨h.1, h.2.1⟩
  | ps m q => exact h.1
  | loss m a b => exact h.1
  | barrier ms => trivial
  | swaps σ => exact h
  | unitary m u => exact h.1

theorem SpecPos.of_wf [StarRing K] {n : Nat} {spec : List (Comp K)} (h : SpecWf n spec) : SpecPos n spec :=
  fun p hp => PrimPos.of_wf (mem_flattenSpec_wf h p hp)

theorem PrimPos.addEmptyMode {n : Nat} {p : Prim K} (h : PrimPos n p) (t : Nat) :
    PrimPos (n + 1) (p.addEmptyMode t) := by
  cases p with
  | bs m1 m2 c s cv => exact ⟨bump_lt_succ h.1, bump_lt_succ h.2⟩
  | ps m q => exact bump_lt_succ h
  | loss m a b => exact bump_lt_succ h
  | barrier ms => trivial
  | swaps σ =>
    exact LW.Proofs.Reach.SwapsOk.relabel h (bump t) (fun a b => bump_inj)
      (fun k hk => bump_lt_succ hk)
  | unitary m u =>
    have h1 : m + u.n ≤ n := h
    simp only [Prim.addEmptyMode]
    split
    · rename_i hc
      have hb : bump t m = m := bump_of_lt (Nat.lt_of_le_of_lt (le_bump t m) hc.1)
      rw [hb]
      show m + (u.n + 1) ≤ n + 1
      omega
    · have := bump_le_succ t m
      show bump t m + u.n ≤ n + 1
      omega

/-- inserting a mode strictly inside a block: both sides embed `u`, through index maps that agree -/
theorem embedBlock_bump_inside (D : Nat) (m k : Nat) (u : M K) (h1 : m < k) (h2 : k < m + u.n)
    (hD : m + u.n ≤ D) :
    embedBlock (D + 1) m (addModeToUnitary u (k - m))
      = Optic.embedVia (D + 1) (embedBlock D m u) (unbump k) := by
  rw [embedBlock_eq_embedVia, embedBlock_eq_embedVia, addModeToUnitary_eq_embedVia, embedVia_n,
    embedVia_comp (pinj_blockInv m (u.n + 1) (D + 1) fun j hj => by omega),
    embedVia_comp (pinj_bump k D (by omega))]
  refine embedVia_eq_of_fwd
    ((pinj_bump (k - m) u.n (by omega)).comp (pinj_blockInv m (u.n + 1) (D + 1) fun j hj => by omega))
    ((pinj_blockInv m u.n D fun j hj => by omega).comp (pinj_bump k D (by omega))) (fun x _ => ?_) u
  show m + bump (k - m) x = bump k (m + x)
  unfold bump
  split
  · rw [if_pos (by omega), Nat.add_assoc]
  · rw [if_neg (by omega)]

theorem pinj_bump_add {n k : Nat} (hk : k ≤ n) (L : Nat) :
    PInj (n + L) (n + 1 + L) (bump k) (unbump k) := by
  have := pinj_bump k (n + L) (by omega)
  rwa [show n + L + 1 = n + 1 + L by omega] at this

theorem matRel_addEmptyMode (i : K) (n k : Nat) (hk : k ≤ n) (q : Prim K) (hq : PrimPos n q) :
    MatRel i (unbump k) n (n + 1) q (q.addEmptyMode k) := by
  have hP := pinj_bump_add hk
  cases q with
  | bs m1 m2 c s cv => exact matRel_bs hP hq.1 hq.2 c s cv
  | ps m ph => exact matRel_ps hP hq ph
  | loss m a b =>
    exact matRel_loss hP hq (fun L hL => by rw [bump_of_ge (by omega)]; omega) a b
  | barrier ms => exact matRel_barrier hP _ _
  | swaps σ => exact matRel_swaps_map hP hq (bump k) (fun a b => bump_inj) (fun _ _ => rfl)
  | unitary m u =>
    have h1 : m + u.n ≤ n := hq
    simp only [Prim.addEmptyMode]
    split
    · rename_i hc
      have hb : bump k m = m := bump_of_lt (Nat.lt_of_le_of_lt (le_bump k m) hc.1)
      rw [hb] at hc ⊢
      refine ⟨rfl, rfl, fun L _ => ?_⟩
      have := embedBlock_bump_inside (n + L) m k u hc.1 hc.2 (by omega)
      rwa [show n + L + 1 = n + 1 + L by omega] at this
    · rename_i hc
      refine matRel_unitary hP u h1 (fun j hj => ?_)
      unfold bump at hc ⊢
      split_ifs at hc ⊢ <;> omega

/-- `nS` modes placed into the window `[s, s + nS)` of a space with `T` indices before the loss
tail: mode `x < nS` goes to `s + x`, loss index `nS + j` to `T + j` -/
def winFwd (nS s T x : Nat) : Nat := if x < nS then s + x else T + (x - nS)

def winInv (nS s T r : Nat) : Option Nat :=
  if s ≤ r ∧ r < s + nS then some (r - s) else if T ≤ r then some (nS + (r - T)) else none

theorem pinj_win (nS s T L : Nat) (hT : s + nS ≤ T) :
    PInj (nS + L) (T + L) (winFwd nS s T) (winInv nS s T) :=
  ((pinj_blockInv s nS (T + L) fun j hj => by omega).append
    (pinj_blockInv T L (T + L) fun j hj => by omega) fun x hx y _ => by omega).congr_inv fun r hr => by
      simp only [winInv, blockInv, Option.map_if, ite_some_or, Option.none_or, hr, and_true]

theorem matRel_shift (i : K) (nS s T : Nat) (hT : s + nS ≤ T) (q : Prim K) (hq : PrimPos nS q) :
    MatRel i (winInv nS s T) nS T q (q.shift s) := by
  have hP := fun L => pinj_win nS s T L hT
  have hf : ∀ x, x < nS → winFwd nS s T x = x + s := fun x hx => by
    unfold winFwd; rw [if_pos hx, Nat.add_comm]
  cases q with
  | bs m1 m2 c s' cv =>
    have := matRel_bs (i := i) hP hq.1 hq.2 c s' cv
    rwa [hf m1 hq.1, hf m2 hq.2] at this
  | ps m ph =>
    have := matRel_ps (i := i) hP hq ph
    rwa [hf m hq] at this
  | loss m a b =>
    have := matRel_loss (i := i) hP hq
      (fun L hL => by unfold winFwd; rw [if_neg (by omega)]; omega) a b
    rwa [hf m hq] at this
  | barrier ms => exact matRel_barrier hP _ _
  | swaps σ => exact matRel_swaps_map hP hq (· + s) (fun a b e => Nat.add_right_cancel e) hf
  | unitary m u =>
    have h1 : m + u.n ≤ nS := hq
    have := matRel_unitary (i := i) hP (m' := m + s) u h1
      (fun j hj => by rw [hf _ (by omega)]; omega)
    exact this

theorem SpecPos.addEmptyMode {n : Nat} {spec : List (Comp K)} (h : SpecPos n spec) (t : Nat) :
    SpecPos (n + 1) (Circ.addEmptyModeSpec spec t) := by
  intro p hp
  rw [flattenSpec_addEmptyModeSpec] at hp
  obtain ⟨p0, hp0, rfl⟩ := List.mem_map.mp hp
  exact (h p0 hp0).addEmptyMode t

theorem isOfFn_compile (i : K) (n : Nat) (spec : List (Comp K)) : (compile i n spec).IsOfFn := by
  rw [compile_eq_foldl]
  exact isOfFn_foldl_compilePrim i _ _ (M.isOfFn_one n)

theorem compile_addEmptyMode (i : K) (n k : Nat) (hk : k ≤ n) (spec : List (Comp K))
    (hw : SpecPos n spec) :
    compile i (n + 1) (Circ.addEmptyModeSpec spec k)
      = Optic.embedVia (n + 1 + lossCount spec) (compile i n spec) (unbump k) := by
  have hP := pinj_bump_add (k := k) hk
  rw [compile_eq_foldl, compile_eq_foldl, flattenSpec_addEmptyModeSpec]
  have hrel : List.Forall₂ (MatRel i (unbump k) n (n + 1)) (flattenSpec spec)
      ((flattenSpec spec).map (Prim.addEmptyMode k)) :=
    List.forall₂_map_right_iff.mpr
      (List.forall₂_same.mpr fun q hq => matRel_addEmptyMode i n k hk q (hw q hq))
  rw [run_rel_one i hP _ _ hrel (M.one (n + 1)) rfl (M.isOfFn_one _), one_pad, lossN_flatten]
  exact M.mul_one' _ (isOfFn_embedVia _ _ _)

theorem foldl_shift (i : K) (nS s T : Nat) (hT : s + nS ≤ T) (spec : List (Comp K))
    (hw : SpecPos nS spec) (V : M K) (hV : V.n = T) (hVf : V.IsOfFn) :
    (flattenSpec (spec.map (Comp.shift s))).foldl (compilePrim i) V
      = (Optic.embedVia (T + lossCount spec) (compile i nS spec) (winInv nS s T)).mul
          (V.pad (lossCount spec)) := by
  have hP := fun L => pinj_win nS s T L hT
  rw [compile_eq_foldl, flattenSpec_shift]
  have hrel : List.Forall₂ (MatRel i (winInv nS s T) nS T) (flattenSpec spec)
      ((flattenSpec spec).map (Prim.shift s)) :=
    List.forall₂_map_right_iff.mpr
      (List.forall₂_same.mpr fun q hq => matRel_shift i nS s T hT q (hw q hq))
  rw [run_rel_one i hP _ _ hrel V hV hVf, lossN_flatten]

end

/-- the partial inverse of `bumps ks` (`pinj_bumps`) -/
def unbumps : List Nat → Nat → Option Nat
  | [], r => some r
  | k :: ks, r => (unbumps ks r).bind (unbump k)

/-- each insertion point of `ks` is at most the number of modes present when it is inserted, `n`
at the start -/
def InsOk : Nat → List Nat → Prop
  | _, [] => True
  | n, k :: ks => k ≤ n ∧ InsOk (n + 1) ks

theorem bumps_of_ge (n : Nat) (ks : List Nat) (h : InsOk n ks) (x : Nat) (hx : n ≤ x) :
    bumps ks x = x + ks.length := by
  induction ks generalizing n x with
  | nil => rfl
  | cons k ks ih =>
    have hb : bump k x = x + 1 := bump_of_ge (by have := h.1; omega)
    rw [bumps_cons, hb, ih (n + 1) h.2 (x + 1) (by omega)]
    simp only [List.length_cons]; omega

theorem pinj_bumps (n L : Nat) (ks : List Nat) (h : InsOk n ks) :
    PInj (n + L) (n + ks.length + L) (bumps ks) (unbumps ks) := by
  induction ks generalizing n with
  | nil =>
    refine ⟨fun x hx => by simpa using hx, fun x _ => rfl, ?_⟩
    intro r x hr e
    injection e with e; subst e
    exact ⟨by simpa using hr, rfl⟩
  | cons k ks ih =>
    have h1 : PInj (n + L) (n + L + 1) (bump k) (unbump k) := pinj_bump k (n + L) (by have := h.1; omega)
    have h2 := ih (n + 1) h.2
    have e1 : n + L + 1 = n + 1 + L := by omega
    have e2 : n + 1 + ks.length + L = n + (k :: ks).length + L := by simp only [List.length_cons]; omega
    rw [e1] at h1
    rw [e2] at h2
    exact h1.comp h2

section Spec
variable [CommRing K] [StarRing K]

-- `[StarRing K]` serves `SpecWf` and `Reach`, whose conditions on the parameters use `star`
-- (`SpecPos.of_wf`, `sem_add`).  A definition takes every instance argument of a type variable it
-- mentions, so `specIns` here, and `AddData`, `AddPos` written under the same `variable` line, have
-- a `[StarRing K]` argument that nothing in them uses; so has every statement about them, up to
-- `sem_add_pos`.  Over a plain commutative ring `starRingOfComm` supplies one.
set_option linter.unusedSectionVars false

def specIns (ks : List Nat) (spec : List (Comp K)) : List (Comp K) :=
  ks.foldl (fun s k => Circ.addEmptyModeSpec s k) spec

@[simp] theorem specIns_nil (spec : List (Comp K)) : specIns [] spec = spec := rfl
@[simp] theorem specIns_cons (k : Nat) (ks : List Nat) (spec : List (Comp K)) :
    specIns (k :: ks) spec = specIns ks (Circ.addEmptyModeSpec spec k) := rfl

theorem specIns_append (ks ls : List Nat) (spec : List (Comp K)) :
    specIns (ks ++ ls) spec = specIns ls (specIns ks spec) := by
  unfold specIns; rw [List.foldl_append]

theorem lossCount_addEmptyMode (spec : List (Comp K)) (k : Nat) :
    lossCount (Circ.addEmptyModeSpec spec k) = lossCount spec := by
  rw [← lossN_flatten, ← lossN_flatten, flattenSpec_addEmptyModeSpec]
  refine lossN_map _ (fun p => ?_) _
  cases p with
  | unitary m u => simp only [Prim.addEmptyMode]; split <;> rfl
  | _ => rfl

theorem lossCount_shift (spec : List (Comp K)) (s : Nat) :
    lossCount (spec.map (Comp.shift s)) = lossCount spec := by
  rw [← lossN_flatten, ← lossN_flatten, flattenSpec_shift]
  exact lossN_map _ (fun p => by cases p <;> rfl) _

theorem lossCount_specIns (ks : List Nat) (spec : List (Comp K)) :
    lossCount (specIns ks spec) = lossCount spec := by
  induction ks generalizing spec with
  | nil => rfl
  | cons k ks ih => rw [specIns_cons, ih, lossCount_addEmptyMode]

theorem specPos_specIns (n : Nat) (ks : List Nat) (spec : List (Comp K)) (hw : SpecPos n spec) :
    SpecPos (n + ks.length) (specIns ks spec) := by
  induction ks generalizing n spec with
  | nil => exact hw
  | cons k ks ih =>
    have := ih (n + 1) _ (hw.addEmptyMode k)
    rw [specIns_cons]
    simpa [Nat.add_assoc, Nat.add_comm 1] using this

theorem compile_specIns (i : K) (n : Nat) (ks : List Nat) (hok : InsOk n ks) (spec : List (Comp K))
    (hw : SpecPos n spec) :
    compile i (n + ks.length) (specIns ks spec)
      = Optic.embedVia (n + ks.length + lossCount spec) (compile i n spec) (unbumps ks) := by
  induction ks generalizing n spec with
  | nil =>
    simp only [specIns_nil, List.length_nil, Nat.add_zero]
    have hP : PInj (n + lossCount spec) (n + lossCount spec) (bumps []) (unbumps []) := by
      have := pinj_bumps n (lossCount spec) [] trivial
      simpa using this
    refine M.ext_get (isOfFn_compile i n spec) (isOfFn_embedVia _ _ _) (compile_n i n spec) ?_
    intro r c hr hc
    rw [compile_n] at hr hc
    exact (get_embedVia_fwd hP _ hr hc).symm
  | cons k ks ih =>
    have hw1 := hw.addEmptyMode k
    have h1 := ih (n + 1) hok.2 _ hw1
    rw [compile_addEmptyMode i n k hok.1 spec hw, lossCount_addEmptyMode] at h1
    have e1 : n + (k :: ks).length = n + 1 + ks.length := by simp only [List.length_cons]; omega
    rw [specIns_cons, e1, h1]
    have hP2 := pinj_bumps (n + 1) (lossCount spec) ks hok.2
    exact embedVia_comp hP2 _

end Spec

end LW.Proofs.C02Sem
