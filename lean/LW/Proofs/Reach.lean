/-
  LW.Proofs.Reach — every circuit constructible through the API satisfies the hypotheses of the
  C01 / C02 / C09 theorems: `Comp.Wf n ∧ Comp.GroupOk` is an `ApiStable` (`apiStable_wf`; its fields
  are the lemmas on the synthesised swap of `add` and on the leaves that replace a non-adjacent beam
  splitter), and `Reach.inv` carries any `ApiInv` along the inductive `Reach`.
-/
import Mathlib.Data.List.Perm.Basic
import LW.Proofs.C02Swaps
import LW.Proofs.ReachDef
import LW.Proofs.ReachModes
import LW.Proofs.ApiInv
import LW.Proofs.C01Api
import LW.Proofs.C01Lead

namespace LW.Proofs.Reach

section
open LW LW.Proofs.C02 LW.Proofs.C02Sem

theorem synthSwaps_swapsOk (n : Nat) (prov : Dict) (hnd : prov.keys.Nodup) (hvnd : prov.vals.Nodup)
    (hk : ∀ x ∈ prov.keys, x < n) (hv : ∀ x ∈ prov.vals, x < n) :
    SwapsOk n (Circ.synthSwaps n prov) := by
  obtain ⟨h1, h2, h3, h4⟩ := synthSwaps_char n prov hnd hk
  refine swapsOk_of_map_range h1 h2 ?_
  have hlen : (freeOf n prov.keys).length = (freeOf n prov.vals).length := by
    rw [length_freeOf n _ hnd hk, length_freeOf n _ hvnd hv, Dict.keys, Dict.vals, List.length_map,
      List.length_map]
  rw [hlen, List.take_length] at h4
  refine ((perm_append_freeOf n prov.keys hnd hk).symm.map _).trans ?_
  rw [List.map_append]
  show (prov.keys.map (Dict.fn _) ++ (freeOf n prov.keys).map (Dict.fn _)).Perm _
  rw [h3, h4]
  exact perm_append_freeOf n prov.vals hvnd hv

end

section
-- `synthSwaps_zipHer_swapsOk` and `SpecWf.unpack` speak of a `Circ K` without using the ring; callers pass its instances
set_option linter.unusedSectionVars false

open LW LW.Proofs.C02

variable {K : Type} [CommRing K] [StarRing K]

theorem SpecWf.unpack {n : Nat} {spec : List (Comp K)} (h : SpecWf n spec) :
    SpecWf n (unpackSpec spec) := by
  intro c hc
  obtain ⟨p, rfl, c0, hc0, hp⟩ := mem_unpackSpec hc
  exact (Comp.wf_iff_toPrims c0).mp (h c0 hc0) p hp

theorem synthSwaps_zipHer_swapsOk (c : Circ K) (hwf : c.WF) :
    SwapsOk c.n (Circ.synthSwaps c.n (c.outHer.keys.zip c.inHer.keys)) := by
  obtain ⟨hk, hv⟩ := zipHer c hwf
  apply synthSwaps_swapsOk
  · rw [hk]; exact hwf.outNodup
  · rw [hv]; exact hwf.inNodup
  · rw [hk]; exact hwf.outLt
  · rw [hv]; exact hwf.inLt

theorem addStable_wf : AddStable (fun n (c : Comp K) => c.Wf n ∧ c.GroupOk) where
  mono h hN := ⟨Comp.Wf.mono h.1 hN, h.2⟩
  addEmptyMode h t := ⟨Comp.Wf.addEmptyMode h.1 t, Comp.GroupOk.addEmptyMode h.2 t⟩
  shift h k := ⟨Comp.Wf.shift h.1 k, Comp.GroupOk.shift h.2 k⟩
  swaps h := ⟨synthSwaps_zipHer_swapsOk _ h, trivial⟩
  leaf h p hp := ⟨(Comp.wf_iff_toPrims _).mp h.1 p hp, trivial⟩
  group _ _ _ _ h hr _ _ _ := ⟨fun p hp => (h p hp).1, hr⟩

theorem conj_bs_wf {n : Nat} {σ : Dict} (hσ : SwapsOk n σ) {m1 m2 : Nat} {c s : K} {cv : Conv}
    (hp : (Prim.bs m1 m2 c s cv).Wf n) :
    ∀ q ∈ [Prim.swaps σ, .bs (Dict.fn σ m1) (Dict.fn σ m2) c s cv,
      .swaps (Dict.ofPairs (σ.map fun p => (p.2, p.1)))], q.Wf n := by
  have hpb := LW.SwapsOk.permBelow hσ
  obtain ⟨h1, h2, hne, h4⟩ := hp
  intro q hq
  simp only [List.mem_cons, List.not_mem_nil, or_false] at hq
  rcases hq with rfl | rfl | rfl
  · exact hσ
  · exact ⟨hpb.lt (le_refl n) h1, hpb.lt (le_refl n) h2, fun e => hne (hpb.inj e), h4⟩
  · exact SwapsOk.inverse hσ

theorem conj_bs_range {n : Nat} {σ : Dict} (hσ : SwapsOk n σ) {a b m1 m2 : Nat} {c s : K}
    {cv : Conv} (hk : ∀ k ∈ Dict.keys σ, a ≤ k ∧ k ≤ b) (h1 : m1 ∈ Dict.keys σ)
    (h2 : m2 ∈ Dict.keys σ) :
    ∀ q ∈ [Prim.swaps σ, .bs (Dict.fn σ m1) (Dict.fn σ m2) c s cv,
      .swaps (Dict.ofPairs (σ.map fun p => (p.2, p.1)))], ∀ m ∈ q.modes, a ≤ m ∧ m ≤ b := by
  have hv : ∀ k ∈ Dict.vals σ, a ≤ k ∧ k ≤ b := fun k h => hk k (hσ.perm.mem_iff.mpr h)
  intro q hq
  simp only [List.mem_cons, List.not_mem_nil, or_false] at hq
  rcases hq with rfl | rfl | rfl
  · intro m hm
    rcases List.mem_append.mp hm with hm | hm
    · exact hk m hm
    · exact hv m hm
  · intro m hm
    simp only [Prim.modes, List.mem_cons, List.not_mem_nil, or_false] at hm
    rcases hm with rfl | rfl
    · exact hk _ (LW.SwapsOk.fn_mem_keys hσ h1)
    · exact hk _ (LW.SwapsOk.fn_mem_keys hσ h2)
  · intro m hm
    rw [Prim.modes, LW.SwapsOk.ofPairs_conv hσ, Dict.keys_conv, Dict.vals_conv] at hm
    exact (List.mem_append.mp hm).elim (hv m) (hk m)

theorem Prim.convertNonAdj_ok {n : Nat} (p : Prim K) (hp : p.Wf n) (a b : Nat)
    (hr : ∀ m ∈ p.modes, a ≤ m ∧ m ≤ b) :
    ∀ q ∈ p.convertNonAdj, q.Wf n ∧ ∀ m ∈ q.modes, a ≤ m ∧ m ≤ b := by
  rcases p.convertNonAdj_cases with h | ⟨m1, m2, c, s, cv, rfl, hadj⟩
  · rw [h]
    exact fun q hq => List.mem_singleton.mp hq ▸ ⟨hp, hr⟩
  · rw [LW.Prim.convertNonAdj_bs_conj c s cv hp.2.2.1 hadj]
    have := hp.1; have := hp.2.1; have hne := hp.2.2.1
    have r1 := hr m1 (by simp [Prim.modes])
    have r2 := hr m2 (by simp [Prim.modes])
    have hlo : min m1 m2 < max m1 m2 := by omega
    have hσ := nonAdjSwaps_swapsOk n _ _ hlo (by omega)
    refine fun q hq => ⟨conj_bs_wf hσ hp q hq, conj_bs_range hσ ?_ ?_ ?_ q hq⟩
    · intro k hk
      have := (mem_keys_nonAdjSwaps hlo).mp hk
      omega
    · exact (mem_keys_nonAdjSwaps hlo).mpr (by omega)
    · exact (mem_keys_nonAdjSwaps hlo).mpr (by omega)

end

section
open LW

variable {K : Type} [CommRing K] [StarRing K]

theorem _root_.LW.Reach.inv {P : Circ K → Prop} (hP : ApiInv Prim.ParamOk (fun _ => True) P) {c : Circ K}
    (h : Reach c) : P c := by
  induction h with
  | new n => exact hP.new n trivial
  | unitary u hu => exact hP.unitary u hu
  | bs m1 m2 cs cv l _ hcs hl hok ih =>
    exact hP.bs ih (fun a b q hq _ => Circ.bsPrims_paramOk hcs hl a b cv q hq) hok
  | ps m p l _ hp hl hok ih => exact hP.ps ih (fun a q hq _ => Circ.psPrims_paramOk hp hl a q hq) hok
  | loss m ab _ hab hok ih => exact hP.loss ih (fun _ _ => hab) hok
  | barrier ms _ hok ih => exact hP.barrier ih (fun _ _ => trivial) hok
  | swaps sw _ hok ih => exact hP.modeSwaps ih (fun _ _ => trivial) hok
  | herald k i o _ hok ih => exact hP.herald ih hok
  | add m g _ _ hok ihc ihs => exact hP.add ihc ihs hok
  | plus _ _ hok iha ihb => exact hP.plus iha ihb hok
  | unpack _ ih => exact hP.unpack ih
  | compress _ ih => exact hP.compress ih
  | nonadj _ ih => exact hP.nonadj ih

theorem apiStable_wf : ApiStable Prim.ParamOk (fun n (c : Comp K) => c.Wf n ∧ c.GroupOk) where
  toAddStable := addStable_wf
  modes_lt h := Comp.Wf.modes_lt h.1
  checked hq hu := ⟨hq.wf hu, trivial⟩
  block _ hu := ⟨⟨Nat.le_of_eq (Nat.zero_add _), hu⟩, trivial⟩
  combine hσ hτ := ⟨SwapsOk.combine hσ.1 hτ.1, trivial⟩
  nonadj {n p} hp q hq :=
    ⟨(Prim.convertNonAdj_ok p hp.1 0 n
      (fun m hm => ⟨Nat.zero_le m, (Prim.Wf.modes_lt hp.1 m hm).le⟩) q hq).1, trivial⟩
  nonadjGroup {n cs m1 m2 _ _} h :=
    have hq : ∀ q ∈ cs.flatMap Prim.convertNonAdj, q.Wf n ∧ ∀ m ∈ q.modes, m1 ≤ m ∧ m ≤ m2 := fun q hq =>
      let ⟨p, hp, hq⟩ := List.mem_flatMap.mp hq
      Prim.convertNonAdj_ok p (h.1 p hp) m1 m2 (h.2 p hp) q hq
    ⟨fun q h => (hq q h).1, fun q h => (hq q h).2⟩

/-- what every circuit built through the API satisfies (`reach_inv`): the bookkeeping invariant of C02 and the
hypotheses `SpecWf`, `SpecGroupOk` of the C01 / C02 / C09 theorems -/
structure Inv (c : Circ K) : Prop where
  wf : c.WF
  spec : SpecWf c.n c.spec
  grp : SpecGroupOk c.spec

theorem reach_inv (c : Circ K) (h : Reach c) : Inv c :=
  let ⟨h1, h2⟩ := h.inv apiStable_wf.apiInv
  ⟨h1, fun x hx => (h2 x hx).1, fun x hx => (h2 x hx).2⟩

theorem reach_WF (c : Circ K) (h : Reach c) : c.WF := (reach_inv c h).wf

section NonVacuity

private theorem unitPair10 : UnitPair ((1, 0) : Int × Int) := by
  refine ⟨by decide, ?_, ?_⟩ <;> simp

private def subC : Circ Int :=
  { n := 2, spec := [.prim (.bs 0 1 1 0 .rx)], inHer := [(1, 0)], outHer := [(1, 0)],
    extIn := [(1, 0)], extOut := [(1, 0)] }

private theorem subC_reach : Reach subC := by
  have h1 : Reach ({ n := 2, spec := [.prim (.bs 0 1 1 0 .rx)] } : Circ Int) :=
    Reach.bs (c := Circ.new 2) 0 1 (1, 0) .rx none (Reach.new 2) unitPair10
      (by intro ab h; cases h) rfl
  exact Reach.herald 0 1 1 h1 rfl

private theorem ex_reach : ∃ c : Circ Int, Reach c ∧ c.n = 4 ∧ c.internal = [2] ∧
    c.spec.length = 4 := by
  have h1 : Reach ({ n := 3, spec := [.prim (.bs 0 2 1 0 .h)] } : Circ Int) :=
    Reach.bs (c := Circ.new 3) 0 2 (1, 0) .h none (Reach.new 3) unitPair10
      (by intro ab h; cases h) rfl
  have h2 := Reach.add (c' := _) 1 true h1 subC_reach rfl
  exact ⟨_, Reach.nonadj h2, by decide, by decide, by decide⟩

example : ∃ c : Circ Int, Reach c ∧ c.WF ∧ SpecWf c.n c.spec ∧ SpecGroupOk c.spec ∧ c.n = 4 := by
  obtain ⟨c, hc, hn, -, -⟩ := ex_reach
  exact ⟨c, hc, reach_WF c hc, (reach_inv c hc).spec, (reach_inv c hc).grp, hn⟩

end NonVacuity

end

end LW.Proofs.Reach
