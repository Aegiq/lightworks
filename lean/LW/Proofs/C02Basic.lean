/-
  LW.Proofs.C02Basic — the skipping fold of `mapMode`: the identity on negative integers and `bumps` (ModeRank) on
  the others (`skipFold_cases`), whose facts it inherits; and the target fold of `add`, the same fold moved by one.
-/
import LW.Proofs.CircInv
import LW.Proofs.ModeRank

namespace LW.Proofs.C02

/-- the fold of `_map_mode`: a mode moves up by one for every listed mode at or below it -/
abbrev skipFold (l : List Nat) (m : Int) : Int :=
  l.foldl (fun (m : Int) (i : Nat) => if m ≥ (i : Int) then m + 1 else m) m

theorem skipFold_cons (i : Nat) (t : List Nat) (m : Int) :
    skipFold (i :: t) m = skipFold t (if m ≥ (i : Int) then m + 1 else m) := rfl

theorem mapMode_eq_skipFold {K : Type} (c : Circ K) (m : Int) :
    c.mapMode m = skipFold (sortNat c.internal) m := rfl

theorem mapMode_congr {K : Type} {c c' : Circ K} (h : c.internal = c'.internal) (m : Int) :
    c.mapMode m = c'.mapMode m := by
  rw [mapMode_eq_skipFold, mapMode_eq_skipFold, h]

theorem skipFold_of_lt (l : List Nat) (m : Int) (h : ∀ a ∈ l, m < (a : Int)) : skipFold l m = m := by
  induction l generalizing m with
  | nil => rfl
  | cons i t ih =>
    have hi : ¬ m ≥ (i : Int) := by have := h i (by simp); omega
    rw [skipFold_cons, if_neg hi]
    exact ih m (fun a ha => h a (by simp [ha]))

theorem _root_.LW.Proofs.C02Sem.natCast_bumps (ks : List Nat) (x : Nat) :
    ((C02Sem.bumps ks x : Nat) : Int) = skipFold ks (x : Int) := by
  induction ks generalizing x with
  | nil => rfl
  | cons k ks ih =>
    rw [C02Sem.bumps_cons, ih, skipFold_cons]
    congr 1
    unfold bump
    split <;> split <;> omega

section
open C02Sem

theorem skipFold_cases (l : List Nat) (m : Int) :
    (m < 0 ∧ skipFold l m = m) ∨ ∃ x : Nat, m = x ∧ skipFold l m = (bumps l x : Nat) := by
  by_cases h : m < 0
  · exact .inl ⟨h, skipFold_of_lt l m fun a _ => by omega⟩
  · exact .inr ⟨m.toNat, by omega, by rw [natCast_bumps]; congr 1; omega⟩

theorem skipFold_strictMono (l : List Nat) {m m' : Int} (h : m < m') : skipFold l m < skipFold l m' := by
  rcases skipFold_cases l m with ⟨h1, e1⟩ | ⟨x, rfl, e1⟩ <;>
    rcases skipFold_cases l m' with ⟨h2, e2⟩ | ⟨x', rfl, e2⟩ <;> rw [e1, e2]
  · exact h
  · have := le_bumps l x'; omega
  · omega
  · have := bumps_strictMono l (a := x) (b := x') (by omega); omega

theorem le_skipFold (l : List Nat) (m : Int) : m ≤ skipFold l m := by
  rcases skipFold_cases l m with ⟨-, e⟩ | ⟨x, rfl, e⟩ <;> rw [e]
  · exact Int.le_refl m
  · have := le_bumps l x; omega

theorem skipFold_nonneg (l : List Nat) (m : Int) (h : 0 ≤ m) : 0 ≤ skipFold l m :=
  Int.le_trans h (le_skipFold l m)

theorem skipFold_le (l : List Nat) (m : Int) : skipFold l m ≤ m + l.length := by
  rcases skipFold_cases l m with ⟨-, e⟩ | ⟨x, rfl, e⟩ <;> rw [e]
  · omega
  · have := bumps_le l x; omega

theorem skipFold_not_mem (l : List Nat) (hs : l.Pairwise (· ≤ ·)) (m : Int) :
    ∀ a ∈ l, skipFold l m ≠ (a : Int) := by
  intro a ha
  rcases skipFold_cases l m with ⟨h1, e1⟩ | ⟨x, rfl, e1⟩ <;> rw [e1]
  · omega
  · exact fun e => bumps_not_mem_of_le l hs x (Int.ofNat_inj.mp e ▸ ha)

theorem skipFold_lt_iff (l : List Nat) (n : Nat) (hs : l.Pairwise (· < ·)) (hn : ∀ a ∈ l, a < n)
    (m : Int) : skipFold l m < (n : Int) ↔ m + (l.length : Int) < (n : Int) := by
  have hnd : l.Nodup := hs.imp Nat.ne_of_lt
  have hlen : l.length ≤ n := length_le_of_nodup_lt l n hnd hn
  rcases skipFold_cases l m with ⟨h1, e1⟩ | ⟨x, rfl, e1⟩ <;> rw [e1]
  · omega
  · have h1 := bumps_not_mem l hs x
    have h2 := bumps_rank l hs x
    have h3 := cntLt_le_length l (bumps l x)
    refine ⟨fun h => ?_, fun h => by have := bumps_le l x; omega⟩
    have := (cntLt_add_le hnd (bumps l x) (n - bumps l x)).2 h1 (by omega)
    rw [Nat.add_sub_cancel' (by omega), cntLt_all l n hn] at this
    omega

end

/-- the fold computing the insertion target of a pass-through mode -/
abbrev stepFold (l : List Nat) (t0 : Int) : Int :=
  l.foldl (fun (t : Int) (m : Nat) => if t > (m : Int) then t + 1 else t) t0

theorem stepFold_eq_skipFold (l : List Nat) (t0 : Int) : stepFold l t0 = skipFold l (t0 - 1) + 1 := by
  induction l generalizing t0 with
  | nil => simp [stepFold, skipFold]
  | cons a l ih =>
    rw [skipFold_cons]
    show stepFold l (if t0 > (a : Int) then t0 + 1 else t0) = _
    by_cases h : t0 > (a : Int)
    · rw [if_pos h, if_pos (by omega), ih, show t0 + 1 - 1 = t0 - 1 + 1 by omega]
    · rw [if_neg h, if_neg (by omega), ih]

theorem stepFold_bounds (l : List Nat) (t0 : Int) :
    t0 ≤ stepFold l t0 ∧ stepFold l t0 ≤ t0 + l.length ∧ (t0 < 0 → stepFold l t0 = t0) := by
  rw [stepFold_eq_skipFold]
  have h1 := le_skipFold l (t0 - 1)
  have h2 := skipFold_le l (t0 - 1)
  refine ⟨by omega, by omega, fun h => ?_⟩
  rw [skipFold_of_lt l _ (fun a _ => by omega)]; omega

theorem stepFold_mono (l : List Nat) {a b : Int} (h : a ≤ b) : stepFold l a ≤ stepFold l b := by
  rw [stepFold_eq_skipFold, stepFold_eq_skipFold]
  rcases Int.lt_or_eq_of_le h with h | h
  · have := skipFold_strictMono l (m := a - 1) (m' := b - 1) (by omega); omega
  · subst h; exact Int.le_refl _

end LW.Proofs.C02
