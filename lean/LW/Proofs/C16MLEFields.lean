/-
  The list-level MLE statement of C16 over concrete fields.  In `𝔽₄₉ = 𝔽₇[i]` (which satisfies
  `Consts` and `2 ≠ 0`) and three qubits `len(data) = 6³·63 = 13608` is zero, so `_n_vec_from_data`
  (`x/0 = 0`) is the zero vector while `_p_vec` of the reference Choi matrix is not: the statement
  quantified over all fields with `2 ≠ 0` is false, and `len(data) ≠ 0` is necessary in every field
  (`mle_count_necessary`).  Over ℂ, for the unitary `V = [[3, -4i], [4, 3i]]/5`, every hypothesis of
  the statement with `len(data) ≠ 0` holds.
-/
import LW.Proofs.C16MLE
import LW.Proofs.C16F49
import LW.Proofs.C15Complex

open scoped BigOperators

namespace LW.Tomo

variable {K : Type} [Field K] [StarRing K] [DecidableEq K]

theorem one_dagger_mul_one (N : Nat) : (M.one N : M K).dagger.mul (M.one N) = M.one N := by
  have h : (M.one N : M K).dagger = M.one N := M.ofFn_congr fun r c hr hc => by
    rw [M.get_one (n := N) hc hr, conj_eq_star, apply_ite star, star_one, star_zero]
    exact if_congr eq_comm rfl rfl
  rw [h]
  exact M.mul_one' _ (M.isOfFn_one N)

/-- the hypothesis `hlen` of `mle_model_consistent_nz` is necessary: in any field in which
`len(data) = 6ⁿ·(4ⁿ-1)` vanishes, the data vector computed on noiseless data of a unitary `V` is the
zero vector (`x/0 = 0`), which is not a non-zero multiple of `_p_vec(choi_from_unitary(V))` -/
theorem mle_count_necessary {i h : K} (hc : Consts i h) (h2 : (1 + 1 : K) ≠ 0) (n : Nat) (hn : 0 < n)
    (V : M K) (hV : V.n = 2 ^ n) (hU : V.dagger.mul V = M.one (2 ^ n)) (order : List Meas)
    (hord : order.Perm (requiredSet n)) (hzero : (((6 ^ n * (4 ^ n - 1) : Nat)) : K) = 0) :
    ∃ nv, (do let data ← mleData n order ((combineAll tomoInputsMLE n).flatMap (fun ins =>
              order.map fun s => bornTable i h n (channel V (rhoKron i ins)) s)); nVec n data)
        = .ok nv ∧
      ¬ ∃ c : K, c ≠ 0 ∧ (pVec i n (choiFromUnitary V)).map (· * c) = nv := by
  refine ⟨_, mle_pipeline hc h2 n hn V hV hU order hord, ?_⟩
  rintro ⟨c, hc0, hc⟩
  -- every entry of the data vector is zero
  have hzeroall : ∀ x ∈ nvOf i V n (((6 ^ n * (4 ^ n - 1) : Nat)) : K), x = 0 := by
    intro x hx
    unfold nvOf at hx
    obtain ⟨ins, _, hx⟩ := List.mem_flatMap.mp hx
    obtain ⟨meas, _, hx⟩ := List.mem_flatMap.mp hx
    rw [hzero, inv_zero] at hx
    simp only [mul_zero, List.mem_cons, List.not_mem_nil, or_false, or_self] at hx
    exact hx
  -- hence every model probability is zero
  have hp : ∀ p ∈ pVec i n (choiFromUnitary V), p = 0 := by
    intro p hp
    have h1 : p * c ∈ (pVec i n (choiFromUnitary V)).map (· * c) := List.mem_map.mpr ⟨p, hp, rfl⟩
    rw [hc] at h1
    rcases mul_eq_zero.mp (hzeroall _ h1) with h | h
    · exact h
    · exact absurd h hc0
  -- but the two probabilities of one (input, measurement) pair sum to `4⁻ⁿ ≠ 0`
  have hins : List.replicate n InLabel.Zp ∈ combineAll tomoInputsMLE n :=
    replicate_mem_combineAll (by decide) hn
  have hmeas : List.replicate n Pauli.Z ∈ tomoMeasurements n true := by
    rw [tomoMeasurements_true, List.mem_filter]
    refine ⟨replicate_mem_combineAll (vals := Pauli.all) (by decide) hn, ?_⟩
    obtain ⟨m, rfl⟩ : ∃ m, n = m + 1 := ⟨n - 1, by omega⟩
    simp [List.replicate_succ]
  have hmem : ∀ x ∈ [pairing (aRowMats i n (List.replicate n InLabel.Zp)
        (List.replicate n Pauli.Z)).1 (choiFromUnitary V),
      pairing (aRowMats i n (List.replicate n InLabel.Zp)
        (List.replicate n Pauli.Z)).2 (choiFromUnitary V)],
      x ∈ pVec i n (choiFromUnitary V) := by
    intro x hx
    unfold pVec
    exact List.mem_flatMap.mpr ⟨_, hins, List.mem_flatMap.mpr ⟨_, hmeas, hx⟩⟩
  obtain ⟨e1, e2⟩ := mle_rows i n V hV (List.replicate n InLabel.Zp) (List.length_replicate ..)
    (List.replicate n Pauli.Z) (List.length_replicate ..)
  have z1 := hp _ (hmem _ List.mem_cons_self)
  have z2 := hp _ (hmem _ (List.mem_cons_of_mem _ List.mem_cons_self))
  have htr := trN_channel_rhoKron h2 i n V hV hU _ (List.length_replicate (n := n) (a := InLabel.Zp))
  rw [z1, htr] at e1
  rw [z2, htr] at e2
  have htp : (twoPow (2 * n) : K) ≠ 0 := twoPow_ne_zero h2 _
  have hsum : (0 : K) = (twoPow (2 * n))⁻¹ * (half * (1 + 1)) := by
    linear_combination e1 + e2
  rw [half_two h2, mul_one] at hsum
  exact inv_ne_zero htp hsum.symm

theorem consts_F49 : Consts F49.I F49.H := ⟨F49.I_mul_I, F49.star_I, F49.star_H, F49.H_sq⟩

omit [DecidableEq K] in
theorem mat2_unitary {a b c d : K} (h1 : star a * a + star c * c = 1)
    (h2 : star a * b + star c * d = 0) (h3 : star b * b + star d * d = 1) :
    (mat2 a b c d).dagger.mul (mat2 a b c d) = M.one 2 := by
  have h2' : star b * a + star d * c = 0 := by
    have := congrArg star h2
    rwa [star_add, star_mul', star_mul', star_star, star_star, star_zero, mul_comm a,
      mul_comm c] at this
  refine M.ext_get (M.isOfFn_mul _ _) (M.isOfFn_one _) rfl fun r k hr hk => ?_
  change r < 2 at hr
  change k < 2 at hk
  rw [M.get_mul _ _ hr hk, M.get_one hr hk]
  show ∑ j ∈ Finset.range 2, _ = _
  rw [sum_range_two, get_dagger _ (by simpa using hr) (show 0 < 2 by decide),
    get_dagger _ (by simpa using hr) (show 1 < 2 by decide)]
  interval_cases r <;> interval_cases k
  · rw [mat2_00, mat2_10, if_pos rfl]; exact h1
  · rw [mat2_00, mat2_10, mat2_01, mat2_11, if_neg (by decide)]; exact h2
  · rw [mat2_00, mat2_10, mat2_01, mat2_11, if_neg (by decide)]; exact h2'
  · rw [mat2_01, mat2_11, if_pos rfl]; exact h3

noncomputable section
open Classical

def exV : M ℂ := mat2 (3 / 5 : ℂ) (-4 / 5 * Complex.I) (4 / 5) (3 / 5 * Complex.I)

theorem exV_unitary : exV.dagger.mul exV = M.one (2 ^ 1) := by
  have s35 : star (3 / 5 : ℂ) = 3 / 5 := by rw [Complex.star_def, map_div₀, map_ofNat, map_ofNat]
  have s45 : star (4 / 5 : ℂ) = 4 / 5 := by rw [Complex.star_def, map_div₀, map_ofNat, map_ofNat]
  refine mat2_unitary ?_ ?_ ?_
  · rw [s35, s45]; norm_num
  · rw [s35, s45]; ring
  · rw [neg_div, neg_mul, star_neg, star_mul', star_mul', s35, s45, Complex.star_def, Complex.conj_I]
    linear_combination (-1 : ℂ) * Complex.I_mul_I

/-- the list-level MLE statement is not vacuous over ℂ -/
theorem mle_example_complex :
    (do let data ← mleData 1 (requiredSet 1) ((combineAll tomoInputsMLE 1).flatMap (fun ins =>
          (requiredSet 1).map fun s =>
            bornTable Complex.I (((Real.sqrt 2)⁻¹ : ℝ) : ℂ) 1 (channel exV (rhoKron Complex.I ins)) s));
        nVec 1 data)
      = .ok (nvOf Complex.I exV 1 (((6 ^ 1 * (4 ^ 1 - 1) : Nat)) : ℂ)) ∧
    ∃ c : ℂ, c ≠ 0 ∧ (pVec Complex.I 1 (choiFromUnitary exV)).map (· * c)
      = nvOf Complex.I exV 1 (((6 ^ 1 * (4 ^ 1 - 1) : Nat)) : ℂ) := by
  have hpipe := mle_pipeline consts_complex (by norm_num : (1 + 1 : ℂ) ≠ 0) 1
    (by norm_num) exV rfl exV_unitary (requiredSet 1) (List.Perm.refl _)
  exact ⟨hpipe, mle_model_consistent_char0 consts_complex (by norm_num) 1 exV
    (requiredSet 1) _ _ (by norm_num) rfl exV_unitary (List.Perm.refl _) rfl hpipe⟩

end

end LW.Tomo
