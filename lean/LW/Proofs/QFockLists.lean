/-
  LW.Proofs.QFockLists — list facts about the encodings of the qubit Fock model: membership in
  `fockStates` and `bitStrings`, `fullState` without heralds, and the dual-rail encoding with its
  decoding `unDualRail`.
-/
import Mathlib.Data.List.GetD
import Mathlib.Data.List.Nodup
import Mathlib.Data.Finset.Dedup
import Mathlib.Algebra.Ring.Nat
import LW.Model.QConvertSem

namespace LW.Gates

open LW.QF

theorem mem_fockStates {m p : Nat} {o : List Nat} (h : o ∈ fockStates m p) :
    o.length = m ∧ o.sum = p := by
  induction m generalizing p o with
  | zero =>
    cases p with
    | zero => simp [fockStates] at h; simp [h]
    | succ p => simp [fockStates] at h
  | succ m ih =>
    simp only [fockStates, List.mem_flatMap, List.mem_reverse, List.mem_range, List.mem_map] at h
    obtain ⟨k, hk, t, ht, rfl⟩ := h
    have := ih ht
    simp only [List.length_cons, List.sum_cons]
    omega

theorem mem_fockStates_of : ∀ {m p : Nat} {o : List Nat}, o.length = m → o.sum = p → o ∈ fockStates m p
  | 0, p, [], _, hs => by
    simp only [List.sum_nil] at hs
    subst hs
    simp [fockStates]
  | m + 1, p, x :: o, hl, hs => by
    simp only [List.length_cons, Nat.add_right_cancel_iff] at hl
    simp only [List.sum_cons] at hs
    simp only [fockStates, List.mem_flatMap, List.mem_reverse, List.mem_range, List.mem_map]
    exact ⟨x, by omega, o, mem_fockStates_of hl (by omega), rfl⟩
  | 0, _, _ :: _, hl, _ => by simp at hl
  | _ + 1, _, [], hl, _ => by simp at hl

theorem fullStateGo_nil (k m : Nat) (s : List Nat) (h : s.length = k) : fullStateGo [] k m s = s := by
  induction k generalizing m s with
  | zero =>
    have : s = [] := List.eq_nil_of_length_eq_zero h
    simp [fullStateGo, this]
  | succ k ih =>
    cases s with
    | nil => simp at h
    | cons x t =>
      have ht : t.length = k := by simpa using h
      simp [fullStateGo, Dict.get?, ih _ t ht]

theorem fullState_nil (n : Nat) (s : List Nat) (h : s.length = n) : fullState [] n s = s :=
  fullStateGo_nil n 0 s h

end LW.Gates

namespace LW.C12F

open LW LW.QC LW.Gates LW.QF

theorem mem_bitStrings {n : ℕ} {b : List Bool} : b ∈ bitStrings n ↔ b.length = n := by
  induction n generalizing b with
  | zero => simp [bitStrings]
  | succ n ih =>
    simp only [bitStrings, List.mem_append, List.mem_map]
    constructor
    · rintro (⟨t, ht, rfl⟩ | ⟨t, ht, rfl⟩) <;> simp [ih.mp ht]
    · intro h
      cases b with
      | nil => simp at h
      | cons x t =>
        have ht : t ∈ bitStrings n := ih.mpr (by simpa using h)
        cases x
        · exact Or.inl ⟨t, ht, rfl⟩
        · exact Or.inr ⟨t, ht, rfl⟩

theorem mem_bitsF {n : ℕ} {b : List Bool} : b ∈ (bitStrings n).toFinset ↔ b.length = n := by
  rw [List.mem_toFinset, mem_bitStrings]

theorem dualRail_length (b : List Bool) : (dualRail b).length = 2 * b.length := by
  induction b with
  | nil => rfl
  | cons x t ih => cases x <;> simp [dualRail, ih] <;> omega

theorem unDualRail_dualRail (b : List Bool) : unDualRail (dualRail b) = b := by
  induction b with
  | nil => rfl
  | cons x t ih => cases x <;> simp [dualRail, unDualRail, ih]

theorem isDualRail_dualRail (b : List Bool) : isDualRail (dualRail b) = true := by
  induction b with
  | nil => rfl
  | cons x t ih => cases x <;> simp [dualRail, isDualRail, ih]

theorem dualRail_unDualRail : ∀ (u : List ℕ), isDualRail u = true → dualRail (unDualRail u) = u
  | [], _ => rfl
  | [_], h => by simp [isDualRail] at h
  | a :: b :: t, h => by
    simp only [isDualRail, Bool.and_eq_true, beq_iff_eq] at h
    have ih := dualRail_unDualRail t h.2
    unfold unDualRail
    by_cases ha : a = 0
    · have hb : b = 1 := by omega
      subst ha hb
      simp [dualRail, ih]
    · have ha1 : a = 1 := by omega
      have hb : b = 0 := by omega
      subst ha1 hb
      simp [dualRail, ih]

theorem unDualRail_length : ∀ (u : List ℕ) (n : ℕ), u.length = 2 * n → (unDualRail u).length = n
  | [], n, h => by simp at h; simp [unDualRail]; omega
  | [_], n, h => by simp at h; omega
  | a :: b :: t, n, h => by
    cases n with
    | zero => simp at h
    | succ n =>
      have := unDualRail_length t n (by simp at h; omega)
      simp [unDualRail, this]

theorem dualRail_injective {b b' : List Bool} (h : dualRail b = dualRail b') : b = b' := by
  rw [← unDualRail_dualRail b, h, unDualRail_dualRail]

theorem dualRail_getD_even (b : List Bool) (q : ℕ) :
    (dualRail b).getD (2 * q) 0 = if q < b.length ∧ getBit b q = false then 1 else 0 := by
  induction b generalizing q with
  | nil => simp [dualRail]
  | cons x t ih =>
    cases q with
    | zero => cases x <;> simp [dualRail, getBit]
    | succ q =>
      have e : 2 * (q + 1) = 2 * q + 1 + 1 := by omega
      cases x <;>
        (simp only [dualRail, e, List.getD_cons_succ, ih, getBit, List.length_cons,
          Nat.add_lt_add_iff_right]; rfl)

theorem dualRail_getD_odd (b : List Bool) (q : ℕ) :
    (dualRail b).getD (2 * q + 1) 0 = if q < b.length ∧ getBit b q = true then 1 else 0 := by
  induction b generalizing q with
  | nil => simp [dualRail]
  | cons x t ih =>
    cases q with
    | zero => cases x <;> simp [dualRail, getBit]
    | succ q =>
      have e : 2 * (q + 1) + 1 = 2 * q + 1 + 1 + 1 := by omega
      cases x <;>
        (simp only [dualRail, e, List.getD_cons_succ, ih, getBit, List.length_cons,
          Nat.add_lt_add_iff_right]; rfl)

theorem isDualRail_iff : ∀ (u : List ℕ) (n : ℕ), u.length = 2 * n →
    (isDualRail u = true ↔ ∀ q, q < n → u.getD (2 * q) 0 + u.getD (2 * q + 1) 0 = 1)
  | [], n, h => by
    have hn : n = 0 := by simpa using h.symm
    subst hn
    exact ⟨fun _ q hq => absurd hq (Nat.not_lt_zero q), fun _ => rfl⟩
  | [_], n, h => by simp at h; omega
  | a :: b :: t, n, h => by
    cases n with
    | zero => simp at h
    | succ n =>
      have ih := isDualRail_iff t n (by simp at h; omega)
      have e1 : ∀ q, 2 * (q + 1) = 2 * q + 1 + 1 := fun q => by omega
      simp only [isDualRail, Bool.and_eq_true, beq_iff_eq, ih]
      constructor
      · rintro ⟨h0, hr⟩ q hq
        cases q with
        | zero => exact h0
        | succ q =>
          rw [e1, List.getD_cons_succ, List.getD_cons_succ, List.getD_cons_succ,
            List.getD_cons_succ]
          exact hr q (by omega)
      · intro hq
        refine ⟨hq 0 (Nat.succ_pos n), fun q hq' => ?_⟩
        have := hq (q + 1) (by omega)
        rw [e1, List.getD_cons_succ, List.getD_cons_succ, List.getD_cons_succ,
          List.getD_cons_succ] at this
        exact this

end LW.C12F
