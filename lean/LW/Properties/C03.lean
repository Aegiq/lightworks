/-
  C03 — Simulator amplitudes are the bosonic Fock-space amplitudes of the circuit.

  Model: LW.Model.Fock.  `ampNum U s t` is the numerator of the amplitude ⟨t|Φ(U)|s⟩ and
  `ampNormSq s t = ∏ s! ∏ t!` the square of its denominator (the model never takes square roots).
-/
import LW.Proofs.C03
import LW.Proofs.FockFunctor

namespace LW.C03

open Matrix
open scoped BigOperators

variable {K : Type}

/-- `fock_basis(N, n)` enumerates exactly the occupations of `N ≥ 1` modes with `n` photons … -/
theorem fockBasis_complete (N n : Nat) (hN : 0 < N) (s : FState) :
    s ∈ fockBasis N n ↔ s.length = N ∧ photons s = n :=
  Proofs.C03.fockBasis_complete N n hN s

/-- … each exactly once -/
theorem fockBasis_nodup (N n : Nat) : (fockBasis N n).Nodup := Proofs.C03.fockBasis_nodup N n

/-- the model's recursive permanent is Mathlib's permanent of the row/column-selected matrix -/
theorem permRC_eq_permanent [CommRing K] (U : M K) (k : Nat) (rows cols : Fin k → Nat) :
    permRC U (List.ofFn rows) (List.ofFn cols) =
      Matrix.permanent (Matrix.of fun a b => U.get (rows a) (cols b)) :=
  Proofs.C03.permRC_eq_permanent U k rows cols

/-- the index list of a state repeats each mode by its occupation: it has one entry per photon
and contains mode `m` exactly `s[m]` times -/
theorem partitionIdx_spec (s : FState) :
    (partitionIdx s).length = photons s ∧ ∀ m, (partitionIdx s).count m = s.getD m 0 :=
  Proofs.C03.partitionIdx_spec s

/-- every amplitude the simulator returns is the permanent of the photon-indexed sub-matrix of
`U_full` with herald photons inserted on the heralded input/output modes and vacuum on the loss
modes, together with the product of all occupation factorials -/
theorem simulate_eq_formula [CommRing K] (i : K) (c : Circ K) (ins : List (List Occ))
    (outs : Option (List (List Occ))) (r : SimResult K) (h : simulate i c ins outs = .ok r) :
    let U := c.Ufull i
    let z := List.replicate (U.n - c.n) 0
    r.amps = r.inputs.map fun s => r.outputs.map fun t =>
      (ampNum U (addHeralds s c.inHer ++ z) (addHeralds t c.outHer ++ z),
       ampNormSq (addHeralds s c.inHer ++ z) (addHeralds t c.outHer ++ z)) :=
  Proofs.C03.simulate_eq_formula i c ins outs r h

/-- input validation: a state is accepted iff it has the right length and every entry is a
non-negative integer.  (Which error a refused state gets is not in this statement: a wrong length
gives `modeMismatch` whatever the entries, `validateState_wrong_length` below; after the length
the first offending entry decides, `type` for a non-integer and `value` for a negative one,
`Proofs.C03.validateState_eq`.) -/
theorem validateState_ok_iff (im : Nat) (s : List Occ) (t : FState) :
    validateState im s = .ok t ↔ s.length = im ∧ s = t.map fun k => Occ.int (k : Int) :=
  Proofs.C03.validateState_ok_iff im s t

theorem validateState_wrong_length (im : Nat) (s : List Occ) (h : s.length ≠ im) :
    validateState im s = .error .modeMismatch :=
  by rw [Proofs.C03.validateState_eq, if_pos h]

/-- a simulation is refused (never computed) when an input or a requested output is malformed … -/
theorem simulate_rejects [CommRing K] (i : K) (c : Circ K) (ins : List (List Occ))
    (outs : Option (List (List Occ)))
    (h : (∃ s ∈ ins, ∀ t, validateState c.inputModes s ≠ .ok t) ∨
         (∃ os, outs = some os ∧ ∃ s ∈ os, ∀ t, validateState c.inputModes s ≠ .ok t)) :
    ∃ e, simulate i c ins outs = .error e := by
  rcases h with ⟨s, hs, hbad⟩ | ⟨os, rfl, s, hs, hbad⟩
  · obtain ⟨e, he⟩ := Proofs.C03.mapM_error_of_mem _ ins hs hbad
    exact ⟨e, Proofs.C03.simulate_error_of_ins i c ins outs e he⟩
  · cases h1 : List.mapM (validateState c.inputModes) ins with
    | error e => exact ⟨e, Proofs.C03.simulate_error_of_ins i c ins _ e h1⟩
    | ok I =>
      obtain ⟨e, he⟩ := Proofs.C03.mapM_error_of_mem _ os hs hbad
      exact ⟨e, Proofs.C03.simulate_error_of_outs i c ins os I e h1 he⟩

/-- … and when photon numbers differ; proved for two well-formed inputs of different photon number
and no requested outputs -/
theorem simulate_rejects_photon_mismatch [CommRing K] (i : K) (c : Circ K) (s1 s2 : FState)
    (h1 : s1.length = c.inputModes) (h2 : s2.length = c.inputModes) (hne : photons s1 ≠ photons s2) :
    simulate i c [s1.map fun k => Occ.int k, s2.map fun k => Occ.int k] none = .error .photonNumber := by
  have hm : List.mapM (validateState c.inputModes)
      [s1.map fun k => Occ.int k, s2.map fun k => Occ.int k] = .ok [s1, s2] := by
    rw [Proofs.C03.mapM_ok_iff]
    exact List.Forall₂.cons (Proofs.C03.validateState_map_int _ s1 h1)
      (List.Forall₂.cons (Proofs.C03.validateState_map_int _ s2 h2) List.Forall₂.nil)
  have : (photons s2 ≠ photons s1) := fun h => hne h.symm
  rw [Proofs.C03.simulate_eq, hm]
  simp [Except.bind, Proofs.C03.outStates, Proofs.C03.samePhotons, this]

example : simulate (0 : Int) { n := 2 } [[.int 1, .int 1], [.int 2, .int 1]] none
    = .error .photonNumber :=
  simulate_rejects_photon_mismatch 0 { n := 2 } [1, 1] [2, 1] rfl rfl (by decide)


/-- Fock isometry: for a unitary `U` the squared amplitudes from one input to all outputs of the
same photon number sum to one (`|amp|² = ampNum·star ampNum / ampNormSq`) -/
theorem amplitudes_unit_vector [Field K] [StarRing K] [CharZero K] (U : M K) (hU : IsUnitary U)
    (hN : 0 < U.n) (s : FState) (hs : s.length = U.n) :
    ((fockBasis U.n (photons s)).map fun t =>
        ampNum U s t * star (ampNum U s t) / ((ampNormSq s t : Nat) : K)).sum = 1 :=
  Proofs.FockIso.amplitudes_unit_vector U hU hN s hs

/-- permanent of a rank-one matrix: `perm(a bᵀ) = k! · ∏ a · ∏ b` -/
theorem permanent_rank_one [CommRing K] {k : Nat} (a b : Fin k → K) :
    Matrix.permanent (Matrix.of fun i j => a i * b j)
      = (k.factorial : K) * (∏ i, a i) * ∏ j, b j :=
  Proofs.C03.permanent_rank_one a b

/-- all `k` photons enter through one mode `c` (any `k`, e.g. far beyond the photon numbers an
`n!`-term permanent can be evaluated for): the amplitude numerator towards an output whose photons
sit in modes `rows` is `k! · ∏ᵣ U[rowsᵣ, c]`; with the denominator `√(k! · ∏ tⱼ!)` this is the
multinomial closed form `√(k!/∏ tⱼ!) · ∏ⱼ U[j,c]^{tⱼ}` the many-photon stream of the check uses -/
theorem bunched_input_amplitude [CommRing K] (U : M K) (s t : FState) (k : Nat) (rows : Fin k → Nat)
    (c : Nat) (hs : partitionIdx s = List.ofFn fun _ : Fin k => c)
    (ht : partitionIdx t = List.ofFn rows) :
    ampNum U s t = (k.factorial : K) * ∏ r, U.get (rows r) c := by
  unfold ampNum
  rw [hs, ht]
  exact Proofs.C03.permRC_bunched_input U k rows c

/-- … and symmetrically when all photons leave through one mode -/
theorem bunched_output_amplitude [CommRing K] (U : M K) (s t : FState) (k : Nat) (cols : Fin k → Nat)
    (r : Nat) (hs : partitionIdx s = List.ofFn cols)
    (ht : partitionIdx t = List.ofFn fun _ : Fin k => r) :
    ampNum U s t = (k.factorial : K) * ∏ c, U.get r (cols c) := by
  unfold ampNum
  rw [hs, ht]
  exact Proofs.C03.permRC_bunched_output U k r cols

/-- the hypotheses are met, e.g. `|3,0⟩ → |1,2⟩` -/
example : partitionIdx [3, 0] = List.ofFn (fun _ : Fin 3 => 0) ∧
    partitionIdx [1, 2] = List.ofFn (![0, 1, 1] : Fin 3 → Nat) := by
  constructor <;> rfl

end LW.C03
