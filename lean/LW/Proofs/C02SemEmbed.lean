/-
  LW.Proofs.C02SemEmbed — algebra of `Optic.embedVia`: a matrix placed inside a larger index space
  through a partial injection (`PInj`). The two placements of `compile`, `embedBlock` and `pad`, are
  cases (`embedBlock_eq_embedVia`, `pad_eq_embedVia`), so the module stands below `C01Lead`, and the
  unitarity steps of C01 (`UN_embedBlock`, `UN_pad`) are `UN_embedVia`.
-/
import LW.Proofs.CompMat
import LW.Model.Optic

open scoped BigOperators

namespace LW.Proofs.C02Sem

open LW

variable {K : Type}

/-- `inv` is a partial map `[0, D) → [0, d)` with section `fwd` -/
structure PInj (d D : Nat) (fwd : Nat → Nat) (inv : Nat → Option Nat) : Prop where
  fwd_lt : ∀ x, x < d → fwd x < D
  inv_fwd : ∀ x, x < d → inv (fwd x) = some x
  inv_some : ∀ r x, r < D → inv r = some x → x < d ∧ fwd x = r

namespace PInj
variable {d D : Nat} {fwd : Nat → Nat} {inv : Nat → Option Nat}

theorem inj (h : PInj d D fwd inv) {x y : Nat} (hx : x < d) (hy : y < d) (e : fwd x = fwd y) :
    x = y := by
  have h1 := h.inv_fwd x hx
  rw [e, h.inv_fwd y hy] at h1
  injection h1 with h1
  exact h1.symm

theorem eq_iff (h : PInj d D fwd inv) {x y : Nat} (hx : x < d) (hy : y < d) :
    fwd x = fwd y ↔ x = y := ⟨h.inj hx hy, fun e => by rw [e]⟩

theorem ne_of_none (h : PInj d D fwd inv) {r x : Nat} (hx : x < d) (hr : inv r = none) :
    fwd x ≠ r := by
  intro e
  rw [← e, h.inv_fwd x hx] at hr
  cases hr

theorem comp {d' : Nat} {f1 f2 : Nat → Nat} {i1 i2 : Nat → Option Nat}
    (h1 : PInj d d' f1 i1) (h2 : PInj d' D f2 i2) :
    PInj d D (fun x => f2 (f1 x)) (fun r => (i2 r).bind i1) := by
  refine ⟨fun x hx => h2.fwd_lt _ (h1.fwd_lt x hx), ?_, ?_⟩
  · intro x hx
    show (i2 (f2 (f1 x))).bind i1 = some x
    rw [h2.inv_fwd _ (h1.fwd_lt x hx)]
    exact h1.inv_fwd x hx
  · intro r x hr e
    cases h : i2 r with
    | none => rw [h] at e; cases e
    | some y =>
      rw [h] at e
      obtain ⟨hy, ey⟩ := h2.inv_some r y hr h
      obtain ⟨hx, ex⟩ := h1.inv_some y x hy e
      exact ⟨hx, by show f2 (f1 x) = r; rw [ex, ey]⟩

theorem congr_inv {inv' : Nat → Option Nat} (h : PInj d D fwd inv)
    (e : ∀ r, r < D → inv' r = inv r) : PInj d D fwd inv' :=
  ⟨h.fwd_lt, fun x hx => by rw [e _ (h.fwd_lt x hx)]; exact h.inv_fwd x hx,
    fun r x hr hi => h.inv_some r x hr (by rw [← e r hr]; exact hi)⟩

theorem congr_fwd {fwd' : Nat → Nat} (h : PInj d D fwd inv)
    (e : ∀ x, x < d → fwd' x = fwd x) : PInj d D fwd' inv :=
  ⟨fun x hx => by rw [e x hx]; exact h.fwd_lt x hx,
    fun x hx => by rw [e x hx]; exact h.inv_fwd x hx,
    fun r x hr hi => by
      obtain ⟨h1, h2⟩ := h.inv_some r x hr hi
      exact ⟨h1, by rw [e x h1]; exact h2⟩⟩

theorem inv_unique {inv' : Nat → Option Nat} (h : PInj d D fwd inv)
    (h' : PInj d D fwd inv') : ∀ j, j < D → inv j = inv' j := by
  intro j hj
  cases hi : inv j with
  | some x =>
    obtain ⟨hx, e⟩ := h.inv_some j x hj hi
    rw [← e, h'.inv_fwd x hx]
  | none =>
    cases hi' : inv' j with
    | none => rfl
    | some x =>
      obtain ⟨hx, e⟩ := h'.inv_some j x hj hi'
      rw [← e, h.inv_fwd x hx] at hi
      cases hi

theorem conj (h : PInj d D fwd inv)
    (τ : Nat → Nat) (hτ : ∀ z, τ (τ z) = z) (hD : ∀ z, z < D → τ z < D) :
    PInj d D (fun x => τ (fwd x)) (fun z => inv (τ z)) :=
  ⟨fun x hx => hD _ (h.fwd_lt x hx),
    fun x hx => by
      show inv (τ (τ (fwd x))) = some x
      rw [hτ]; exact h.inv_fwd x hx,
    fun r x hr hi => by
      obtain ⟨h1, h2⟩ := h.inv_some (τ r) x (hD r hr) hi
      exact ⟨h1, by show τ (fwd x) = r; rw [h2, hτ]⟩⟩

/-- an injective self-map of `[0, D)` is onto, so it is the partial inverse of some map -/
theorem exists_of_inj {D : Nat} {t : Nat → Nat} (hD : ∀ R, R < D → t R < D)
    (hinj : ∀ a b, a < D → b < D → t a = t b → a = b) :
    ∃ fwd, PInj D D fwd (fun r => some (t r)) := by
  have himg : (Finset.range D).image t = Finset.range D := by
    apply Finset.eq_of_subset_of_card_le
    · intro y hy
      obtain ⟨x, hx, rfl⟩ := Finset.mem_image.mp hy
      exact Finset.mem_range.mpr (hD x (Finset.mem_range.mp hx))
    · rw [Finset.card_image_of_injOn (fun a ha b hb e =>
        hinj a b (Finset.mem_range.mp ha) (Finset.mem_range.mp hb) e)]
  have hsurj : ∀ y, y < D → ∃ x, x < D ∧ t x = y := by
    intro y hy
    have : y ∈ (Finset.range D).image t := by rw [himg]; exact Finset.mem_range.mpr hy
    obtain ⟨x, hx, e⟩ := Finset.mem_image.mp this
    exact ⟨x, Finset.mem_range.mp hx, e⟩
  classical
  refine ⟨fun y => if h : y < D then (hsurj y h).choose else 0, ?_, ?_, ?_⟩
  · intro y hy
    simp only [dif_pos hy]
    exact (hsurj y hy).choose_spec.1
  · intro y hy
    simp only [dif_pos hy]
    rw [(hsurj y hy).choose_spec.2]
  · intro r x hr e
    injection e with e
    subst e
    refine ⟨hD r hr, ?_⟩
    simp only [dif_pos (hD r hr)]
    exact hinj _ _ (hsurj _ (hD r hr)).choose_spec.1 hr (hsurj _ (hD r hr)).choose_spec.2

/-- two partial injections with disjoint ranges, one after the other. An index map made of shifted
intervals is such a sum of `pinj_blockInv`s: its forward `if` unfolds to the one here, and its
inverse `if`-tree is brought to the one here by `Option.map_if`, `ite_some_or`, `Option.none_or`. -/
theorem append {d₁ d₂ : Nat} {f₁ f₂ : Nat → Nat} {i₁ i₂ : Nat → Option Nat}
    (h₁ : PInj d₁ D f₁ i₁) (h₂ : PInj d₂ D f₂ i₂)
    (hd : ∀ x, x < d₁ → ∀ y, y < d₂ → f₁ x ≠ f₂ y) :
    PInj (d₁ + d₂) D (fun x => if x < d₁ then f₁ x else f₂ (x - d₁))
      (fun r => (i₁ r).or ((i₂ r).map (d₁ + ·))) := by
  refine ⟨fun x hx => ?_, fun x hx => ?_, fun r x hr e => ?_⟩
  · split
    · exact h₁.fwd_lt x ‹_›
    · exact h₂.fwd_lt _ (by omega)
  · split
    · rw [h₁.inv_fwd x ‹_›]; rfl
    · have hy : x - d₁ < d₂ := by omega
      -- an index of the second piece has no preimage in the first
      cases hi : i₁ (f₂ (x - d₁)) with
      | some z =>
        obtain ⟨hz, e⟩ := h₁.inv_some _ z (h₂.fwd_lt _ hy) hi
        exact absurd e (hd z hz _ hy)
      | none => rw [h₂.inv_fwd _ hy]; exact congrArg some (Nat.add_sub_cancel' (by omega))
  · cases hi : i₁ r with
    | some z =>
      obtain rfl : z = x := by rw [hi] at e; exact Option.some.inj e
      obtain ⟨hz, e⟩ := h₁.inv_some r z hr hi
      exact ⟨by omega, by rw [if_pos hz]; exact e⟩
    | none =>
      rw [hi, Option.none_or, Option.map_eq_some_iff] at e
      obtain ⟨y, hj, rfl⟩ := e
      obtain ⟨hy, e⟩ := h₂.inv_some r y hr hj
      exact ⟨by omega, by rw [if_neg (by omega), Nat.add_sub_cancel_left]; exact e⟩

end PInj

theorem ite_some_or {c : Prop} [Decidable c] (a : Nat) (o o' : Option Nat) :
    (if c then some a else o).or o' = if c then some a else o.or o' := by
  split <;> rfl

section
variable [CommRing K]

theorem embedVia_n (D : Nat) (A : M K) (inv : Nat → Option Nat) :
    (Optic.embedVia D A inv).n = D := rfl

theorem isOfFn_embedVia (D : Nat) (A : M K) (inv : Nat → Option Nat) :
    (Optic.embedVia D A inv).IsOfFn := M.isOfFn_ofFn _ _

theorem get_embedVia (D : Nat) (A : M K) (inv : Nat → Option Nat) {r c : Nat} (hr : r < D)
    (hc : c < D) :
    (Optic.embedVia D A inv).get r c =
      match inv r, inv c with
      | some x, some y => A.get x y
      | _, _ => if r = c then 1 else 0 := by
  unfold Optic.embedVia
  rw [M.get_ofFn _ hr hc]
  cases inv r <;> cases inv c <;> rfl

variable {d D : Nat} {fwd : Nat → Nat} {inv : Nat → Option Nat}

theorem get_embedVia_fwd (h : PInj d D fwd inv) (A : M K) {x y : Nat} (hx : x < d) (hy : y < d) :
    (Optic.embedVia D A inv).get (fwd x) (fwd y) = A.get x y := by
  rw [get_embedVia D A inv (h.fwd_lt x hx) (h.fwd_lt y hy), h.inv_fwd x hx, h.inv_fwd y hy]

theorem get_embedVia_none_left (A : M K) {r c : Nat} (hr : r < D) (hc : c < D)
    (hn : inv r = none) : (Optic.embedVia D A inv).get r c = if r = c then 1 else 0 := by
  rw [get_embedVia D A inv hr hc, hn]

theorem get_embedVia_none_right (A : M K) {r c : Nat} (hr : r < D) (hc : c < D)
    (hn : inv c = none) : (Optic.embedVia D A inv).get r c = if r = c then 1 else 0 := by
  rw [get_embedVia D A inv hr hc, hn]
  cases inv r <;> rfl

theorem eq_embedVia (h : PInj d D fwd inv) {X A : M K} (hX : X.IsOfFn) (hn : X.n = D)
    (hin : ∀ x y, x < d → y < d → X.get (fwd x) (fwd y) = A.get x y)
    (hrow : ∀ r k, r < D → k < D → inv r = none → X.get r k = if r = k then 1 else 0)
    (hcol : ∀ r k, r < D → k < D → inv k = none → X.get r k = if r = k then 1 else 0) :
    X = Optic.embedVia D A inv := by
  refine M.ext_get hX (isOfFn_embedVia _ _ _) hn ?_
  intro r k hr hk
  rw [hn] at hr hk
  cases hir : inv r with
  | none => rw [get_embedVia_none_left _ hr hk hir, hrow r k hr hk hir]
  | some x =>
    obtain ⟨hx, rfl⟩ := h.inv_some r x hr hir
    cases hik : inv k with
    | none => rw [get_embedVia_none_right _ hr hk hik, hcol _ k hr hk hik]
    | some y =>
      obtain ⟨hy, rfl⟩ := h.inv_some k y hk hik
      rw [get_embedVia_fwd h _ hx hy, hin x y hx hy]

theorem PInj.sum_range (h : PInj d D fwd inv) (g : Nat → K)
    (h0 : ∀ k, k < D → inv k = none → g k = 0) :
    ∑ k ∈ Finset.range D, g k = ∑ y ∈ Finset.range d, g (fwd y) := by
  have himg : ∑ k ∈ (Finset.range d).image fwd, g k = ∑ y ∈ Finset.range d, g (fwd y) := by
    apply Finset.sum_image
    intro x hx y hy e
    exact h.inj (Finset.mem_range.mp hx) (Finset.mem_range.mp hy) e
  rw [← himg]
  symm
  apply Finset.sum_subset
  · intro k hk
    rw [Finset.mem_image] at hk
    obtain ⟨x, hx, rfl⟩ := hk
    exact Finset.mem_range.mpr (h.fwd_lt x (Finset.mem_range.mp hx))
  · intro k hk hk'
    have hkD := Finset.mem_range.mp hk
    cases hi : inv k with
    | none => exact h0 k hkD hi
    | some x =>
      exfalso
      apply hk'
      obtain ⟨hx, e⟩ := h.inv_some k x hkD hi
      exact Finset.mem_image.mpr ⟨x, Finset.mem_range.mpr hx, e⟩

def selF (D d : Nat) (fwd : Nat → Nat) : Matrix (Fin D) (Fin d) K :=
  fun r x => if (r : Nat) = fwd x then 1 else 0

theorem selF_isometry (h : PInj d D fwd inv) :
    (selF (K := K) D d fwd).transpose * selF (K := K) D d fwd = 1 := by
  ext x y
  simp only [Matrix.mul_apply, Matrix.transpose_apply, selF, Matrix.one_apply]
  rw [Finset.sum_eq_single ⟨fwd x, h.fwd_lt x x.2⟩]
  · simp only [if_true, one_mul, h.eq_iff x.2 y.2, Fin.ext_iff]
  · intro r _ hr
    rw [if_neg (fun e => hr (Fin.ext e)), zero_mul]
  · intro hn; exact absurd (Finset.mem_univ _) hn

/-- the bridge to Mathlib: the embedding is `emb` along the matrix of `fwd` -/
theorem toMatN_embedVia (h : PInj d D fwd inv) (A : M K) :
    (Optic.embedVia D A inv).toMatN D = emb (selF D d fwd) (A.toMatN d) := by
  ext r c
  simp only [M.toMatN, emb, Matrix.add_apply, Matrix.mul_apply, Matrix.transpose_apply, selF,
    Matrix.sub_apply, Matrix.one_apply]
  rw [get_embedVia D A inv r.2 c.2]
  cases hir : inv r with
  | none =>
    have : ∀ x : Fin d, ¬ ((r : Nat) = fwd x) := fun x e => h.ne_of_none x.2 hir e.symm
    simp [this, Fin.ext_iff]
  | some x =>
    obtain ⟨hx, ex⟩ := h.inv_some r x r.2 hir
    cases hic : inv c with
    | none =>
      have : ∀ y : Fin d, ¬ ((c : Nat) = fwd y) := fun y e => h.ne_of_none y.2 hic e.symm
      have hrc : (r : Nat) ≠ c := fun e => h.ne_of_none hx hic (ex.trans e)
      simp [this, Fin.ext_iff, hrc]
    | some y =>
      obtain ⟨hy, ey⟩ := h.inv_some c y c.2 hic
      -- both sums collapse to the entry at `(x, y)`
      rw [Finset.sum_eq_single ⟨y, hy⟩, Finset.sum_eq_single ⟨x, hx⟩]
      · rw [if_pos ey.symm, if_pos ex.symm, one_mul, mul_one]
        simp only [Fin.ext_iff, ← ex, ← ey, h.eq_iff hx hy]
        ring
      · intro z _ hz
        rw [if_neg (fun e => hz (Fin.ext (h.inj z.2 hx (by rw [← e, ex])))), zero_mul]
      · intro hn; exact absurd (Finset.mem_univ _) hn
      · intro z _ hz
        rw [if_neg (fun e => hz (Fin.ext (h.inj z.2 hy (by rw [← e, ey])))), mul_zero]
      · intro hn; exact absurd (Finset.mem_univ _) hn

theorem embedVia_mul (h : PInj d D fwd inv) (A B : M K) (hA : A.n = d) :
    Optic.embedVia D (A.mul B) inv = (Optic.embedVia D A inv).mul (Optic.embedVia D B inv) :=
  M.toMatN_inj (N := D) (isOfFn_embedVia _ _ _) (M.isOfFn_mul _ _) rfl rfl (by
    rw [M.toMatN_mul _ _ (embedVia_n D A inv), toMatN_embedVia h, toMatN_embedVia h,
      toMatN_embedVia h, M.toMatN_mul A B hA, emb_mul (selF_isometry h)])

theorem embedVia_one (h : PInj d D fwd inv) : Optic.embedVia D (M.one d : M K) inv = M.one D :=
  M.toMatN_inj (N := D) (isOfFn_embedVia _ _ _) (M.isOfFn_one _) rfl rfl (by
    rw [toMatN_embedVia h, M.toMatN_one, M.toMatN_one, emb_one])

theorem embedVia_mul_one (D : Nat) (A : M K) (inv : Nat → Option Nat) :
    (Optic.embedVia D A inv).mul (M.one D) = Optic.embedVia D A inv :=
  M.mul_one' _ (isOfFn_embedVia _ _ _)

theorem embedVia_congr (h : PInj d D fwd inv) {A B : M K} {inv' : Nat → Option Nat}
    (hi : ∀ r, r < D → inv' r = inv r)
    (hAB : ∀ x y, x < d → y < d → A.get x y = B.get x y) :
    Optic.embedVia D A inv = Optic.embedVia D B inv' := by
  unfold Optic.embedVia
  apply M.ofFn_congr
  intro r c hr hc
  rw [hi r hr, hi c hc]
  cases hir : inv r with
  | none => rfl
  | some x =>
    cases hic : inv c with
    | none => rfl
    | some z =>
      exact hAB x z (h.inv_some r x hr hir).1 (h.inv_some c z hc hic).1

/-- the embedding depends on the forward map only (`PInj.inv_unique`): two ways of placing a matrix
are compared on their forward maps, not on their partial inverses -/
theorem embedVia_eq_of_fwd {fwd' : Nat → Nat} {inv' : Nat → Option Nat} (h : PInj d D fwd inv)
    (h' : PInj d D fwd' inv') (e : ∀ x, x < d → fwd x = fwd' x) (A : M K) :
    Optic.embedVia D A inv = Optic.embedVia D A inv' :=
  embedVia_congr h (fun r hr => ((h.congr_fwd fun x hx => (e x hx).symm).inv_unique h' r hr).symm)
    fun _ _ _ _ => rfl

theorem embedVia_comp {d' : Nat} {i1 i2 : Nat → Option Nat}
    (h2 : PInj d' D fwd i2) (A : M K) :
    Optic.embedVia D (Optic.embedVia d' A i1) i2 = Optic.embedVia D A (fun r => (i2 r).bind i1) := by
  refine M.ext_get (isOfFn_embedVia _ _ _) (isOfFn_embedVia _ _ _) rfl ?_
  intro r c hr hc
  rw [embedVia_n] at hr hc
  rw [get_embedVia _ _ _ hr hc, get_embedVia _ _ _ hr hc]
  cases hir : i2 r with
  | none => rfl
  | some x =>
    obtain ⟨hx, ex⟩ := h2.inv_some r x hr hir
    cases hic : i2 c with
    | none =>
      simp only [Option.bind_some, Option.bind_none]
      cases i1 x <;> rfl
    | some z =>
      obtain ⟨hz, ez⟩ := h2.inv_some c z hc hic
      simp only [Option.bind_some]
      rw [get_embedVia _ _ _ hx hz]
      have hne : x = z ↔ r = c := by
        constructor
        · intro e; rw [← ex, ← ez, e]
        · intro e; rw [← ex, ← ez] at e; exact h2.inj hx hz e
      cases i1 x <;> cases i1 z <;> simp only [hne]

/-- a commuting square of forward maps, `τ ∘ f2 = f1 ∘ c`: `A` placed by `f1` and read along the
bijection `τ` is `A` read along the bijection `c` and placed by `f2` -/
theorem embedVia_square {f1 f2 τ' c' τ c : Nat → Nat} {i1 i2 : Nat → Option Nat}
    (h1 : PInj d D f1 i1) (h2 : PInj d D f2 i2) (hτ : PInj D D τ' fun R => some (τ R))
    (hc : PInj d d c' fun y => some (c y)) (hcomm : ∀ y, y < d → τ (f2 y) = f1 (c y)) (A : M K) :
    Optic.embedVia D (Optic.embedVia D A i1) (fun R => some (τ R))
      = Optic.embedVia D (Optic.embedVia d A fun y => some (c y)) i2 := by
  rw [embedVia_comp hτ, embedVia_comp h2]
  refine embedVia_eq_of_fwd (h1.comp hτ) (hc.comp h2) (fun x hx => ?_) A
  have e := hcomm _ (hc.fwd_lt x hx)
  rw [Option.some.inj (hc.inv_fwd x hx)] at e
  exact (hτ.inv_some _ _ (h2.fwd_lt _ (hc.fwd_lt x hx)) rfl).2 ▸ congrArg τ' e.symm

def below (d r : Nat) : Option Nat := if r < d then some r else none

theorem below_eq_none {d r : Nat} : below d r = none ↔ d ≤ r := by
  unfold below
  by_cases h : r < d
  · rw [if_pos h]
    exact ⟨nofun, fun e => absurd h (Nat.not_lt.mpr e)⟩
  · rw [if_neg h]
    exact ⟨fun _ => Nat.not_lt.mp h, fun _ => rfl⟩

theorem pinj_below {d D : Nat} (h : d ≤ D) : PInj d D id (below d) := by
  refine ⟨fun x hx => Nat.lt_of_lt_of_le hx h, fun x hx => if_pos hx, ?_⟩
  intro r x _ e
  unfold below at e
  split at e
  · injection e with e; subst e; exact ⟨by assumption, rfl⟩
  · cases e

theorem pad_eq_embedVia (A : M K) (k : Nat) : A.pad k = Optic.embedVia (A.n + k) A (below A.n) := by
  unfold M.pad Optic.embedVia below
  apply M.ofFn_congr
  intro r c _ _
  by_cases hr : r < A.n
  · by_cases hc : c < A.n
    · rw [if_pos ⟨hr, hc⟩, if_pos hr, if_pos hc]
    · rw [if_neg (fun h => hc h.2), if_pos hr, if_neg hc]
  · rw [if_neg (fun h => hr h.1), if_neg hr]

/-- padding commutes with embedding when the new indices are mapped to the new indices -/
theorem embedVia_pad {k : Nat} (h : PInj d D fwd inv) (h' : PInj (d + k) (D + k) fwd inv) (A : M K)
    (hA : A.n = d) :
    (Optic.embedVia D A inv).pad k = Optic.embedVia (D + k) (A.pad k) inv := by
  rw [pad_eq_embedVia, pad_eq_embedVia, embedVia_n, hA,
    embedVia_comp (pinj_below (Nat.le_add_right D k)), embedVia_comp h']
  exact embedVia_eq_of_fwd (h.comp (pinj_below (Nat.le_add_right D k)))
    ((pinj_below (Nat.le_add_right d k)).comp h') (fun _ _ => rfl) A

theorem pad_mul {k : Nat} (A B : M K) (hB : B.n = A.n) :
    (A.mul B).pad k = (A.pad k).mul (B.pad k) := by
  rw [pad_eq_embedVia, pad_eq_embedVia, pad_eq_embedVia, hB]
  exact embedVia_mul (pinj_below (Nat.le_add_right _ _)) A B rfl

theorem one_pad (n k : Nat) : (M.one n : M K).pad k = M.one (n + k) := by
  rw [pad_eq_embedVia]
  exact embedVia_one (pinj_below (Nat.le_add_right _ _))

def blockInv (m n r : Nat) : Option Nat := if m ≤ r ∧ r < m + n then some (r - m) else none

theorem pinj_blockInv (m n D : Nat) (h : ∀ j, j < n → m + j < D) :
    PInj n D (m + ·) (blockInv m n) := by
  refine ⟨h, ?_, ?_⟩
  · intro x hx
    unfold blockInv
    rw [if_pos ⟨by omega, by omega⟩]
    congr 1; omega
  · intro r x _ e
    unfold blockInv at e
    split at e
    · injection e with e; constructor <;> omega
    · cases e

theorem embedBlock_eq_embedVia (D m : Nat) (u : M K) :
    embedBlock D m u = Optic.embedVia D u (blockInv m u.n) := by
  unfold embedBlock Optic.embedVia blockInv
  apply M.ofFn_congr
  intro r c _ _
  by_cases hr : m ≤ r ∧ r < m + u.n
  · by_cases hc : m ≤ c ∧ c < m + u.n
    · rw [if_pos ⟨hr.1, hr.2, hc.1, hc.2⟩, if_pos hr, if_pos hc]
    · rw [if_neg (fun h => hc ⟨h.2.2.1, h.2.2.2⟩), if_pos hr, if_neg hc]
  · rw [if_neg (fun h => hr ⟨h.1, h.2.1⟩), if_neg hr]

theorem embed2_embedVia (h : PInj d D fwd inv) {m1 m2 : Nat} (h1 : m1 < d) (h2 : m2 < d)
    (a b c e : K) :
    embed2 D (fwd m1) (fwd m2) a b c e = Optic.embedVia D (embed2 d m1 m2 a b c e) inv := by
  refine eq_embedVia h (M.isOfFn_ofFn _ _) rfl (fun x y hx hy => ?_) (fun r k hr hk hn => ?_)
    (fun r k hr hk hn => ?_)
  · rw [get_embed2 _ _ _ _ _ _ (h.fwd_lt x hx) (h.fwd_lt y hy), get_embed2 _ _ _ _ _ _ hx hy]
    simp only [h.eq_iff hx h1, h.eq_iff hx h2, h.eq_iff hy h1, h.eq_iff hy h2, h.eq_iff hx hy]
  · rw [get_embed2 _ _ _ _ _ _ hr hk]
    simp only [(h.ne_of_none h1 hn).symm, (h.ne_of_none h2 hn).symm, false_and, if_false]
  · rw [get_embed2 _ _ _ _ _ _ hr hk]
    simp only [(h.ne_of_none h1 hn).symm, (h.ne_of_none h2 hn).symm, and_false, if_false]

theorem embed1_embedVia (h : PInj d D fwd inv) {m : Nat} (h1 : m < d) (p : K) :
    embed1 D (fwd m) p = Optic.embedVia D (embed1 d m p) inv := by
  refine eq_embedVia h (M.isOfFn_ofFn _ _) rfl (fun x y hx hy => ?_) (fun r k hr hk hn => ?_)
    (fun r k hr hk hn => ?_)
  · rw [get_embed1 _ _ (h.fwd_lt x hx) (h.fwd_lt y hy), get_embed1 _ _ hx hy]
    simp only [h.eq_iff hx h1, h.eq_iff hx hy]
  · rw [get_embed1 _ _ hr hk, if_neg (h.ne_of_none h1 hn).symm]
  · rw [get_embed1 _ _ hr hk]
    by_cases e : r = k
    · rw [if_pos e, if_pos e, if_neg (fun e' => h.ne_of_none h1 hn (e'.symm.trans e))]
    · rw [if_neg e, if_neg e]

theorem embedBlock_embedVia (h : PInj d D fwd inv) {m m' : Nat} (u : M K) (hm : m + u.n ≤ d)
    (hf : ∀ j, j < u.n → fwd (m + j) = m' + j) :
    embedBlock D m' u = Optic.embedVia D (embedBlock d m u) inv := by
  rw [embedBlock_eq_embedVia, embedBlock_eq_embedVia, embedVia_comp h]
  exact embedVia_eq_of_fwd
    (pinj_blockInv m' u.n D fun j hj => by rw [← hf j hj]; exact h.fwd_lt _ (by omega))
    ((pinj_blockInv m u.n d fun j hj => by omega).comp h) (fun j hj => (hf j hj).symm) u

theorem permF_embedVia (h : PInj d D fwd inv) (t t' : Nat → Nat) (ht : ∀ x, x < d → t x < d)
    (hc : ∀ x, x < d → t' (fwd x) = fwd (t x)) (hfix : ∀ r, r < D → inv r = none → t' r = r) :
    (permF t' D : M K) = Optic.embedVia D (permF t d) inv := by
  refine eq_embedVia h (isOfFn_permF _ _) rfl (fun x y hx hy => ?_) (fun r k hr hk hn => ?_)
    (fun r k hr hk hn => ?_)
  · rw [get_permF _ (h.fwd_lt x hx) (h.fwd_lt y hy), get_permF _ hx hy, hc y hy]
    simp only [h.eq_iff (ht y hy) hx]
  · -- a column inside the image is sent inside the image, one outside is fixed
    rw [get_permF _ hr hk]
    cases hik : inv k with
    | none => rw [hfix k hk hik]; simp only [eq_comm]
    | some y =>
      obtain ⟨hy, rfl⟩ := h.inv_some k y hk hik
      rw [hc y hy, if_neg (h.ne_of_none (ht y hy) hn), if_neg (fun e => h.ne_of_none hy hn e.symm)]
  · rw [get_permF _ hr hk, hfix k hk hn]
    simp only [eq_comm]

end

section
variable [CommRing K] [StarRing K] {d D : Nat} {fwd : Nat → Nat} {inv : Nat → Option Nat}

theorem selF_conjTranspose (D d : Nat) (fwd : Nat → Nat) :
    (selF (K := K) D d fwd).conjTranspose = (selF D d fwd).transpose := by
  ext a r
  simp only [Matrix.conjTranspose_apply, Matrix.transpose_apply, selF, apply_ite star, star_one,
    star_zero]

theorem UN_embedVia (h : PInj d D fwd inv) {A : M K} (hA : A.UN d) :
    (Optic.embedVia D A inv).UN D := by
  unfold M.UN
  rw [toMatN_embedVia h]
  exact emb_mem_unitaryGroup (selF_isometry h) (selF_conjTranspose D d fwd) hA

theorem UN_embedBlock {N m : Nat} (u : M K) (h : m + u.n ≤ N) (hu : u.UN u.n) :
    (embedBlock N m u).UN N := by
  rw [embedBlock_eq_embedVia]
  exact UN_embedVia (pinj_blockInv m u.n N (fun j hj => by omega)) hu

theorem UN_pad {A : M K} {N k : Nat} (hA : A.n = N) (h : A.UN N) : (A.pad k).UN (N + k) := by
  subst hA
  rw [pad_eq_embedVia]
  exact UN_embedVia (pinj_below (Nat.le_add_right _ _)) h

end

end LW.Proofs.C02Sem
