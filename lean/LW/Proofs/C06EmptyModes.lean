/-
  LW.Proofs.C06EmptyModes — every group `group_empty_modes` returns is a run of at least two empty
  modes that ends where the state or the run ends: what `_full_distribution` needs in order to treat
  it as one block (that every such run is found is not needed and not stated).
-/
import Mathlib.Data.List.Basic
import Mathlib.Data.List.Range
import LW.Model.Source
import LW.Proofs.ListLemmas

namespace LW.Proofs.C06

open LW.Src

def zerosRun (l : List Nat) : Nat := (l.takeWhile (· == 0)).length

theorem zerosRun_spec (l : List Nat) :
    (∀ j, j < zerosRun l → l.getD j 1 = 0) ∧ zerosRun l ≤ l.length ∧
      (zerosRun l < l.length → l.getD (zerosRun l) 0 ≠ 0) := by
  induction l with
  | nil => exact ⟨fun j hj => absurd hj (Nat.not_lt_zero j), Nat.le_refl 0, fun h => absurd h (Nat.lt_irrefl 0)⟩
  | cons a l ih =>
    cases a with
    | zero =>
      have hz : zerosRun (0 :: l) = zerosRun l + 1 := rfl
      rw [hz]
      refine ⟨?_, Nat.succ_le_succ ih.2.1, fun h => ih.2.2 (Nat.lt_of_succ_lt_succ h)⟩
      intro j hj
      cases j with
      | zero => rfl
      | succ j => exact ih.1 j (Nat.lt_of_succ_lt_succ hj)
    | succ a =>
      exact ⟨fun j hj => absurd hj (Nat.not_lt_zero j), Nat.zero_le _, fun _ => Nat.succ_ne_zero a⟩

theorem forall_mem_snoc {α : Type} {l : List α} {a : α} {P : α → Prop} :
    (∀ x ∈ l ++ [a], P x) ↔ (∀ x ∈ l, P x) ∧ P a := by
  rw [List.forall_mem_append, List.forall_mem_singleton]

/-- what `_full_distribution` relies on: `ts` are exactly the non-initial modes of the groups, a
group is a run of ≥ 2 empty modes inside the state that cannot be extended to the right (`maximal`),
and group starts are not skipped -/
structure ValidGrouping (s : FState) (tg : List (Nat × List Nat)) (ts : List Nat) : Prop where
  skip_iff : ∀ k, k ∈ ts ↔ ∃ g ∈ tg, g.1 < k ∧ k < g.1 + g.2.length
  two_le : ∀ g ∈ tg, 2 ≤ g.2.length
  le_len : ∀ g ∈ tg, g.1 + g.2.length ≤ s.length
  zeros : ∀ g ∈ tg, ∀ k, g.1 ≤ k → k < g.1 + g.2.length → s.getD k 1 = 0
  maximal : ∀ g ∈ tg, g.1 + g.2.length < s.length → s.getD (g.1 + g.2.length) 0 ≠ 0
  start_not_skipped : ∀ g ∈ tg, g.1 ∉ ts

theorem getD_default {α : Type} (s : List α) (k : Nat) (d d' : α) (hk : k < s.length) :
    s.getD k d = s.getD k d' := by
  simp [List.getD_eq_getElem?_getD, hk]

theorem ValidGrouping.succ_not_skipped {s : FState} {tg : List (Nat × List Nat)} {ts : List Nat}
    (hv : ValidGrouping s tg ts) {c : Nat} (hc : c ∉ ts) (hfind : tg.find? (·.1 == c) = none) :
    c + 1 ∉ ts := by
  intro hmem
  obtain ⟨g, hg, hg1, hg2⟩ := (hv.skip_iff (c + 1)).1 hmem
  rcases Nat.lt_or_ge g.1 c with hlt | hge
  · exact hc ((hv.skip_iff c).2 ⟨g, hg, hlt, by omega⟩)
  · have hgc : g.1 = c := by omega
    have := List.find?_eq_none.1 hfind g hg
    simp [hgc] at this

theorem ValidGrouping.end_not_skipped {s : FState} {tg : List (Nat × List Nat)} {ts : List Nat}
    (hv : ValidGrouping s tg ts) {g : Nat × List Nat} (hg : g ∈ tg) :
    g.1 + g.2.length ∉ ts := by
  intro hmem
  obtain ⟨g', hg', hg1, hg2⟩ := (hv.skip_iff _).1 hmem
  have hlen' := hv.le_len g' hg'
  have hzero := hv.zeros g' hg' _ (by omega) hg2
  rw [getD_default s _ 1 0 (by omega)] at hzero
  exact hv.maximal g hg (by omega) hzero

/-- the loop body of `group_empty_modes`, copied from the model; the fold over it is
`groupEmptyModes s` by `rfl` (`groupEmptyModes_eq`), which `groupEmptyModes_valid` uses without a rewrite -/
def gemStep (s : FState) (acc : List (Nat × List Nat) × List Nat) (i : Nat) :
    List (Nat × List Nat) × List Nat :=
  if acc.2.contains i || i == s.length - 1 then acc
  else if s.getD i 0 == 0 then
    if s.getD (i + 1) 0 > 0 then acc
    else
      let n := ((s.drop i).takeWhile (· == 0)).length
      (acc.1 ++ [(i, (List.range n).map (· + i))],
       acc.2 ++ (List.range (n - 1)).map (· + (i + 1)))
  else acc

theorem groupEmptyModes_eq (s : FState) :
    groupEmptyModes s = (List.range s.length).foldl (gemStep s) ([], []) := rfl

/-- invariant of the loop after the modes `< i` -/
structure GemInv (s : FState) (i : Nat) (tg : List (Nat × List Nat)) (ts : List Nat) : Prop
    extends ValidGrouping s tg ts where
  start_lt : ∀ g ∈ tg, g.1 < i

theorem gemStep_inv (s : FState) (i : Nat) (hi : i < s.length) (acc : List (Nat × List Nat) × List Nat)
    (h : GemInv s i acc.1 acc.2) : GemInv s (i + 1) (gemStep s acc i).1 (gemStep s acc i).2 := by
  have keep : GemInv s (i + 1) acc.1 acc.2 :=
    { h with start_lt := fun g hg => Nat.lt_succ_of_lt (h.start_lt g hg) }
  unfold gemStep
  by_cases h1 : (acc.2.contains i || i == s.length - 1) = true
  · rw [if_pos h1]; exact keep
  · rw [if_neg h1]
    by_cases h2 : (s.getD i 0 == 0) = true
    · rw [if_pos h2]
      by_cases h3 : s.getD (i + 1) 0 > 0
      · rw [if_pos h3]; exact keep
      · rw [if_neg h3]
        simp only [Bool.or_eq_true, List.contains_iff_mem, beq_iff_eq, not_or] at h1
        obtain ⟨hnot, hlast⟩ := h1
        have hsi : s.getD i 0 = 0 := by simpa using h2
        have hsi1 : s.getD (i + 1) 0 = 0 := by omega
        have hi1 : i + 1 < s.length := by omega
        obtain ⟨hz, hle, hmax⟩ := zerosRun_spec (s.drop i)
        set n := ((s.drop i).takeWhile (· == 0)).length with hn
        have hnz : zerosRun (s.drop i) = n := rfl
        rw [hnz] at hz hle hmax
        rw [List.length_drop] at hle hmax
        -- the run has at least two modes
        have hn2 : 2 ≤ n := by
          by_contra hcon
          have hlt : n < s.length - i := by omega
          have := hmax hlt
          rw [getD_drop] at this
          have hn01 : n = 0 ∨ n = 1 := by omega
          rcases hn01 with h0 | h1'
          · rw [h0] at this; exact this (by simpa using hsi)
          · rw [h1'] at this; exact this hsi1
        have hlen : ((List.range n).map (· + i)).length = n := by simp
        refine
          { skip_iff := ?_, two_le := ?_, le_len := ?_, zeros := ?_, maximal := ?_,
            start_not_skipped := ?_, start_lt := ?_ }
        · intro k
          simp only [List.mem_append, List.mem_map, List.mem_range, List.mem_singleton]
          constructor
          · rintro (hk | ⟨a, ha, rfl⟩)
            · obtain ⟨g, hg, hgk⟩ := (h.skip_iff k).1 hk
              exact ⟨g, Or.inl hg, hgk⟩
            · exact ⟨_, Or.inr rfl, by simp only [hlen]; omega⟩
          · rintro ⟨g, hg | rfl, hgk⟩
            · exact Or.inl ((h.skip_iff k).2 ⟨g, hg, hgk⟩)
            · simp only [hlen] at hgk
              exact Or.inr ⟨k - (i + 1), by omega, by omega⟩
        · refine forall_mem_snoc.2 ⟨h.two_le, ?_⟩
          simpa [hlen] using hn2
        · refine forall_mem_snoc.2 ⟨h.le_len, ?_⟩
          simp only [hlen]; omega
        · refine forall_mem_snoc.2 ⟨h.zeros, ?_⟩
          intro k hk1 hk2
          simp only [hlen] at hk2
          have := hz (k - i) (by omega)
          rw [getD_drop] at this
          have hki : i + (k - i) = k := by omega
          rwa [hki] at this
        · refine forall_mem_snoc.2 ⟨h.maximal, ?_⟩
          intro hlt
          simp only [hlen] at hlt ⊢
          have := hmax (by omega)
          rwa [getD_drop] at this
        · intro g hg
          simp only [List.mem_append, List.mem_singleton, List.mem_map, List.mem_range] at hg ⊢
          rcases hg with hg | rfl
          · rintro (hk | ⟨a, _, ha⟩)
            · exact h.start_not_skipped g hg hk
            · have := h.start_lt g hg; omega
          · rintro (hk | ⟨a, _, ha⟩)
            · exact hnot hk
            · simp only at ha; omega
        · exact forall_mem_snoc.2 ⟨fun g hg => Nat.lt_succ_of_lt (h.start_lt g hg), Nat.lt_succ_self _⟩
    · rw [if_neg h2]; exact keep

theorem gem_fold_inv (s : FState) (i : Nat) (hi : i ≤ s.length) :
    GemInv s i ((List.range i).foldl (gemStep s) ([], [])).1
      ((List.range i).foldl (gemStep s) ([], [])).2 := by
  induction i with
  | zero =>
    have hnil : ∀ {p : Nat × List Nat → Prop}, ∀ g ∈ ([] : List (Nat × List Nat)), p g :=
      fun g hg => absurd hg List.not_mem_nil
    exact
      { skip_iff := fun k => ⟨fun h => absurd h List.not_mem_nil,
          fun ⟨g, hg, _⟩ => absurd hg List.not_mem_nil⟩,
        two_le := hnil, le_len := hnil, zeros := hnil, maximal := hnil, start_not_skipped := hnil,
        start_lt := hnil }
  | succ i ih =>
    rw [List.range_succ, List.foldl_append, List.foldl_cons, List.foldl_nil]
    exact gemStep_inv s i (by omega) _ (ih (by omega))

theorem groupEmptyModes_valid (s : FState) :
    ValidGrouping s (groupEmptyModes s).1 (groupEmptyModes s).2 :=
  (gem_fold_inv s s.length (le_refl _)).toValidGrouping

end LW.Proofs.C06
