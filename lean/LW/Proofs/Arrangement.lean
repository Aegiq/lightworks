/-
  LW.Proofs.Arrangement — index maps without matrices. `sel L base` reads a list as a function; an
  arrangement of `[0, n)` is a list of the numbers below `n`, each once, and `sel L n` is then a
  bijection of the naturals that fixes everything from `n` on. The index maps of the refinement of
  `Circuit.add` are such: `arr c anc` (`[ports | ancillas in the order anc]`; `Circ.optMode` is the
  one for `anc = internal`) and the column and row selectors `colM`, `rowM` of a closed form
  (`[free modes | heralds]`).
-/
import Mathlib.Data.List.Sort
import Mathlib.Data.List.GetD
import LW.Model.Abs
import LW.Proofs.C02Calls
import LW.Proofs.C02Swaps

namespace LW.Proofs.C02Sem

open LW LW.Proofs.C02

variable {K : Type}

/-- a fact of `freeOf` (`ModeRank`), here because it rests on Mathlib's `List.Pairwise.eq_of_mem_iff`
and `ModeRank` is free of Mathlib; behind `free_map_of_her` (C02SemClosed) and `Ctx.res_portModes`
(C02SemAddArr) -/
theorem map_freeOf {g : Nat → Nat} {n n' : Nat} {l l' : List Nat} (hg : ∀ a b, a < b → b < n → g a < g b)
    (h : ∀ y, (y < n' ∧ y ∉ l') ↔ ∃ x, (x < n ∧ x ∉ l) ∧ g x = y) :
    (freeOf n l).map g = freeOf n' l' :=
  List.Pairwise.eq_of_mem_iff (r := (· < ·))
    (List.pairwise_map.mpr ((freeOf_sorted n l).imp_of_mem fun _ hb hab => hg _ _ hab (mem_freeOf.mp hb).1))
    (freeOf_sorted _ _) fun y => by
      rw [mem_freeOf, List.mem_map, h]
      exact exists_congr fun x => and_congr_left fun _ => mem_freeOf

def sel (L : List Nat) (base y : Nat) : Nat :=
  if y < L.length then L.getD y 0 else base + (y - L.length)

theorem sel_append (A B : List Nat) (base y : Nat) :
    sel (A ++ B) base y =
      if y < A.length then A.getD y 0
      else if y < A.length + B.length then B.getD (y - A.length) 0
      else base + (y - A.length - B.length) := by
  unfold sel
  rw [List.length_append]
  by_cases h1 : y < A.length
  · rw [if_pos (by omega), if_pos h1, List.getD_append _ _ _ _ h1]
  · rw [if_neg h1]
    by_cases h2 : y < A.length + B.length
    · rw [if_pos h2, if_pos h2, List.getD_append_right _ _ _ _ (by omega)]
    · rw [if_neg h2, if_neg h2, Nat.sub_sub]

theorem sel_map (f : Nat → Nat) (L : List Nat) {base base' : Nat}
    (hb : ∀ k, f (base + k) = base' + k) (y : Nat) :
    sel (L.map f) base' y = f (sel L base y) := by
  unfold sel
  rw [List.length_map]
  split
  · rename_i h
    rw [List.getD_eq_getElem _ _ (by rw [List.length_map]; exact h), List.getD_eq_getElem _ _ h,
      List.getElem_map]
  · rw [hb]

theorem sel_lt {L : List Nat} {base N y : Nat} (hL : ∀ x ∈ L, x < N)
    (hy : L.length ≤ y → base + (y - L.length) < N) :
    sel L base y < N := by
  unfold sel
  split
  · rename_i h
    rw [List.getD_eq_getElem _ _ h]
    exact hL _ (List.getElem_mem h)
  · exact hy (by omega)

theorem sel_surj {L : List Nat} {base x : Nat} (h : x ∈ L ∨ base ≤ x) :
    ∃ y, sel L base y = x ∧ (x ∈ L → y < L.length) ∧ (x ∉ L → y = L.length + (x - base)) := by
  by_cases hx : x ∈ L
  · obtain ⟨j, hj, e⟩ := List.mem_iff_getElem.mp hx
    refine ⟨j, ?_, fun _ => hj, fun h' => absurd hx h'⟩
    unfold sel
    rw [if_pos hj, List.getD_eq_getElem _ _ hj, e]
  · refine ⟨L.length + (x - base), ?_, fun h' => absurd h' hx, fun _ => rfl⟩
    unfold sel
    rw [if_neg (by omega)]
    have := h.resolve_left hx
    omega

theorem sel_inj {L : List Nat} {base : Nat} (hnd : L.Nodup) (hL : ∀ x ∈ L, x < base) {a b : Nat}
    (e : sel L base a = sel L base b) : a = b := by
  unfold sel at e
  by_cases ha : a < L.length
  · rw [if_pos ha, List.getD_eq_getElem _ _ ha] at e
    by_cases hb : b < L.length
    · rw [if_pos hb, List.getD_eq_getElem _ _ hb] at e
      exact (List.Nodup.getElem_inj_iff hnd).mp e
    · rw [if_neg hb] at e
      have := hL _ (List.getElem_mem ha); omega
  · rw [if_neg ha] at e
    by_cases hb : b < L.length
    · rw [if_pos hb, List.getD_eq_getElem _ _ hb] at e
      have := hL _ (List.getElem_mem hb); omega
    · rw [if_neg hb] at e; omega

section Arr
variable {L : List Nat} {n : Nat} (hL : L.Perm (List.range n))
include hL

theorem perm_range_lt {x : Nat} (hx : x ∈ L) : x < n := List.mem_range.mp (hL.subset hx)

theorem perm_range_length : L.length = n := hL.length_eq.trans List.length_range

theorem sel_arr_inj {a b : Nat} (e : sel L n a = sel L n b) : a = b :=
  sel_inj (hL.nodup_iff.mpr List.nodup_range) (fun _ => perm_range_lt hL) e

theorem sel_arr_ge {R : Nat} (h : n ≤ R) : sel L n R = R := by
  rw [sel, perm_range_length hL, if_neg (Nat.not_lt.mpr h), Nat.add_sub_cancel' h]

theorem sel_arr_lt {R N : Nat} (hN : n ≤ N) (h : R < N) : sel L n R < N :=
  sel_lt (fun x hx => Nat.lt_of_lt_of_le (perm_range_lt hL hx) hN) fun h' => by
    rw [perm_range_length hL] at h' ⊢; omega

theorem sel_arr_surj {z : Nat} (hz : z < n) : ∃ y < n, sel L n y = z := by
  have hm : z ∈ L := hL.symm.subset (List.mem_range.mpr hz)
  obtain ⟨y, e, hy, -⟩ := sel_surj (base := n) (.inl hm)
  exact ⟨y, perm_range_length hL ▸ hy hm, e⟩

end Arr

theorem perm_freeOf_append {n : Nat} {l : List Nat} (hnd : l.Nodup) (hlt : ∀ x ∈ l, x < n) :
    (freeOf n l ++ l).Perm (List.range n) :=
  List.perm_append_comm.trans (perm_append_freeOf n l hnd hlt)

section
variable (c : Circ K)

theorem portModes_eq_freeOf : c.portModes = freeOf c.n c.internal := rfl

theorem mem_portModes {x : Nat} : x ∈ c.portModes ↔ x < c.n ∧ x ∉ c.internal := mem_freeOf

theorem portModes_sorted : c.portModes.Pairwise (· < ·) := freeOf_sorted _ _

theorem portModes_nodup : c.portModes.Nodup :=
  (portModes_sorted c).imp (fun h => Nat.ne_of_lt h)

theorem portModes_length (hwf : c.WF) : c.portModes.length + c.internal.length = c.n := by
  have h := length_freeOf c.n c.internal hwf.intNodup (WF.internal_lt hwf)
  have := WF.internal_length_le hwf
  rw [portModes_eq_freeOf, h]
  omega

theorem portModes_length_eq_ports (hwf : c.WF) : c.portModes.length = c.ports := by
  have := portModes_length c hwf
  unfold Circ.ports
  omega

/-- index map of the arrangement `[ports | anc]` of the modes of `c`, for an order `anc` of its
ancillas: index `R` of an optic that lists the ancillas in this order stands for the mode
`arr c anc R`, a loss index for itself. `Circ.optMode` is the one with `anc = internal`. -/
def arr (anc : List Nat) (R : Nat) : Nat := sel (c.portModes ++ anc) c.n R

theorem optMode_eq_arr : c.optMode = arr c c.internal :=
  funext fun _ => (sel_append _ _ _ _).symm

section
variable {c} {anc : List Nat}

theorem arr_port {r : Nat} (hr : r < c.portModes.length) : arr c anc r = c.portModes[r] := by
  rw [arr, sel_append, if_pos hr, List.getD_eq_getElem _ _ hr]

variable (hwf : c.WF) (ha : anc.Perm c.internal)
include hwf ha

theorem perm_ports : (c.portModes ++ anc).Perm (List.range c.n) :=
  ((List.Perm.append_left _ ha).trans List.perm_append_comm).trans
    (perm_append_freeOf c.n c.internal hwf.intNodup (WF.internal_lt hwf))

theorem arr_ge {R : Nat} (h : c.n ≤ R) : arr c anc R = R := sel_arr_ge (perm_ports hwf ha) h

theorem arr_lt {R N : Nat} (hN : c.n ≤ N) (h : R < N) : arr c anc R < N := sel_arr_lt (perm_ports hwf ha) hN h

theorem arr_inj {a b : Nat} (e : arr c anc a = arr c anc b) : a = b := sel_arr_inj (perm_ports hwf ha) e

end

end

/-- column selector of the closed form of a circuit: the arrangement `[free modes | input heralds]` -/
def colM (c : Circ K) (y : Nat) : Nat := sel (freeOf c.n c.inHer.keys ++ c.inHer.keys) c.n y

/-- row selector of the closed form of a circuit: the arrangement `[free modes | output heralds]` -/
def rowM (c : Circ K) (y : Nat) : Nat := sel (freeOf c.n c.outHer.keys ++ c.outHer.keys) c.n y

theorem colM_lt (c : Circ K) (hwf : c.WF) {y l : Nat} (hy : y < c.n + l) : colM c y < c.n + l :=
  sel_arr_lt (perm_freeOf_append hwf.inNodup hwf.inLt) (Nat.le_add_right _ _) hy

end LW.Proofs.C02Sem
