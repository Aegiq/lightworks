/-
  LW.Proofs.C06Limits — the two limiting clauses of C06, for every input state: purity 1 and
  indistinguishability 0 gives independent classical particles (`classicalMix`), purity 1 and
  indistinguishability 1 gives the brightness-only path.  Both are `output_per_photon` at a table
  with two live outcomes; both sides of both clauses come to the normal form
  `emitMix ν (partitionIdx s) Φ`.
-/
import LW.Proofs.C06Hom

namespace LW.Proofs.C06

open LW.Src LW.SV

section Limits
set_option linter.unusedSectionVars false

section Two
variable {K Q : Type} [CommRing K] [Field Q] [LinearOrder Q] [IsStrictOrderedRing Q]

/-- independent classical particles: each photon of `ms` (given by its mode) is emitted with
probability `nu` and then moves by its own single-photon distribution; the outputs are merged -/
def classicalMix (fd : FState → PDist Q) (n : Nat) (nu : Q) :
    List Nat → Option FState → (FState → Q) → Q
  | [], none, F => mix (fd (List.replicate n 0)) F
  | [], some a, F => F a
  | m :: ms, o, F =>
    (1 - nu) * classicalMix fd n nu ms o F +
      nu * mix (fd (unitVec n m)) (fun b => classicalMix fd n nu ms (some (mergeO o b)) F)

/-- the two limiting clauses are written once, as `Prop`s: LW/Properties/C06 repeats them by name
(`zero_indist_classical_statement := Proofs.C06.zero_indist_classical_statement`) and proves them by
the theorems below -/
def zero_indist_classical_statement : Prop :=
  ∀ (K Q : Type) [CommRing K] [Field Q] [LinearOrder Q] [IsStrictOrderedRing Q]
    (b : BackendKind) (nsq : K → Q) (eps : Q) (U : M K) (nReal : Nat) (P : Params Q),
    InRange P → P.p2 = 0 → P.pi = 0 → ∀ (s : FState), s.length = nReal → s ≠ [] →
    (∀ g : FState, g.length = nReal → fullDist b nsq eps U nReal g ≠ []) → ∀ (F : FState → Q),
    mix (annotatedPdist b nsq eps U nReal (buildStatisticsFull P s)) F =
      classicalMix (fullDist b nsq eps U nReal) nReal P.nu (partitionIdx s) none F

def basic_path_eq_full_path_statement : Prop :=
  ∀ (K Q : Type) [CommRing K] [Field Q] [LinearOrder Q] [IsStrictOrderedRing Q]
    (b : BackendKind) (nsq : K → Q) (eps : Q) (U : M K) (nReal : Nat) (P : Params Q),
    InRange P → P.p2 = 0 → P.pi = 1 → ∀ (s : FState), s.length = nReal → s ≠ [] →
    (∀ g : FState, g.length = nReal → fullDist b nsq eps U nReal g ≠ []) → ∀ (F : FState → Q),
    mix (annotatedPdist b nsq eps U nReal (buildStatisticsFull P s)) F =
      mix (C04a.calcPd b nsq eps U nReal (buildStatisticsBasic P s)) F

end Two

section Classical
variable {Q : Type} [Field Q] [LinearOrder Q] [IsStrictOrderedRing Q]

/-- the emitted photons `e` (given by their modes) move independently, outputs merged -/
def clEnd (fd : FState → PDist Q) (n : Nat) : List Nat → Option FState → (FState → Q) → Q
  | [], none, F => mix (fd (List.replicate n 0)) F
  | [], some a, F => F a
  | m :: e, o, F => mix (fd (unitVec n m)) (fun b => clEnd fd n e (some (mergeO o b)) F)

theorem clEnd_cons (fd : FState → PDist Q) (n m : Nat) (e : List Nat) (o : Option FState)
    (F : FState → Q) :
    clEnd fd n (m :: e) o F =
      mix (fd (unitVec n m)) (fun b => clEnd fd n e (some (mergeO o b)) F) := by
  cases o <;> rfl

theorem classicalMix_cons (fd : FState → PDist Q) (n : Nat) (nu : Q) (m : Nat) (ms : List Nat)
    (o : Option FState) (F : FState → Q) :
    classicalMix fd n nu (m :: ms) o F =
      (1 - nu) * classicalMix fd n nu ms o F +
        nu * mix (fd (unitVec n m)) (fun b => classicalMix fd n nu ms (some (mergeO o b)) F) := by
  cases o <;> rfl

theorem classicalMix_eq_emitMix (fd : FState → PDist Q) (n : Nat) (nu : Q) (ms : List Nat)
    (o : Option FState) (F : FState → Q) :
    classicalMix fd n nu ms o F = emitMix nu ms (fun e => clEnd fd n e o F) := by
  induction ms generalizing o with
  | nil => cases o <;> rfl
  | cons m ms ih =>
    rw [classicalMix_cons, ih o]
    simp only [emitMix, clEnd_cons]
    rw [← mix_emitMix]
    congr 2
    apply mix_congr
    intro x _
    exact ih _

theorem clEnd_some (fd : FState → PDist Q) (n : Nat) (e : List Nat) (a : FState) (F : FState → Q) :
    clEnd fd n e (some a) F = specConvO (e.map fun m => fd (unitVec n m)) (some a) F := by
  induction e generalizing a with
  | nil => rfl
  | cons m e ih =>
    rw [clEnd_cons, List.map_cons]
    unfold specConvO
    apply mix_congr
    intro x _
    exact ih _

theorem clEnd_none_cons (fd : FState → PDist Q) (n m : Nat) (e : List Nat) (F : FState → Q) :
    clEnd fd n (m :: e) none F = mixGroups ((m :: e).map fun m => fd (unitVec n m)) F := by
  rw [mixGroups_eq, clEnd_cons, List.map_cons]
  unfold specConvO
  apply mix_congr
  intro x _
  exact clEnd_some fd n e _ F

end Classical

theorem zero_indist_classical : zero_indist_classical_statement := by
  intro K Q _ _ _ _ b nsq eps U nReal P h hx hq s _ hs hne F
  rw [output_per_photon b nsq eps U nReal P h s hs hne F, classicalMix_eq_emitMix]
  refine photonMix_eq_emitMix P id (fun ctr H => ?_) _ 1 _ _ fun e ⟨cs, h1, _, h3⟩ => ?_
  · rw [mix_outcomeTable_pure P hx, hq]
    simp
  -- the labels are the counters of the photons emitted, hence distinct
  have hnd : (e.map (·.2)).Nodup := by
    rw [h3, List.map_id]
    exact h1.imp (fun hlt => ne_of_lt hlt)
  rw [mixGroups_perm ((groupsP_distinct nReal e hnd).map _) F]
  cases e with
  | nil => rfl
  | cons p e' =>
    simp only [List.isEmpty_cons, Bool.false_eq_true, if_false, List.map_cons]
    rw [clEnd_none_cons]
    simp [List.map_map, Function.comp_def]

theorem basic_path_eq_full_path : basic_path_eq_full_path_statement := by
  intro K Q _ _ _ _ b nsq eps U nReal P h hx hq s hlen hs hne F
  rw [output_per_photon b nsq eps U nReal P h s hs hne F, C04a.mix_calcPd,
    mix_buildStatisticsBasic P h s]
  refine photonMix_eq_emitMix P (fun _ => 0) (fun ctr H => ?_) _ 1 _ _ fun e ⟨cs, _, _, h3⟩ => ?_
  · rw [mix_outcomeTable_pure P hx, hq]
    simp
  have h0 : ∀ p ∈ e, p.2 = 0 := fun p hp => by
    have : p.2 ∈ e.map (·.2) := List.mem_map.2 ⟨p, hp, rfl⟩
    rw [h3] at this
    obtain ⟨_, _, hc⟩ := List.mem_map.1 this
    exact hc.symm
  rw [groupsP_zero nReal e h0, hlen]
  rfl

end Limits

end LW.Proofs.C06
