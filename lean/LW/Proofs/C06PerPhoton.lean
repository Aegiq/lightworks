/-
  LW.Proofs.C06PerPhoton — the specification `specFull` of the input statistics re-enumerated photon
  by photon, head first, for every source:
      mix (specFull P s).1 G = photonMix P (partitionIdx s) 1 Ψ
  whenever `G (AState.new rows) = Ψ (pairsFrom 0 rows)`; the pairs `(mode, label)` of the emitted
  photons are produced in the order of `partitionIdx s`.  A source whose table has two live outcomes
  is independent emission (`photonMix_eq_emitMix`).
-/
import LW.Proofs.C06Remap

-- the statements of the C06 chain keep the section's instance arguments whether they use them or not
set_option linter.unusedSectionVars false

namespace LW.Proofs.C06

open LW.Src LW.SV

section
variable {Q : Type} [Field Q] [LinearOrder Q] [IsStrictOrderedRing Q]

theorem mix_specMode_cons (P : Params Q) (ctr : Int) (k : Nat) (H : List Int → Q) :
    mix (specMode P ctr (k + 1)) H =
      mix (outcomeTable P ctr) (fun b => mix (specMode P (ctr + 2) k) (fun a => H (b ++ a))) := by
  induction k generalizing H with
  | zero =>
    rw [mix_specMode_succ]
    simp [specMode]
  | succ k ih =>
    rw [mix_specMode_succ, ih]
    apply mix_congr
    intro b _
    rw [mix_specMode_succ]
    have e : ctr + 2 + 2 * (k : Int) = ctr + 2 * ((k + 1 : Nat) : Int) := by push_cast; ring
    rw [e]
    simp only [List.append_assoc]

/-- the source photon by photon: the `j`-th photon of `ms` (given by its mode) draws one of the six
outcomes of `outcomeTable` at counter `ctr + 2j`; the observable sees the `(mode, label)` pairs
emitted -/
def photonMix (P : Params Q) : List Nat → Int → (List (Nat × Int) → Q) → Q
  | [], _, Ψ => Ψ []
  | m :: ms, ctr, Ψ =>
    mix (outcomeTable P ctr) fun l =>
      photonMix P ms (ctr + 2) fun e => Ψ (l.map (fun x => (m, x)) ++ e)

theorem mix_specMode_photon (P : Params Q) (c : Nat) (rest : List Nat) (k : Nat) (ctr : Int)
    (Θ : List (Nat × Int) → Q) :
    mix (specMode P ctr k) (fun l => photonMix P rest (ctr + 2 * (k : Int))
        (fun e => Θ (l.map (fun x => (c, x)) ++ e))) =
      photonMix P (List.replicate k c ++ rest) ctr Θ := by
  induction k generalizing ctr Θ with
  | zero => simp [specMode]
  | succ k ih =>
    rw [mix_specMode_cons, List.replicate_succ, List.cons_append, photonMix]
    refine mix_congr _ _ _ fun b _ => ?_
    have e : ctr + 2 * ((k + 1 : Nat) : Int) = ctr + 2 + 2 * (k : Int) := by push_cast; ring
    simp only [e, List.map_append, List.append_assoc]
    exact ih (ctr + 2) fun e => Θ (b.1.map (fun x => (c, x)) ++ e)

/-- the remaining modes of `specFull` on raw rows (the constructor sorts them) -/
def rowsMix (P : Params Q) : List Nat → Int → List (List Int) → (List (List Int) → Q) → Q
  | [], _, rows, G => G rows
  | n :: modes, ctr, rows, G =>
    mix (specMode P ctr n) (fun l => rowsMix P modes (ctr + 2 * (n : Int)) (rows ++ [l]) G)

theorem new_add_emb (rows : List (List Int)) (l : List Int) :
    (AState.new rows).add (emb l) = AState.new (rows ++ [l]) := by
  unfold emb
  rw [AState.add_new]
  simp [AState.new, sortInt_idem]

theorem mix_specFold_rows (P : Params Q) (modes : List Nat) (R : List (List (List Int) × Q))
    (ctr : Int) (G : AState → Q) :
    mix (specFold P modes (R.map fun x => (AState.new x.1, x.2), ctr)).1 G =
      mix R fun rows => rowsMix P modes ctr rows fun r => G (AState.new r) := by
  induction modes generalizing R ctr with
  | nil => exact mix_map_key R AState.new G
  | cons n modes ih =>
    have hstep : specStep P (R.map fun x => (AState.new x.1, x.2)) ctr n =
        (R.flatMap fun x => (specMode P ctr n).map fun y => (x.1 ++ [y.1], x.2 * y.2)).map
          fun x => (AState.new x.1, x.2) := by
      simp only [specStep, List.flatMap_map, List.map_flatMap, List.map_map, Function.comp_def,
        new_add_emb]
    rw [specFold_cons, hstep, ih, mix_product R (specMode P ctr n) (fun a l => a ++ [l])]
    rfl

theorem rowsMix_photon (P : Params Q) (modes : List Nat) (ctr : Int) (rows : List (List Int))
    (Ψ : List (Nat × Int) → Q) :
    rowsMix P modes ctr rows (fun r => Ψ (pairsFrom 0 r)) =
      photonMix P (QF.idxsFrom rows.length modes) ctr (fun e => Ψ (pairsFrom 0 rows ++ e)) := by
  induction modes generalizing ctr rows with
  | nil => simp [rowsMix, QF.idxsFrom, photonMix]
  | cons n modes ih =>
    simp only [rowsMix, QF.idxsFrom]
    rw [← mix_specMode_photon P rows.length (QF.idxsFrom (rows.length + 1) modes) n ctr
      (fun e => Ψ (pairsFrom 0 rows ++ e))]
    refine mix_congr _ _ _ fun x _ => ?_
    rw [ih, pairsFrom_snoc]
    simp [List.append_assoc]

theorem mix_specFull_photon (P : Params Q) (s : FState) (G : AState → Q)
    (Ψ : List (Nat × Int) → Q) (hG : ∀ rows, G (AState.new rows) = Ψ (pairsFrom 0 rows)) :
    mix (specFull P s).1 G = photonMix P (partitionIdx s) 1 Ψ := by
  have h := mix_specFold_rows P s [([], 1)] 1 G
  simp only [List.map_cons, List.map_nil, mix_cons, mix_nil, one_mul, add_zero] at h
  rw [specFull, h, (funext hG : (fun r => G (AState.new r)) = fun r => Ψ (pairsFrom 0 r)),
    rowsMix_photon, C03.partitionIdx_eq_idxs]
  simp [pairsFrom, QF.idxs]

/-- the labels of the emitted photons are `lab` of strictly increasing counters `≥ ctr` -/
def EmInv (lab : Int → Int) (ctr : Int) (e : List (Nat × Int)) : Prop :=
  ∃ cs : List Int, cs.Pairwise (· < ·) ∧ (∀ x ∈ cs, ctr ≤ x) ∧ e.map (·.2) = cs.map lab

/-- a source with two live outcomes — nothing, or one photon labelled `lab ctr` — is independent
emission; the observable is compared on the label patterns that can occur -/
theorem photonMix_eq_emitMix (P : Params Q) (lab : Int → Int)
    (htable : ∀ (ctr : Int) (H : List Int → Q),
      mix (outcomeTable P ctr) H = (1 - P.nu) * H [] + P.nu * H [lab ctr])
    (ms : List Nat) (ctr : Int) (Ψ : List (Nat × Int) → Q) (Φ : List Nat → Q)
    (h : ∀ e, EmInv lab ctr e → Ψ e = Φ (e.map (·.1))) :
    photonMix P ms ctr Ψ = emitMix P.nu ms Φ := by
  induction ms generalizing ctr Ψ Φ with
  | nil => exact h [] ⟨[], List.Pairwise.nil, by simp, rfl⟩
  | cons m ms ih =>
    rw [photonMix, htable, emitMix]
    simp only [List.map_nil, List.nil_append, List.map_cons, List.cons_append]
    rw [ih (ctr + 2) _ Φ, ih (ctr + 2) _ (fun e => Φ (m :: e))]
    · intro e ⟨cs, h1, h2, h3⟩
      refine h _ ⟨ctr :: cs, List.pairwise_cons.2 ⟨fun x hx => ?_, h1⟩, fun x hx => ?_, by simp [h3]⟩
      · have := h2 x hx; omega
      · rcases List.mem_cons.1 hx with rfl | hx
        · exact le_refl _
        · have := h2 x hx; omega
    · intro e ⟨cs, h1, h2, h3⟩
      exact h e ⟨cs, h1, fun x hx => by have := h2 x hx; omega, h3⟩

end

end LW.Proofs.C06
