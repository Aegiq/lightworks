/-
  Tables in the exact towers themselves, with the towers' semantic equality.  A tower has no ring
  laws to reason with (its zero is not stored canonically), so a table there cannot be moved from one
  way of computing the amplitudes to another directly.  It has an image in a commutative ring that
  loses nothing: `ℤ[1/6] → ℚ`, and level by level `K[√d] → C[X]/(X² − ψ d)` (`QuadraticAlgebra`), with
  `ψ x = ψ y` exactly when `x` and `y` are semantically equal.  A table decided by `closedTable` is
  compared there entry by entry (`HasSem.eqv_congr`).
-/
import Mathlib.Algebra.QuadraticAlgebra.Defs
import LW.Proofs.C13Compile

namespace LW.Gates

def EComplete {T R : Type} [Eqv T] (φ : T → R) : Prop := ∀ x y, φ x = φ y → Eqv.eqv x y = true

theorem phi6_ecomplete : EComplete (phi6 ℚ) := by
  intro x y h
  have h6 : ((6 : ℚ) ^ x.e ≠ 0) ∧ ((6 : ℚ) ^ y.e ≠ 0) :=
    ⟨pow_ne_zero _ (by norm_num), pow_ne_zero _ (by norm_num)⟩
  simp only [phi6] at h
  rw [div_eq_div_iff h6.1 h6.2] at h
  have h' : x.n * S6.pow6 y.e = y.n * S6.pow6 x.e := by
    have : ((x.n * S6.pow6 y.e : Int) : ℚ) = ((y.n * S6.pow6 x.e : Int) : ℚ) := by
      push_cast [cast_pow6]
      exact h
    exact_mod_cast this
  simpa [Eqv.eqv] using h'

section Level
variable {C : Type} [CommRing C] (a : C)

def qaRoot : QuadraticAlgebra C a 0 := ⟨0, 1⟩

theorem qaRoot_sq : qaRoot a * qaRoot a = algebraMap C (QuadraticAlgebra C a 0) a := by
  ext <;> simp [qaRoot]

theorem qa_re (x y : C) :
    (algebraMap C (QuadraticAlgebra C a 0) x + qaRoot a * algebraMap C (QuadraticAlgebra C a 0) y).re
      = x := by
  simp [qaRoot]

theorem qa_im (x y : C) :
    (algebraMap C (QuadraticAlgebra C a 0) x + qaRoot a * algebraMap C (QuadraticAlgebra C a 0) y).im
      = y := by
  simp [qaRoot]

end Level

def HasSem (T : Type) [Add T] [Mul T] [Neg T] [Zero T] [One T] [ZTest T] [Eqv T] : Prop :=
  ∃ (C : Type) (_ : CommRing C) (ψ : T → C), Sound ψ ∧ EComplete ψ

theorem hasSem_S6 : HasSem S6 :=
  ⟨ℚ, inferInstance, phi6 ℚ, phi6_sound (by norm_num), phi6_ecomplete⟩

/-- the level map `a + b√d ↦ ψ a + ω·ψ b` into `C[X]/(X² − ψ d)` is `quadPhi` with the root `ω` -/
theorem HasSem.quad {K : Type} [Add K] [Mul K] [Neg K] [Zero K] [One K] [ZTest K] [Eqv K] {d : K}
    (h : HasSem K) : HasSem (Quad K d) := by
  obtain ⟨C, _, ψ, h, hc⟩ := h
  refine ⟨QuadraticAlgebra C (ψ d) 0, inferInstance,
    quadPhi (fun x => algebraMap C (QuadraticAlgebra C (ψ d) 0) (ψ x)) (qaRoot (ψ d)),
    (h.comp (algebraMap C (QuadraticAlgebra C (ψ d) 0))).quad (qaRoot_sq (ψ d)), fun x y e => ?_⟩
  have h1 := congrArg QuadraticAlgebra.re e
  have h2 := congrArg QuadraticAlgebra.im e
  unfold quadPhi at h1 h2
  rw [qa_re, qa_re] at h1
  rw [qa_im, qa_im] at h2
  show (Eqv.eqv x.a y.a && Eqv.eqv x.b y.b) = true
  rw [hc _ _ h1, hc _ _ h2]
  rfl

section Tower
variable {T : Type} [Add T] [Mul T] [Neg T] [Zero T] [One T] [ZTest T] [Eqv T]

theorem HasSem.eqv_congr (hs : HasSem T) {x x' y : T}
    (hx : ∀ (C : Type) [CommRing C] (ψ : T → C), THom ψ → ψ x' = ψ x) (h : Eqv.eqv x' y = true) :
    Eqv.eqv x y = true := by
  obtain ⟨C, _, ψ, ⟨hψ, _, he⟩, hc⟩ := hs
  exact hc _ _ ((hx C ψ hψ).symm.trans (he _ _ h))

theorem eqv_permAmp_of_closed (hs : HasSem T) (U U' : Nat → Nat → T)
    (hU : ∀ (C : Type) [CommRing C] (ψ : T → C), THom ψ → ∀ r c, ψ (U' r c) = ψ (U r c))
    (n : Nat) (hin hout : Dict) (ins outs : List Nat) (y : T)
    (h : Eqv.eqv (closedAmp U' n hin hout ins outs) y = true) :
    Eqv.eqv (QF.permAmp U n hin hout ins outs) y = true :=
  hs.eqv_congr (fun C _ ψ hψ => (map_closedAmp hψ (hU C ψ hψ) n hin hout ins outs).trans
    (map_permAmp hψ U _ (fun _ _ => rfl) n hin hout ins outs).symm) h

/-- **A table in a tower from `closedTable`**, for a gate that is one block `u` on all its modes;
`closedTable` may be decided on another matrix `U` with the same image as `u` in every ring -/
theorem HasTable.tower_one (hs : HasSem T) (i : T) {n : Nat} (her : Dict) {u : M T} (U : M T)
    (hu : u.IsOfFn) (hn : u.n = n) (hUn : U.n = n)
    (hU : ∀ (C : Type) [CommRing C] (ψ : T → C), THom ψ → ∀ r c, ψ (U.get r c) = ψ (u.get r c))
    {nq : Nat} {k : T} {G : List Bool → List Bool → Int} {lf : Bool}
    (ht : closedTable U her nq k G lf = true) :
    HasTable eqvRel i (.ok (gateCirc n her [.unitary 0 u])) nq k G lf := by
  subst hUn
  refine hasTable_ok_iff.mpr <| (tableB_spec ht).mono fun ins outs g hg =>
    hs.eqv_congr (fun C _ ψ hψ => ?_) hg
  rw [map_gateAmp hψ]
  exact map_closedAmp hψ (fun r c => (hU C ψ hψ r c).trans ((M.get_map ψ hψ.map_zero u r c).symm.trans
    (gateCirc_Ufull_one (ψ i) her (u.map ψ) (hu.map ψ) hn r c).symm)) _ _ _ _ _

end Tower

end LW.Gates
