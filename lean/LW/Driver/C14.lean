/-
  LW.Driver.C14 — protocol handler `reck` (C14): the Reck decomposition / `Reck.map` on the exact
  scalars `Q2 = GQ[√2]`, and the error model on rational tapes.

  request `{"op":"reck","cmd":…}` with
    cmd = "synth"  : {n, cells:[[c,s,p]…] (loop order), ends:[gq…]}            → {"U": gq matrix}
                     the unitary (in circuit coordinates) whose Reck settings are the given ones
    cmd = "map"    : {n, U, in_heralds, out_heralds, em:{bs:"half"|[c,s], loss:null|[a,b],
                      off:gq, refl_ok, loss_ok}}                               → see `handleMap`
    cmd = "params" : {two_pi, dists:{bs,loss,off}, ints:[…], tapes:[[k,dist,[…]]…],
                      prior:{bs:[…],loss:[…],off:[…]}, angles:{cells:[[th,ph]…], ends:[…]}}
    cmd = "dist"   : {dist, tape:[…], draws:k}       constructor validation + k values
-/
import LW.Driver.Common
import LW.Model.Reck
import LW.Model.Q2
import LW.Model.ReckExact
import LW.Model.ReckNoise

open Lean

namespace LW.Driver.C14
open LW.Driver

open LW.Reck

def q2J (x : Q2) : Json := .str x.toStr
def matQ2J (A : M Q2) : Json :=
  listJ (fun i => listJ (fun j => q2J (A.get i j)) (List.range A.n)) (List.range A.n)

def liftMat (A : M GQ) : M Q2 := M.ofFn A.n fun r k => Q2.ofGQ (A.get r k)

/-- validity of the settings used at one step (`CellOk` and `NumOk.trig_nulls` of the theorems) -/
def cellValid (u0 u1 : Q2) (x : Cell Q2) : Bool :=
  conj x.c == x.c && conj x.s == x.s && x.c * x.c + x.s * x.s == 1 &&
  x.w == x.c + Q2.I * x.s && x.p * conj x.p == 1 &&
  x.c * u1 == conj x.p * x.s * u0

/-- re-run the nulling loop and check every cell that was used -/
def traceValid (N : Num Q2) (U : M Q2) : Bool :=
  ((steps U.n).foldl (fun (acc : M Q2 × Bool) aj =>
      let V := acc.1
      let loc := V.n - 1 - aj.1
      let u0 := V.get loc aj.2
      let u1 := V.get loc (aj.2 + 1)
      let x := stepCell N Q2.I V aj.1 aj.2
      let ok := if N.small u0 then u0 == 0 else cellValid u0 u1 x
      (nullStep Q2.I V aj.2 x, acc.2 && ok)) (U, true)).2

def primJ : Prim Q2 → Json
  | .bs m1 m2 c s cv => .arr #[.str "bs", natJ m1, natJ m2, q2J c, q2J s,
      .str (match cv with | .rx => "Rx" | .h => "H")]
  | .ps m p => .arr #[.str "ps", natJ m, q2J p]
  | .loss m a b => .arr #[.str "loss", natJ m, q2J a, q2J b]
  | .barrier ms => .arr #[.str "barrier", listJ natJ ms]
  | .swaps σ => .arr #[.str "swaps", dictJ σ]
  | .unitary m _ => .arr #[.str "unitary", natJ m]

def compJ : Comp Q2 → Json
  | .prim p => primJ p
  | .group cs .. => .arr #[.str "group", listJ primJ cs]

def asRatPair (j : Json) : R (Rat × Rat) := asPair asRat asRat j

def parseEM (j : Json) : R (EM Q2) := do
  let bsJ ← fld j "bs"
  let bs : Q2 × Q2 ← match bsJ with
    | .str "half" => pure (Q2.invSqrt2, Q2.invSqrt2)
    | _ => do let (c, s) ← asRatPair bsJ; pure (Q2.ofRat c, Q2.ofRat s)
  let loss ← asOpt asRatPair (← fld j "loss")
  let off ← asGQ (← fld j "off")
  let rok ← asBool (← fld j "refl_ok")
  let lok ← asBool (← fld j "loss_ok")
  return { bs1 := fun _ _ => bs, bs2 := fun _ _ => bs,
           loss := fun _ _ => loss.map fun (a, b) => (Q2.ofRat a, Q2.ofRat b),
           offTheta := fun _ _ => Q2.ofGQ off, offPhi := fun _ _ => Q2.ofGQ off,
           offEnd := fun _ => Q2.ofGQ off,
           refl1Ok := fun _ _ => rok, refl2Ok := fun _ _ => rok, lossOk := fun _ _ => lok }

def asDict (j : Json) : R Dict := asListOf (asPair asNat asNat) j

def handleSynth (req : Json) : R Json := do
  let n ← asNat (← fld req "n")
  let cellsJ ← asList (← fld req "cells")
  let ends ← asListOf asGQ (← fld req "ends")
  let cells ← cellsJ.mapM fun c => do
    let l ← asList c
    match l with
    | [c, s, p] => do
        let c ← asRat c; let s ← asRat s; let p ← asGQ p
        pure (⟨⟨c, 0⟩, ⟨s, 0⟩, ⟨c, s⟩, p⟩ : Cell GQ)
    | _ => .error "cell: expected [c, s, p]"
  let st := steps n
  if st.length != cells.length then .error s!"synth: {cells.length} cells for {st.length} steps"
  let V := synth GQ.I n (st.zip cells) ends
  return Json.mkObj [("U", matJ (flip V))]

def handleMap (req : Json) : R Json := do
  let n ← asNat (← fld req "n")
  let U ← asMat (← fld req "U")
  let inH ← asDict (← fld req "in_heralds")
  let outH ← asDict (← fld req "out_heralds")
  let em ← parseEM (← fld req "em")
  let src : Src Q2 := ⟨n, liftMat U, inH, outH⟩
  let N := Reck.Exact.exactNum
  let V := flip src.U
  let exactCells := traceValid N V
  let fin := (decompLoop N Q2.I V).U
  let exactEnds := (List.range V.n).all fun k =>
    let e := N.ang (fin.get k k); e * conj e == 1
  let decompJ : Json := match reckDecomposition N Q2.I V with
    | .ok (pm, ends) => Json.mkObj [
        ("cells", listJ (fun (e : Key × Cell Q2) =>
            .arr #[natJ e.1.1, natJ e.1.2, q2J e.2.c, q2J e.2.s, q2J e.2.w, q2J e.2.p]) pm),
        ("ends", listJ q2J ends)]
    | .error e => .str e.toString
  match map N em Q2.I src with
  | .error e =>
      return Json.mkObj [("result", .str e.toString), ("exact", .bool (exactCells && exactEnds)),
        ("decomp", decompJ)]
  | .ok c =>
      let Uf := c.Ufull Q2.I
      return Json.mkObj [
        ("result", .str "ok"),
        ("exact", .bool (exactCells && exactEnds)),
        ("decomp", decompJ),
        ("n", natJ c.n),
        ("input_modes", natJ c.inputModes),
        ("in_heralds", dictJ c.inHer),
        ("out_heralds", dictJ c.outHer),
        ("spec", listJ compJ c.spec),
        ("U_full", matQ2J Uf),
        ("U", matQ2J (Uf.lead c.n)),
        ("U_equal_input", .bool ((Uf.lead c.n).beq src.U))]

/-! ### error model on tapes -/

def asDist (j : Json) : R (Except Err Dist) := do
  let kind ← asStr (← fld j "kind")
  match kind with
  | "constant" => do let v ← asRat (← fld j "v"); pure (.ok (.constant v))
  | "gaussian" => do
      let c ← asRat (← fld j "c"); let d ← asRat (← fld j "d")
      let lo ← asOpt asRat (← fld j "lo"); let hi ← asOpt asRat (← fld j "hi")
      pure (mkGaussian c d lo hi)
  | "tophat" => do
      let lo ← asRat (← fld j "lo"); let hi ← asRat (← fld j "hi")
      pure (mkTopHat lo hi)
  | s => .error s!"unknown distribution {s}"

def asDistOk (j : Json) : R Dist := do
  match (← asDist j) with
  | .ok d => pure d
  | .error e => .error s!"distribution rejected: {e}"

def drawK (d : Dist) : Nat → Tape → Option (List Rat)
  | 0, _ => some []
  | k + 1, t => do
    let (v, t) ← d.value t
    let r ← drawK d k t
    some (v :: r)

def handleDist (req : Json) : R Json := do
  let tape ← asListOf asRat (← fld req "tape")
  let k ← asNat (← fld req "draws")
  match (← asDist (← fld req "dist")) with
  | .error e => return Json.mkObj [("result", .str e.toString)]
  | .ok d =>
    match drawK d k tape with
    | none => return Json.mkObj [("result", .str "exhausted")]
    | some vs => return Json.mkObj [("result", .str "ok"), ("values", listJ ratJ vs),
        ("has_seed", .bool d.hasSeed)]

def handleParams (req : Json) : R Json := do
  let twoPi ← asRat (← fld req "two_pi")
  let ds ← fld req "dists"
  let dBs ← asDistOk (← fld ds "bs")
  let dLoss ← asDistOk (← fld ds "loss")
  let dOff ← asDistOk (← fld ds "off")
  let ints ← asListOf asNat (← fld req "ints")
  let tapesJ ← asList (← fld req "tapes")
  let tapes ← tapesJ.mapM fun t => do
    let l ← asList t
    match l with
    | [k, d, vs] => do pure ((← asNat k), (← asDistOk d), (← asListOf asRat vs))
    | _ => .error "tape: expected [k, dist, values]"
  let prior ← fld req "prior"
  let pBs ← asListOf asRat (← fld prior "bs")
  let pLoss ← asListOf asRat (← fld prior "loss")
  let pOff ← asListOf asRat (← fld prior "off")
  let an ← fld req "angles"
  let cells ← asListOf asRatPair (← fld an "cells")
  let ends ← asListOf asRat (← fld an "ends")
  -- `default_rng(k)` specialised to the variates a distribution draws
  let gen (k : Nat) (d : Dist) : Tape :=
    match tapes.find? (fun t => t.1 == k && t.2.1 == d) with
    | some t => t.2.2
    | none => []
  let e0 : EMS := ⟨dBs, dLoss, dOff, pBs, pLoss, pOff⟩
  let seeded := setRandomSeed gen ints e0
  let subSeeds : List Json :=
    let i1 := if dBs.hasSeed then ints.tail else ints
    let i2 := if dLoss.hasSeed then i1.tail else i1
    [if dBs.hasSeed then natJ (ints.headD 0) else .null,
     if dLoss.hasSeed then natJ (i1.headD 0) else .null,
     if dOff.hasSeed then natJ (i2.headD 0) else .null]
  match program twoPi seeded ⟨cells, ends⟩ with
  | none => return Json.mkObj [("result", .str "exhausted"), ("sub_seeds", .arr subSeeds.toArray)]
  | some (P, e') =>
    return Json.mkObj [
      ("result", .str "ok"),
      ("sub_seeds", .arr subSeeds.toArray),
      ("cells", listJ (fun (c : CellParams) =>
          .arr #[ratJ c.phi, ratJ c.r1, ratJ c.theta, ratJ c.r2, ratJ c.loss]) P.cells),
      ("ends", listJ ratJ P.ends),
      ("left", Json.mkObj [("bs", natJ e'.tBs.length), ("loss", natJ e'.tLoss.length),
                           ("off", natJ e'.tOff.length)])]

def handleC14 (req : Json) : R Json := do
  let cmd ← asStr (← fld req "cmd")
  match cmd with
  | "synth" => handleSynth req
  | "map" => handleMap req
  | "params" => handleParams req
  | "dist" => handleDist req
  | s => .error s!"reck: unknown cmd {s}"

end LW.Driver.C14
