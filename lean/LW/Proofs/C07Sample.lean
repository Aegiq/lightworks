/-
  C07Sample — acceptance and the sampling loops (`sample_N_inputs`, `sample_N_outputs`).
-/
import LW.Proofs.C06Dict
import LW.Proofs.C07Cdf
import LW.Proofs.Run

namespace LW.Proofs.C07

theorem acceptState_spec (outHer : Dict) (rules : List Rule) (minDet : Nat) (s hs : FState) :
    acceptState outHer rules minDet s = some hs ↔
      heraldsOk outHer s = true ∧ hs = removeHeralds s outHer.keys ∧
      psValidate rules hs = true ∧ minDet ≤ photons hs := by
  unfold acceptState
  by_cases h : heraldsOk outHer s = true
  · simp only [h, if_true, true_and]
    by_cases h2 : (psValidate rules (removeHeralds s outHer.keys) &&
        decide (photons (removeHeralds s outHer.keys) ≥ minDet)) = true
    · simp only [h2, if_true, Option.some.injEq]
      simp only [Bool.and_eq_true, decide_eq_true_eq] at h2
      constructor
      · rintro rfl; exact ⟨rfl, h2.1, h2.2⟩
      · rintro ⟨rfl, _, _⟩; rfl
    · simp only [h2, if_false, Bool.false_eq_true, reduceCtorEq, false_iff]
      rintro ⟨rfl, h3, h4⟩
      apply h2
      simp only [Bool.and_eq_true, decide_eq_true_eq]
      exact ⟨h3, h4⟩
  · simp [h]

/-- one pass of the loop body of `Sampler.sample_N_inputs` -/
def iterOutcome (dist : List (FState × Rat)) (d : Det) (outHer : Dict) (rules : List Rule)
    (minDet : Nat) (u : Rat) (tape : List Rat) : Option FState × List Rat :=
  let s := (dist.getD (inverseCdf (dist.map (·.2)) u) ([], 0)).1
  let (ds, tp) := detectorSample d s tape
  (acceptState outHer rules minDet ds, tp)

section loop
variable {ι σ β : Type}

def collect (pass : ι → σ → Option β × σ) : List ι → σ → List β
  | [], _ => []
  | u :: us, t => (pass u t).1.toList ++ collect pass us (pass u t).2

theorem foldl_eq_collect (pass : ι → σ → Option β × σ) (step : List β × σ → ι → List β × σ)
    (hstep : ∀ acc t u, step (acc, t) u = (acc ++ (pass u t).1.toList, (pass u t).2))
    (us : List ι) (acc : List β) (t : σ) :
    (us.foldl step (acc, t)).1 = acc ++ collect pass us t := by
  induction us generalizing acc t with
  | nil => simp [collect]
  | cons u us ih => rw [List.foldl_cons, hstep, ih, collect, List.append_assoc]

theorem collect_isCollect (pass : ι → σ → Option β × σ) :
    IsCollect (fun t u => pass u t) (fun t us => collect pass us t) :=
  ⟨fun _ => rfl, fun _ _ _ => rfl⟩

end loop

theorem sampleNInputs_eq_collect (dist : List (FState × Rat)) (d : Det) (outHer : Dict)
    (rules : List Rule) (minDet : Nat) (us tape : List Rat) :
    sampleNInputs dist d outHer rules minDet us tape =
      collect (iterOutcome dist d outHer rules minDet) us tape := by
  refine (foldl_eq_collect (iterOutcome dist d outHer rules minDet) _ (fun acc t u => ?_)
    us [] tape).trans (List.nil_append _)
  unfold iterOutcome
  simp only
  cases acceptState outHer rules minDet
    (detectorSample d (dist.getD (inverseCdf (dist.map (·.2)) u) ([], 0)).1 t).1 <;> simp

theorem sampleNInputs_ok (dist : List (FState × Rat)) (d : Det) (outHer : Dict) (rules : List Rule)
    (minDet : Nat) (us tape : List Rat) :
    (sampleNInputs dist d outHer rules minDet us tape).length ≤ us.length ∧
    ∀ hs ∈ sampleNInputs dist d outHer rules minDet us tape,
      psValidate rules hs = true ∧ minDet ≤ photons hs ∧
      ∃ s, heraldsOk outHer s = true ∧ hs = removeHeralds s outHer.keys := by
  rw [sampleNInputs_eq_collect]
  have hC := collect_isCollect (iterOutcome dist d outHer rules minDet)
  refine ⟨hC.length_le tape us, hC.forall_mem (Q := fun _ => True)
    (fun t u _ => ⟨trivial, fun hs h => ?_⟩) trivial us⟩
  have := (acceptState_spec outHer rules minDet _ hs).mp h
  exact ⟨this.2.2.1, this.2.2.2, _, this.1, this.2.1⟩

theorem outputsDist_eq_ofPairs (dist : List (FState × Rat)) (pnr : Bool) (outHer : Dict)
    (rules : List Rule) (minDet : Nat) :
    outputsDist dist pnr outHer rules minDet =
      Src.KD.ofPairs ((dist.filter fun x =>
        (acceptState outHer rules minDet (if pnr then x.1 else x.1.map fun c => min c 1)).isSome).map
        fun x => ((acceptState outHer rules minDet
          (if pnr then x.1 else x.1.map fun c => min c 1)).getD [], x.2)) := by
  have h := C06.foldl_ite_addTo (fun x : FState × Rat => (acceptState outHer rules minDet
      (if pnr then x.1 else x.1.map fun c => min c 1)).isSome = true)
    (fun x => (acceptState outHer rules minDet (if pnr then x.1 else x.1.map fun c => min c 1)).getD [])
    (fun x => x.2) dist []
  simp only [Bool.decide_eq_true] at h
  refine Eq.trans ?_ h
  unfold outputsDist
  -- one step of the fold is `d[hs] += p` when the thresholded state is accepted as `hs`
  refine congrArg (fun f => dist.foldl f []) (funext fun pd => funext fun x => ?_)
  obtain ⟨s, p⟩ := x
  dsimp only
  cases acceptState outHer rules minDet (if pnr then s else s.map fun c => min c 1) <;> rfl

theorem outputsDist_spec (dist : List (FState × Rat)) (pnr : Bool) (outHer : Dict) (rules : List Rule)
    (minDet : Nat) :
    ((outputsDist dist pnr outHer rules minDet).map (·.1)).Nodup ∧
    ∀ hs, (((outputsDist dist pnr outHer rules minDet).find? (·.1 == hs)).map (·.2)).getD 0 =
      ((dist.filter fun x =>
          acceptState outHer rules minDet (if pnr then x.1 else x.1.map fun c => min c 1) == some hs).map
        (·.2)).sum := by
  rw [outputsDist_eq_ofPairs]
  refine ⟨C06.ofPairs_keys_nodup _, fun hs => (C06.getD_ofPairs _ hs).trans ?_⟩
  rw [List.filter_map, List.filter_filter, List.map_map]
  congr 2
  apply List.filter_congr
  intro x _
  simp only [Function.comp_apply]
  cases acceptState outHer rules minDet (if pnr then x.1 else x.1.map fun c => min c 1) <;>
    simp [beq_eq_decide]

theorem sampleNOutputs_count (cond : List (FState × Rat)) (us : List Rat) :
    (sampleNOutputs cond us).length = us.length ∧
    (cond ≠ [] → ∀ s ∈ sampleNOutputs cond us, s ∈ cond.map (·.1)) := by
  unfold sampleNOutputs
  refine ⟨List.length_map _, fun hne s hs => ?_⟩
  obtain ⟨u, _, rfl⟩ := List.mem_map.mp hs
  have hlt := inverseCdf_lt (cond.map (·.2)) (fun h => hne (List.map_eq_nil_iff.mp h)) u
  rw [List.length_map] at hlt
  rw [List.mem_map]
  refine ⟨cond[inverseCdf (cond.map (·.2)) u], List.getElem_mem hlt, ?_⟩
  rw [List.getD_eq_getElem?_getD, List.getElem?_eq_getElem hlt]; rfl

/-- non-vacuity: two states map to the same accepted state under threshold detection -/
example : outputsDist [([2, 0], 1/4), ([1, 0], 1/4), ([0, 1], 1/2)] false [] [] 1 =
    [([1, 0], 1/2), ([0, 1], 1/2)] := by decide +kernel

end LW.Proofs.C07
