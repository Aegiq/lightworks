/-
  What `StateTomography._create_circuit` returns, as a list of components: `Circuit.add` of a
  herald-free two-mode circuit at user mode `x` passes the ancillas lying between the images of the
  two rails through the added circuit (`_add_empty_mode` at positions `1, …, b-a-1`) and appends its
  shifted components; nothing else of the base changes.
-/
import Mathlib.Algebra.Ring.Defs
-- no `ring` in this file: `basisChangeSpec` elaborates its `Neg`/`Zero` instances along a path this import provides,
-- and the statements of LW/Properties/C15.lean rest on that term
import Mathlib.Tactic.Ring
import LW.Model.Tomo
import LW.Proofs.C02AddShape

namespace LW.Tomo

open LW.Proofs.C02

variable {K : Type} [CommRing K]

theorem targetOf_nil (t0 : Int) : targetOf [] t0 = t0 := rfl

theorem ptTargets_cons_nil (mode i : Nat) (l : List Nat) (n : Nat) :
    ptTargets mode (i :: l) n [] =
      if mode ≤ i ∧ i < mode + n then (i - mode) :: ptTargets mode l (n + 1) []
      else ptTargets mode l n [] := by
  have e : targetOf (Dict.keys []) ((i : Int) - (mode : Int)) = (i : Int) - (mode : Int) := rfl
  rw [ptTargets, e]
  by_cases h : mode ≤ i ∧ i < mode + n
  · rw [if_pos h, if_pos (by omega), show ((i : Int) - (mode : Int)).toNat = i - mode by omega]
    rfl
  · rw [if_neg h, if_neg (by omega)]

/-- once every remaining ancilla lies at or above the current image of the second rail: those
meeting it are passed through, one position further each time (`t`: how many have been so far) -/
theorem pt_loop_above (mode : Nat) (L : List Nat) (hs : L.Pairwise (· < ·))
    (t : Nat) (hge : ∀ j ∈ L, mode + t + 1 ≤ j) :
    ∃ t', t ≤ t' ∧ ptTargets mode L (t + 2) [] = List.range' (t + 1) (t' - t) ∧
      ((mode + t' + 1 : Nat) : Int) = skipFold L ((mode + t + 1 : Nat) : Int) := by
  induction L generalizing t with
  | nil => exact ⟨t, Nat.le_refl t, by rw [Nat.sub_self]; rfl, rfl⟩
  | cons j L' ih =>
    have hj := hge j (by simp)
    have hrest : ∀ a ∈ L', j < a := fun a ha => List.rel_of_pairwise_cons hs ha
    by_cases e : j = mode + t + 1
    · subst e
      obtain ⟨t', h0, h1, h2⟩ := ih hs.of_cons (t + 1) (fun a ha => by have := hrest a ha; omega)
      refine ⟨t', by omega, ?_, ?_⟩
      · rw [ptTargets_cons_nil, if_pos (by omega), h1,
          show mode + t + 1 - mode = t + 1 by omega, show t' - t = (t' - (t + 1)) + 1 by omega]
        rfl
      · rw [h2]
        simp only [skipFold, List.foldl_cons]
        rw [if_pos (by omega)]
        congr 1
    · obtain ⟨t', h0, h1, h2⟩ := ih hs.of_cons t (fun a ha => by have := hrest a ha; omega)
      refine ⟨t', h0, ?_, ?_⟩
      · rw [ptTargets_cons_nil, if_neg (by omega)]; exact h1
      · rw [h2]
        simp only [skipFold, List.foldl_cons]
        rw [if_neg (by push_cast; omega)]

/-- the pass-through loop for the two rails `x, x+1` (user modes): the ancillas strictly between
their images are inserted, in order; the result is `b - a - 1` insertions -/
theorem pt_loop (L : List Nat) (hs : L.Pairwise (· < ·)) (x : Nat) :
    ∃ t', ptTargets (skipFold L (x : Int)).toNat L 2 [] = List.range' 1 t' ∧
      skipFold L (x : Int) + (t' : Int) + 1 = skipFold L ((x : Int) + 1) := by
  induction L generalizing x with
  | nil => exact ⟨0, rfl, by simp [skipFold]⟩
  | cons j L' ih =>
    have hrest : ∀ a ∈ L', j < a := fun a ha => List.rel_of_pairwise_cons hs ha
    by_cases hjx : j ≤ x
    · -- the ancilla lies below both rails
      have e1 : skipFold (j :: L') (x : Int) = skipFold L' ((x + 1 : Nat) : Int) := by
        simp only [skipFold, List.foldl_cons]
        rw [if_pos (by omega)]
        congr 1
      have e2 : skipFold (j :: L') ((x : Int) + 1) = skipFold L' (((x + 1 : Nat) : Int) + 1) := by
        simp only [skipFold, List.foldl_cons]
        rw [if_pos (by omega)]
        congr 1
      obtain ⟨t', h1, h2⟩ := ih hs.of_cons (x + 1)
      refine ⟨t', ?_, ?_⟩
      · rw [e1, ptTargets_cons_nil, if_neg]
        · exact h1
        · have := le_skipFold L' ((x + 1 : Nat) : Int)
          omega
      · rw [e1, e2]; exact h2
    · -- the ancilla (and all later ones) lies above the first rail
      have e1 : skipFold (j :: L') (x : Int) = (x : Int) :=
        skipFold_of_lt _ _ (fun a ha => by
          rcases List.mem_cons.mp ha with rfl | ha
          · omega
          · have := hrest a ha; omega)
      obtain ⟨t', -, h1, h2⟩ := pt_loop_above x (j :: L') hs 0 (fun a ha => by
        rcases List.mem_cons.mp ha with rfl | ha
        · omega
        · have := hrest a ha; omega)
      refine ⟨t', ?_, ?_⟩
      · rw [e1]; exact h1
      · rw [e1]
        have : ((x + 0 + 1 : Nat) : Int) = (x : Int) + 1 := by push_cast; omega
        rw [this] at h2
        rw [← h2]; push_cast; omega

/-- the number of ancilla modes between the full modes of ports `x` and `x + 1`; the truncated
subtraction loses nothing (`railGap_spec` of LW.Proofs.C15Rails) -/
def railGap (c : Circ K) (x : Nat) : Nat :=
  (c.mapMode ((x : Int) + 1)).toNat - (c.mapMode (x : Int)).toNat - 1

theorem add_stretch (self sub : Circ K) (x : Nat) (hn : sub.n = 2) (hin : sub.inHer = [])
    (hout : sub.outHer = []) (hnd : self.internal.Nodup)
    (hfit : self.mapMode ((x : Int) + 1) < (self.n : Int)) :
    self.add sub (x : Int) false
      = .ok { self with spec := self.spec ++ sub.spec.map fun c =>
          (Comp.ins (List.range' 1 (railGap self x)) c).shift (self.mapMode (x : Int)).toNat } := by
  obtain ⟨t', h1, h2⟩ := pt_loop (sortNat self.internal) (strictSorted_sortNat hnd) x
  have ha0 : 0 ≤ self.mapMode (x : Int) := skipFold_nonneg _ _ (by omega)
  rw [← mapMode_eq_skipFold, ← mapMode_eq_skipFold] at h2
  rw [← mapMode_eq_skipFold] at h1
  have hgap : railGap self x = t' := by unfold railGap; omega
  have hrange : self.modeInRange (self.mapMode (x : Int)) = .ok (self.mapMode (x : Int)).toNat :=
    Circ.modeInRange_eq_ok.mpr ⟨ha0, by omega, Int.toNat_of_nonneg ha0⟩
  have hpick : pick sub false = (sub, false) := by
    simp [pick, Circ.unpackGroups, hin]
  have hher := insBook_inHer_nil (List.range' 1 t') hin
  rw [add_eq_ins, hrange]
  unfold subIns
  rw [hpick, hn, hin]
  show (if _ then _ else if _ then _ else _) = _
  rw [h1, List.length_range', if_neg (by show ¬ _ + 2 - 0 > _; omega),
    if_neg (by show ¬ _ + (2 + t') - 0 > _; omega), swapSpec_plain sub hin hout]
  simp only [addFinal, insSt, hher, Dict.keys, List.map_nil, sortNat, List.foldr_nil, List.foldl_nil,
    hgap]
  exact congrArg (fun l => Except.ok { self with spec := self.spec ++ l }) (List.map_map ..)

/-- the components `_create_circuit` appends for the herald-free two-mode circuits `subs` placed on
the qubits `k, k + 1, …`: each is stretched over the ancillas between its two rails and shifted to
the full mode of the first -/
def railComps (base : Circ K) (k : Nat) (subs : List (Circ K)) : List (Comp K) :=
  ((List.range' k subs.length).zip subs).flatMap fun ks =>
    ks.2.spec.map fun c => (Comp.ins (List.range' 1 (railGap base (2 * ks.1))) c).shift
      (base.mapMode (2 * (ks.1 : Int))).toNat

theorem railComps_cons (base : Circ K) (k : Nat) (sub : Circ K) (subs : List (Circ K)) :
    railComps base k (sub :: subs) =
      (sub.spec.map fun c => (Comp.ins (List.range' 1 (railGap base (2 * k))) c).shift
        (base.mapMode (2 * (k : Int))).toNat) ++ railComps base (k + 1) subs := by
  simp only [railComps, List.length_cons, List.range'_succ, List.zip_cons_cons, List.flatMap_cons]

omit [CommRing K] in
theorem railGap_congr {c c' : Circ K} (h : c.internal = c'.internal) (x : Nat) :
    railGap c x = railGap c' x := by
  unfold railGap; rw [mapMode_congr h, mapMode_congr h]

/-- `c` is the circuit the loop has reached, `base` the one it started from: only the spec grows, so the
mode map and the gaps are those of `base` throughout (`hint`, `hn`) -/
theorem addAll_append (base c : Circ K) (k : Nat) (subs : List (Circ K))
    (hsub : ∀ s ∈ subs, s.n = 2 ∧ s.inHer = [] ∧ s.outHer = [])
    (hint : c.internal = base.internal) (hn : c.n = base.n) (hnd : base.internal.Nodup)
    (hfit : ∀ y : Nat, y < 2 * (k + subs.length) → base.mapMode (y : Int) < (base.n : Int)) :
    addAll c k subs = .ok { c with spec := c.spec ++ railComps base k subs } := by
  induction subs generalizing c k with
  | nil => simp [addAll, railComps]
  | cons g t ih =>
    simp only [List.length_cons] at hfit
    obtain ⟨g2, gin, gout⟩ := hsub g List.mem_cons_self
    have e : (2 * (k : Int)) = ((2 * k : Nat) : Int) := by push_cast; rfl
    rw [addAll, e, add_stretch c g (2 * k) g2 gin gout (hint ▸ hnd) (by
      rw [mapMode_congr hint, hn]
      have := hfit (2 * k + 1) (by omega)
      push_cast at this ⊢
      exact this)]
    simp only [bind, Except.bind]
    rw [ih, railComps_cons]
    · simp only [List.append_assoc, railGap_congr hint, mapMode_congr hint, ← e]
    · exact fun s hs => hsub s (List.mem_cons_of_mem _ hs)
    · exact hint
    · exact hn
    · exact fun y hy => hfit y (by omega)

omit [CommRing K] in
theorem rails_fit (base : Circ K) (hwf : base.WF) (nQ : Nat) (hin : base.inputModes = 2 * nQ)
    (y : Nat) (hy : y < 2 * nQ) : base.mapMode (y : Int) < (base.n : Int) := by
  -- every ancilla is heralded, so there are at least as many ports as input modes
  have hlen : base.internal.length ≤ base.inHer.keys.length :=
    List.Nodup.length_le_of_subset hwf.intNodup fun a ha => get?_isSome_iff.mp (hwf.intHer a ha).1
  rw [mapMode_lt_iff' base hwf]
  unfold Circ.inputModes at hin
  unfold Circ.ports
  rw [Dict.keys, List.length_map] at hlen
  omega

theorem createCircuit_append (nQ : Nat) (base : Circ K) (hwf : base.WF)
    (hin : base.inputModes = 2 * nQ) (subs : List (Circ K)) (hs : subs.length = nQ)
    (hsub : ∀ s ∈ subs, s.n = 2 ∧ s.inHer = [] ∧ s.outHer = []) :
    createCircuit nQ base subs = .ok { base with spec := base.spec ++ railComps base 0 subs } := by
  unfold createCircuit
  rw [if_neg (fun h => h hs)]
  exact addAll_append base base 0 subs hsub rfl rfl hwf.intNodup
    fun y hy => rails_fit base hwf nQ hin y (by omega)

/-- what is appended when no ancilla lies between the rails: the components of each setting's basis change
on the modes `2k, 2k + 1` of the qubits `k, k + 1, …` -/
def basisChangeSpec (i h : K) : Nat → Meas → List (Comp K)
  | _, [] => []
  | k, g :: t => (measCirc i h g).spec.map (Comp.shift (2 * k)) ++ basisChangeSpec i h (k + 1) t

theorem measCirc_n (i h : K) (g : Pauli) : (measCirc i h g).n = 2 := by cases g <;> rfl
theorem measCirc_inHer (i h : K) (g : Pauli) : (measCirc i h g).inHer = [] := by cases g <;> rfl

theorem measCirc_plain (i h : K) (s : Meas) :
    ∀ c ∈ s.map (measCirc i h), c.n = 2 ∧ c.inHer = [] ∧ c.outHer = [] := by
  intro c hc
  obtain ⟨g, -, rfl⟩ := List.mem_map.mp hc
  cases g <;> exact ⟨rfl, rfl, rfl⟩

theorem requested_Ufull (i : K) (base : Circ K) (l : List (Comp K)) :
    Circ.Ufull i { base with spec := base.spec ++ l } = l.foldl (compileComp i) (base.Ufull i) := by
  simp only [Circ.Ufull, compile, List.foldl_append]

theorem railComps_plain (i h : K) {base : Circ K} (hint : base.internal = []) (k : Nat)
    (s : Meas) : railComps base k (s.map (measCirc i h)) = basisChangeSpec i h k s := by
  induction s generalizing k with
  | nil => rfl
  | cons g t ih =>
    have hg : railGap base (2 * k) = 0 := by
      unfold railGap; rw [Circ.mapMode_nil hint, Circ.mapMode_nil hint]; omega
    have e : (2 * (k : Int)) = ((2 * k : Nat) : Int) := by push_cast; rfl
    rw [List.map_cons, railComps_cons, ih, basisChangeSpec, hg, e, Circ.mapMode_nil hint,
      Int.toNat_natCast]
    rfl

/-- for a base without ancilla modes nothing is stretched and no invariant is needed -/
theorem createCircuit_plain (i h : K) (nQ : Nat) (base : Circ K) (hint : base.internal = [])
    (hn : base.n = 2 * nQ) (s : Meas) (hs : s.length = nQ) :
    createCircuit nQ base (s.map (measCirc i h))
      = .ok { base with spec := base.spec ++ basisChangeSpec i h 0 s } := by
  unfold createCircuit
  rw [List.length_map, if_neg (fun h => h hs), ← railComps_plain i h hint]
  exact addAll_append base base 0 _ (measCirc_plain i h s) rfl rfl (hint ▸ List.nodup_nil)
    fun y hy => by rw [Circ.mapMode_nil hint, List.length_map] at *; omega

end LW.Tomo
