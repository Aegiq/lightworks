/-
  LW.Proofs.C03 — `validateState` and `simulate` in closed form: `simulate` succeeds exactly when
  every input and output state validates and all of them hold the same photon number
  (`samePhotons`, which also refuses the empty list), and its result is then the table `ampTable`
  of permanent amplitudes (`simulate_eq`: validate the inputs, decide the outputs by `outStates`,
  tabulate).
-/
import Mathlib.Data.List.Forall2
import Mathlib.Algebra.Ring.Int.Defs
import LW.Model.Fock
import LW.Proofs.ExceptLemmas

namespace LW.Proofs.C03

variable {K : Type}

/-! `mapM` in `Except`, the `Forall₂` form: `List.Forall₂` is not in core, hence not in the
core-only `ExceptLemmas`. -/

theorem mapM_ok_iff {α β ε : Type} (f : α → Except ε β) (l : List α) (r : List β) :
    l.mapM f = .ok r ↔ List.Forall₂ (fun a b => f a = .ok b) l r := by
  induction l generalizing r with
  | nil => exact Except.mapM_nil_ok.trans List.forall₂_nil_left_iff.symm
  | cons a l ih => simp only [Except.mapM_cons_ok, List.forall₂_cons_left_iff, ih]

theorem forall₂_exists_of_mem {α β : Type} {R : α → β → Prop} {l : List α} {r : List β}
    (h : List.Forall₂ R l r) {a : α} (ha : a ∈ l) : ∃ b, R a b := by
  induction h with
  | nil => cases ha
  | cons h1 _ ih =>
    rcases List.mem_cons.1 ha with rfl | ha
    · exact ⟨_, h1⟩
    · exact ih ha

theorem mapM_ok_length {α β ε : Type} {f : α → Except ε β} {l : List α} {r : List β}
    (h : l.mapM f = .ok r) : r.length = l.length :=
  ((mapM_ok_iff f l r).1 h).length_eq.symm

theorem mapM_error_of_mem {α β ε : Type} (f : α → Except ε β) (l : List α) {a : α} (ha : a ∈ l)
    (hbad : ∀ b, f a ≠ .ok b) : ∃ e, l.mapM f = .error e := by
  cases h : l.mapM f with
  | error e => exact ⟨e, rfl⟩
  | ok r =>
    obtain ⟨b, hb⟩ := forall₂_exists_of_mem ((mapM_ok_iff f l r).1 h) ha
    exact absurd hb (hbad b)

def vEntry : Occ → Except Err Nat
  | .bad => .error .type
  | .int i => if i < 0 then .error .value else .ok i.toNat

theorem validateState_eq (im : Nat) (s : List Occ) :
    validateState im s = if s.length ≠ im then .error .modeMismatch else s.mapM vEntry := by
  have hf : (fun x => match x with
      | Occ.bad => Except.error Err.type
      | Occ.int i => if i < 0 then Except.error Err.value else Except.ok i.toNat) = vEntry := by
    funext x; cases x <;> rfl
  by_cases h : s.length ≠ im
  · rw [if_pos h]
    simp only [validateState]
    rw [if_pos h]
    rfl
  · rw [if_neg h]
    simp only [validateState]
    rw [if_neg h]
    exact congrArg (fun f => List.mapM f s) hf

theorem vEntry_ok_iff (o : Occ) (k : Nat) : vEntry o = .ok k ↔ o = Occ.int (k : Int) := by
  cases o with
  | bad => simp [vEntry]
  | int i =>
    simp only [vEntry]
    by_cases h : i < 0
    · simp only [h, if_true]
      constructor
      · intro h'; cases h'
      · intro h'; injection h' with h'; omega
    · simp only [h, if_false]
      constructor
      · intro h'; injection h' with h'; congr 1; omega
      · intro h'; injection h' with h'; subst h'; simp

/-- On the statements: in `t.map fun k => Occ.int (k : Int)` with `t : List Nat` the binder
`k` is elaborated at type `Int` and the *list* `t` is coerced to `List Int` (through the `List`
monad: `do let a ← t; pure ↑a`).  This is the same list as the entry-wise cast: -/
theorem coeList_eq (t : FState) : ((t : List Nat) : List Int) = t.map fun k : Nat => (k : Int) := by
  simp [List.map_eq_flatMap]

theorem mapInt_eq (t : FState) :
    (t.map fun k => Occ.int (k : Int)) = List.map (fun k : Nat => Occ.int (k : Int)) t := by
  rw [coeList_eq, List.map_map]
  rfl

theorem forall₂_vEntry_iff (s : List Occ) (t : FState) :
    List.Forall₂ (fun a b => vEntry a = .ok b) s t ↔ s = t.map fun k => Occ.int (k : Int) := by
  rw [mapInt_eq]
  constructor
  · intro h
    induction h with
    | nil => rfl
    | cons h1 _ ih => rw [List.map_cons, ← ih, (vEntry_ok_iff _ _).1 h1]
  · rintro rfl
    induction t with
    | nil => exact List.Forall₂.nil
    | cons k t ih => exact List.Forall₂.cons ((vEntry_ok_iff _ _).2 rfl) ih

theorem validateState_ok_iff (im : Nat) (s : List Occ) (t : FState) :
    validateState im s = .ok t ↔ s.length = im ∧ s = t.map fun k => Occ.int (k : Int) := by
  rw [validateState_eq]
  by_cases h : s.length = im
  · simp only [h, ne_eq, not_true_eq_false, if_false, true_and]
    rw [mapM_ok_iff, forall₂_vEntry_iff]
  · simp only [ne_eq, h, not_false_eq_true, if_true, false_and, iff_false]
    intro h'; cases h'

theorem validateState_map_int (im : Nat) (s : FState) (h : s.length = im) :
    validateState im (s.map fun k => Occ.int (k : Int)) = .ok s :=
  (validateState_ok_iff im _ s).2 ⟨by rw [mapInt_eq]; simpa using h, rfl⟩

example : validateState 3 [.int 1, .int 0, .int 2] = .ok [1, 0, 2] := by decide
example : validateState 3 [.int 1, .bad, .int (-2)] = .error .type := by decide
example : validateState 3 [.int 1, .int (-2), .bad] = .error .value := by decide
example : validateState 2 [.int 1, .int (-2), .bad] = .error .modeMismatch := by decide

def ampTable [CommRing K] (i : K) (c : Circ K) (I O : List FState) : List (List (K × Nat)) :=
  I.map fun s => O.map fun t =>
      (ampNum (c.Ufull i) (addHeralds s c.inHer ++ List.replicate ((c.Ufull i).n - c.n) 0)
          (addHeralds t c.outHer ++ List.replicate ((c.Ufull i).n - c.n) 0),
       ampNormSq (addHeralds s c.inHer ++ List.replicate ((c.Ufull i).n - c.n) 0)
          (addHeralds t c.outHer ++ List.replicate ((c.Ufull i).n - c.n) 0))

def samePhotons (l : List FState) : Except Err Nat :=
  match l.map photons with
  | [] => .error .value
  | n0 :: _ => if (l.map photons).any (· ≠ n0) then .error .photonNumber else .ok n0

def outStates (im : Nat) (I : List FState) : Option (List (List Occ)) → Except Err (List FState)
  | none => (samePhotons I).bind fun n0 => .ok (fockBasis im n0)
  | some os => (os.mapM (validateState im)).bind fun O => (samePhotons (I ++ O)).bind fun _ => .ok O

theorem simulate_eq [CommRing K] (i : K) (c : Circ K) (ins : List (List Occ))
    (outs : Option (List (List Occ))) :
    simulate i c ins outs = (ins.mapM (validateState c.inputModes)).bind fun I =>
      (outStates c.inputModes I outs).bind fun O => .ok ⟨I, O, ampTable i c I O⟩ := by
  unfold simulate
  cases h1 : List.mapM (validateState c.inputModes) ins with
  | error e => simp only [h1, bind, Except.bind]
  | ok I =>
    simp only [h1, bind, Except.bind]
    cases outs with
    | none =>
      simp only [outStates, samePhotons, Except.bind]
      generalize List.map photons I = ns
      cases ns with
      | nil => rfl
      | cons n0 tl => simp only []; split <;> rfl
    | some os =>
      simp only [outStates, samePhotons, Except.bind]
      cases h2 : List.mapM (validateState c.inputModes) os with
      | error e => rfl
      | ok O =>
        simp only
        generalize List.map photons (I ++ O) = ns
        cases ns with
        | nil => rfl
        | cons n0 tl => simp only []; split <;> rfl

theorem simulate_eq_formula [CommRing K] (i : K) (c : Circ K) (ins : List (List Occ))
    (outs : Option (List (List Occ))) (r : SimResult K) (h : simulate i c ins outs = .ok r) :
    let U := c.Ufull i
    let z := List.replicate (U.n - c.n) 0
    r.amps = r.inputs.map fun s => r.outputs.map fun t =>
      (ampNum U (addHeralds s c.inHer ++ z) (addHeralds t c.outHer ++ z),
       ampNormSq (addHeralds s c.inHer ++ z) (addHeralds t c.outHer ++ z)) := by
  rw [simulate_eq] at h
  obtain ⟨I, -, h⟩ := Except.bind_eq_ok.mp h
  obtain ⟨O, -, h⟩ := Except.bind_eq_ok.mp h
  cases h
  rfl

theorem simulate_error_of_ins [CommRing K] (i : K) (c : Circ K) (ins : List (List Occ))
    (outs : Option (List (List Occ))) (e : Err)
    (h : List.mapM (validateState c.inputModes) ins = .error e) :
    simulate i c ins outs = .error e := by
  rw [simulate_eq, h]
  rfl

theorem simulate_error_of_outs [CommRing K] (i : K) (c : Circ K) (ins : List (List Occ))
    (os : List (List Occ)) (I : List FState) (e : Err)
    (h1 : List.mapM (validateState c.inputModes) ins = .ok I)
    (h2 : List.mapM (validateState c.inputModes) os = .error e) :
    simulate i c ins (some os) = .error e := by
  rw [simulate_eq, h1]
  simp only [Except.bind, outStates, h2]

/-- non-vacuity: one `h`-convention beam splitter with integer entries `c = 0, s = 1` (a swap)
on `|1,1⟩` -/
example : ∃ r, simulate (0 : Int) { n := 2, spec := [.prim (.bs 0 1 0 1 .h)] }
      [[.int 1, .int 1]] none = .ok r ∧ r.outputs = [[2, 0], [1, 1], [0, 2]] ∧
      r.amps = [[(0, 2), (1, 1), (0, 2)]] :=
  ⟨_, rfl, by decide, by decide⟩

end LW.Proofs.C03
