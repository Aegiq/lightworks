/-
  LW.Proofs.C12Modes — the modes of a converted circuit.  Global states are finitely supported
  functions on the modes: a user part (a list on the `2·nq` qubit modes) plus a herald / spectator
  part; a state decomposes along a partial injection (`amp_place`), and the index maps `fwdQ Q P` /
  `invQ Q P` of an instruction form such a partial injection of the sub-circuit's closed indices into
  the global modes (`pinj_fwdQ`).  A map of qubits lifts to the modes (`qlift`).
-/
import LW.Proofs.C12FullMainDefs
import LW.Proofs.QFockLists
import LW.Proofs.C12

open MvPolynomial

namespace LW.C12F

open LW LW.QC LW.Gates LW.QF LW.Proofs.C02Sem

variable {R : Type} [CommRing R]

/-- user part `u` (a list on the first modes) plus the part `η` on the other modes.

"A user state with the herald photons" is spelt in three ways: `fullOcc her n u` (C13Conj) in the
circuit's own mode order, through `layout`; `(u ++ H).toFinsupp` in the closed layout, user modes
first (`gateAmp_eq_amp`, the tables of C12SubTab); and `mk u η` here, where `η` may carry more than
the heralds of one sub-circuit — in the induction it holds those of all instructions.
`toFinsupp_eq_mk` (C12Correct) turns the second into the third. -/
noncomputable def mk (u : List ℕ) (η : ℕ →₀ ℕ) : ℕ →₀ ℕ := u.toFinsupp + η

def HerAt (P : ℕ) (H : List ℕ) (s : ℕ →₀ ℕ) : Prop := ∀ k, k < H.length → s (P + k) = H.getD k 0

def cfgN (nq : ℕ) (s : ℕ →₀ ℕ) : Config := fun q => if q < nq then s (2 * q) + s (2 * q + 1) else 0

theorem mk_apply_lt {u : List ℕ} {η : ℕ →₀ ℕ} (hη : ∀ z ∈ η.support, u.length ≤ z) {z : ℕ}
    (hz : z < u.length) : mk u η z = u.getD z 0 := by
  unfold mk
  rw [Finsupp.add_apply, List.toFinsupp_apply]
  have : η z = 0 := by
    by_contra h
    have := hη z (Finsupp.mem_support_iff.mpr h)
    omega
  rw [this, Nat.add_zero]

theorem mk_apply_ge {u : List ℕ} {η : ℕ →₀ ℕ} {z : ℕ} (hz : u.length ≤ z) : mk u η z = η z := by
  unfold mk
  rw [Finsupp.add_apply, List.toFinsupp_apply, List.getD_eq_default _ _ hz, Nat.zero_add]

theorem herAt_mk {u : List ℕ} {η : ℕ →₀ ℕ} {P : ℕ} {H : List ℕ} (hP : u.length ≤ P) :
    HerAt P H (mk u η) ↔ HerAt P H η := by
  unfold HerAt
  constructor <;> intro h k hk
  · rw [← mk_apply_ge (u := u) (by omega)]; exact h k hk
  · rw [mk_apply_ge (by omega)]; exact h k hk

theorem herAt_append {P : ℕ} {H1 H2 : List ℕ} {s : ℕ →₀ ℕ} :
    HerAt P (H1 ++ H2) s ↔ HerAt P H1 s ∧ HerAt (P + H1.length) H2 s := by
  unfold HerAt
  constructor
  · intro h
    constructor
    · intro k hk
      have := h k (by rw [List.length_append]; omega)
      rw [this, List.getD_append _ _ _ _ hk]
    · intro k hk
      have := h (H1.length + k) (by rw [List.length_append]; omega)
      rw [Nat.add_assoc, this, List.getD_append_right _ _ _ _ (by omega)]
      congr 1; omega
  · rintro ⟨h1, h2⟩ k hk
    rw [List.length_append] at hk
    by_cases hk1 : k < H1.length
    · rw [h1 k hk1, List.getD_append _ _ _ _ hk1]
    · have := h2 (k - H1.length) (by omega)
      rw [List.getD_append_right _ _ _ _ (by omega), ← this]
      congr 1; omega

theorem herAt_congr {P : ℕ} {H : List ℕ} {s t : ℕ →₀ ℕ}
    (h : ∀ z, P ≤ z → z < P + H.length → t z = s z) (hs : HerAt P H s) : HerAt P H t := by
  intro k hk
  rw [h (P + k) (by omega) (by omega)]
  exact hs k hk

theorem eq_mk_of_agree (n : ℕ) (w η : ℕ →₀ ℕ) (hη : ∀ z ∈ η.support, n ≤ z)
    (h : ∀ z, n ≤ z → w z = η z) : w = mk ((List.range n).map w) η := by
  ext z
  by_cases hz : z < n
  · rw [mk_apply_lt (by simpa using hη) (by simpa using hz),
      List.getD_eq_getElem _ _ (by simpa using hz)]
    simp
  · rw [mk_apply_ge (by simpa using hz)]
    exact h z (by omega)

theorem mk_injective_left {u v : List ℕ} {η : ℕ →₀ ℕ} (hl : u.length = v.length)
    (h : mk u η = mk v η) : u = v :=
  toFinsupp_inj hl (add_right_cancel h)

/-- the occupation of the first mode of a qubit determines its bit -/
theorem bit_eq_of_ite {x y : Bool}
    (h : (if x = false then 1 else 0 : ℕ) = if y = false then 1 else 0) : x = y := by
  cases x <;> cases y
  · rfl
  · exact absurd h (by decide)
  · exact absurd h (by decide)
  · rfl

theorem mk_dualRail_even {nq : ℕ} {b : List Bool} (hb : b.length = nq) {η : ℕ →₀ ℕ}
    (hη : ∀ z ∈ η.support, 2 * nq ≤ z) {q : ℕ} (hq : q < nq) :
    mk (dualRail b) η (2 * q) = if getBit b q = false then 1 else 0 := by
  have hl : (dualRail b).length = 2 * nq := by rw [dualRail_length, hb]
  rw [mk_apply_lt (by rw [hl]; exact hη) (by omega), dualRail_getD_even]
  simp [hb, hq]

theorem mk_dualRail_odd {nq : ℕ} {b : List Bool} (hb : b.length = nq) {η : ℕ →₀ ℕ}
    (hη : ∀ z ∈ η.support, 2 * nq ≤ z) {q : ℕ} (hq : q < nq) :
    mk (dualRail b) η (2 * q + 1) = if getBit b q = true then 1 else 0 := by
  have hl : (dualRail b).length = 2 * nq := by rw [dualRail_length, hb]
  rw [mk_apply_lt (by rw [hl]; exact hη) (by omega), dualRail_getD_odd]
  simp [hb, hq]

theorem mk_dualRail_agree {nq : ℕ} {b b' : List Bool} (hb : b.length = nq) (hb' : b'.length = nq)
    {η : ℕ →₀ ℕ} (hη : ∀ z ∈ η.support, 2 * nq ≤ z) {z : ℕ} (hz : z < 2 * nq)
    (h : getBit b' (z / 2) = getBit b (z / 2)) : mk (dualRail b') η z = mk (dualRail b) η z := by
  have hq : z / 2 < nq := by omega
  rcases Nat.mod_two_eq_zero_or_one z with h0 | h1
  · have e : z = 2 * (z / 2) := by omega
    rw [e, mk_dualRail_even hb hη hq, mk_dualRail_even hb' hη hq, h]
  · have e : z = 2 * (z / 2) + 1 := by omega
    rw [e, mk_dualRail_odd hb hη hq, mk_dualRail_odd hb' hη hq, h]

theorem mk_dualRail_differ {nq : ℕ} {b b' : List Bool} (hb : b.length = nq) (hb' : b'.length = nq)
    {η : ℕ →₀ ℕ} (hη : ∀ z ∈ η.support, 2 * nq ≤ z) {q : ℕ} (hq : q < nq)
    (h : getBit b' q ≠ getBit b q) : mk (dualRail b') η (2 * q) ≠ mk (dualRail b) η (2 * q) := by
  rw [mk_dualRail_even hb hη hq, mk_dualRail_even hb' hη hq]
  exact fun e => h (bit_eq_of_ite e)

theorem cfgN_lt {nq : ℕ} (s : ℕ →₀ ℕ) {q : ℕ} (hq : q < nq) :
    cfgN nq s q = s (2 * q) + s (2 * q + 1) := by
  unfold cfgN; rw [if_pos hq]

theorem cfgN_ge {nq : ℕ} (s : ℕ →₀ ℕ) {q : ℕ} (hq : ¬ q < nq) : cfgN nq s q = 0 := by
  unfold cfgN; rw [if_neg hq]

/-- the part of `s` seen by the placed sub-circuit, in the sub-circuit's indices -/
noncomputable def pull (d : ℕ) (fwd : ℕ → ℕ) (s : ℕ →₀ ℕ) : ℕ →₀ ℕ :=
  Finsupp.onFinset (Finset.range d) (fun y => if y < d then s (fwd y) else 0) (by
    intro y hy
    by_cases h : y < d
    · exact Finset.mem_range.mpr h
    · simp [h] at hy)

/-- the part of `s` outside the placement -/
noncomputable def rest (D : ℕ) (inv : ℕ → Option ℕ) (s : ℕ →₀ ℕ) : ℕ →₀ ℕ :=
  s.filter fun z => ¬ (z < D ∧ (inv z).isSome = true)

theorem pull_apply (d : ℕ) (fwd : ℕ → ℕ) (s : ℕ →₀ ℕ) (y : ℕ) :
    pull d fwd s y = if y < d then s (fwd y) else 0 := rfl

theorem pull_support (d : ℕ) (fwd : ℕ → ℕ) (s : ℕ →₀ ℕ) : ∀ y ∈ (pull d fwd s).support, y < d := by
  intro y hy
  rw [Finsupp.mem_support_iff, pull_apply] at hy
  by_contra h
  simp [h] at hy

theorem rest_apply (D : ℕ) (inv : ℕ → Option ℕ) (s : ℕ →₀ ℕ) (z : ℕ) :
    rest D inv s z = if z < D ∧ (inv z).isSome = true then 0 else s z := by
  unfold rest
  rw [Finsupp.filter_apply]
  by_cases hz : z < D ∧ (inv z).isSome = true
  · rw [if_neg (not_not.mpr hz), if_pos hz]
  · rw [if_pos hz, if_neg hz]

theorem decomp {d D : ℕ} {fwd : ℕ → ℕ} {inv : ℕ → Option ℕ} (h : PInj d D fwd inv)
    (hinj : Function.Injective fwd) (s : ℕ →₀ ℕ) :
    s = Finsupp.mapDomain fwd (pull d fwd s) + rest D inv s := by
  ext z
  rw [Finsupp.add_apply, rest_apply]
  by_cases hz : z < D ∧ (inv z).isSome = true
  · rw [if_pos hz]
    obtain ⟨x, hx⟩ := Option.isSome_iff_exists.mp hz.2
    obtain ⟨hxd, rfl⟩ := h.inv_some z x hz.1 hx
    rw [Finsupp.mapDomain_apply hinj, pull_apply, if_pos hxd, Nat.add_zero]
  · rw [if_neg hz]
    have : Finsupp.mapDomain fwd (pull d fwd s) z = 0 := by
      by_cases hr : z ∈ Set.range fwd
      · obtain ⟨y, rfl⟩ := hr
        rw [Finsupp.mapDomain_apply hinj, pull_apply]
        split
        · rename_i hy
          exact absurd ⟨h.fwd_lt y hy, by rw [h.inv_fwd y hy]; rfl⟩ hz
        · rfl
      · exact Finsupp.mapDomain_of_notMem_range _ _ hr
    rw [this, Nat.zero_add]

theorem amp_place {d D : ℕ} {fwd : ℕ → ℕ} {inv : ℕ → Option ℕ} (h : PInj d D fwd inv)
    (hinj : Function.Injective fwd) (φ : Hom R) (w s : ℕ →₀ ℕ)
    (hr : rest D inv w = rest D inv s) :
    amp (placeHomG φ fwd inv D) w s = amp φ (pull d fwd w) (pull d fwd s) := by
  have key := amp_placeHomG h hinj φ (pull d fwd s) (pull d fwd w) (rest D inv s)
    (pull_support d fwd s) (by
      intro j hj hjD
      rw [Finsupp.mem_support_iff, rest_apply] at hj
      by_contra hn
      apply hj
      rw [if_pos ⟨hjD, by
        cases hi : inv j with
        | none => exact absurd hi hn
        | some y => rfl⟩])
  rw [← key]
  conv_lhs => rw [decomp h hinj w, decomp h hinj s, hr]

theorem two_mul_add_div {q e : ℕ} (he : e < 2) : (2 * q + e) / 2 = q := by omega

theorem two_mul_add_mod {q e : ℕ} (he : e < 2) : (2 * q + e) % 2 = e := by omega

theorem fwdQ_lt_port {Q : List ℕ} {P y : ℕ} (hy : y < 2 * Q.length) :
    fwdQ Q P y = 2 * Q.getD (y / 2) 0 + y % 2 := by
  unfold fwdQ; rw [if_pos hy]

theorem fwdQ_ge_port {Q : List ℕ} {P y : ℕ} (hy : 2 * Q.length ≤ y) :
    fwdQ Q P y = P + (y - 2 * Q.length) := by
  unfold fwdQ; rw [if_neg (by omega)]

theorem fwdQ_port (Q : List ℕ) (P j e : ℕ) (hj : j < Q.length) (he : e < 2) :
    fwdQ Q P (2 * j + e) = 2 * Q.getD j 0 + e := by
  rw [fwdQ_lt_port (by omega)]
  rw [two_mul_add_div he, two_mul_add_mod he]

theorem fwdQ_her (Q : List ℕ) (P k : ℕ) : fwdQ Q P (2 * Q.length + k) = P + k := by
  rw [fwdQ_ge_port (by omega)]; congr 1; omega

theorem invQ_of_mem {Q : List ℕ} {P z : ℕ} (hz : z < P) (hm : z / 2 ∈ Q) :
    invQ Q P z = some (2 * Q.idxOf (z / 2) + z % 2) := by
  unfold invQ; rw [if_pos hz, if_pos hm]

theorem invQ_of_not_mem {Q : List ℕ} {P z : ℕ} (hz : z < P) (hm : z / 2 ∉ Q) :
    invQ Q P z = none := by
  unfold invQ; rw [if_pos hz, if_neg hm]

theorem invQ_of_ge {Q : List ℕ} {P z : ℕ} (hz : P ≤ z) :
    invQ Q P z = some (2 * Q.length + (z - P)) := by
  unfold invQ; rw [if_neg (Nat.not_lt.mpr hz)]

theorem pinj_fwdQ (Q : List ℕ) (P h : ℕ) (hnd : Q.Nodup) (hlt : ∀ q ∈ Q, 2 * q + 1 < P) :
    PInj (2 * Q.length + h) (P + h) (fwdQ Q P) (invQ Q P) := by
  refine ⟨?_, ?_, ?_⟩
  · intro y hy
    by_cases h1 : y < 2 * Q.length
    · rw [fwdQ_lt_port h1]
      have := hlt _ (getD_mem Q (y / 2) (by omega))
      omega
    · rw [fwdQ_ge_port (by omega)]; omega
  · intro y _
    by_cases h1 : y < 2 * Q.length
    · rw [fwdQ_lt_port h1]
      have hj : y / 2 < Q.length := by omega
      have hm := getD_mem Q _ hj
      have hP := hlt _ hm
      have e1 := two_mul_add_div (q := Q.getD (y / 2) 0) (Nat.mod_lt y Nat.two_pos)
      have e2 := two_mul_add_mod (q := Q.getD (y / 2) 0) (Nat.mod_lt y Nat.two_pos)
      rw [invQ_of_mem (by omega) (e1.symm ▸ hm), e1, e2]
      have : Q.idxOf (Q.getD (y / 2) 0) = y / 2 := by
        rw [List.getD_eq_getElem _ _ hj]
        exact hnd.idxOf_getElem _ hj
      rw [this]
      congr 1; omega
    · rw [fwdQ_ge_port (by omega), invQ_of_ge (by omega)]
      congr 1; omega
  · intro z x hz e
    by_cases h1 : z < P
    · by_cases h2 : z / 2 ∈ Q
      · rw [invQ_of_mem h1 h2] at e
        injection e with e
        have hi : Q.idxOf (z / 2) < Q.length := List.idxOf_lt_length_iff.mpr h2
        subst e
        refine ⟨by omega, ?_⟩
        rw [fwdQ_lt_port (by omega)]
        have e1 := two_mul_add_div (q := Q.idxOf (z / 2)) (Nat.mod_lt z Nat.two_pos)
        have e2 := two_mul_add_mod (q := Q.idxOf (z / 2)) (Nat.mod_lt z Nat.two_pos)
        rw [e1, e2, List.getD_eq_getElem _ _ hi, List.getElem_idxOf hi]
        omega
      · rw [invQ_of_not_mem h1 h2] at e; cases e
    · rw [invQ_of_ge (Nat.le_of_not_lt h1)] at e
      injection e with e
      subst e
      refine ⟨by omega, ?_⟩
      rw [fwdQ_ge_port (by omega)]; omega

theorem fwdQ_injective (Q : List ℕ) (P : ℕ) (hnd : Q.Nodup) (hlt : ∀ q ∈ Q, 2 * q + 1 < P) :
    Function.Injective (fwdQ Q P) := by
  intro x y e
  have hp := pinj_fwdQ Q P (max x y + 1) hnd hlt
  exact hp.inj (by omega) (by omega) e

theorem fwdQ_ne {Q : List ℕ} {P h z : ℕ} (hz1 : ¬ (z / 2 ∈ Q ∧ z < P))
    (hz2 : ¬ (P ≤ z ∧ z < P + h)) (hlt : ∀ q ∈ Q, 2 * q + 1 < P) :
    ∀ x, x < 2 * Q.length + h → fwdQ Q P x ≠ z := by
  intro x hx e
  by_cases h1 : x < 2 * Q.length
  · rw [fwdQ_lt_port h1] at e
    have hm := getD_mem Q (x / 2) (by omega)
    have := hlt _ hm
    apply hz1
    have e1 : z / 2 = Q.getD (x / 2) 0 := by omega
    rw [e1]
    exact ⟨hm, by omega⟩
  · rw [fwdQ_ge_port (by omega)] at e
    apply hz2
    omega

/-- a map of qubits acting on the modes: qubit `q` owns the modes `2q` and `2q + 1` -/
def qlift (σ : ℕ → ℕ) (z : ℕ) : ℕ := 2 * σ (z / 2) + z % 2

theorem qlift_div (σ : ℕ → ℕ) (z : ℕ) : qlift σ z / 2 = σ (z / 2) :=
  two_mul_add_div (Nat.mod_lt z Nat.two_pos)

theorem qlift_mod (σ : ℕ → ℕ) (z : ℕ) : qlift σ z % 2 = z % 2 :=
  two_mul_add_mod (Nat.mod_lt z Nat.two_pos)

theorem qlift_comp (σ τ : ℕ → ℕ) (z : ℕ) : qlift σ (qlift τ z) = qlift (fun q => σ (τ q)) z := by
  show 2 * σ (qlift τ z / 2) + qlift τ z % 2 = _
  rw [qlift_div, qlift_mod]
  rfl

theorem qlift_port (σ : ℕ → ℕ) (q e : ℕ) (he : e < 2) : qlift σ (2 * q + e) = 2 * σ q + e := by
  unfold qlift
  rw [two_mul_add_div he, two_mul_add_mod he]

theorem qlift_fix (σ : ℕ → ℕ) (z : ℕ) (h : σ (z / 2) = z / 2) : qlift σ z = z := by
  unfold qlift; rw [h]; omega

theorem qlift_invol {σ : ℕ → ℕ} (h : ∀ q, σ (σ q) = q) (z : ℕ) : qlift σ (qlift σ z) = z := by
  rw [qlift_comp]
  exact qlift_fix _ _ (h _)

theorem qlift_lt {σ : ℕ → ℕ} {n D z : ℕ} (hlt : ∀ q, q < n → σ q < n) (hfix : ∀ q, n ≤ q → σ q = q)
    (hD : 2 * n ≤ D) (hz : z < D) : qlift σ z < D := by
  by_cases hq : z / 2 < n
  · have := hlt _ hq
    unfold qlift; omega
  · rw [qlift_fix σ z (hfix _ (by omega))]
    exact hz

theorem qswap_eq (a b z : ℕ) : qswap a b z = qlift (applySwap (a, b)) z := by
  unfold qswap qlift applySwap
  split_ifs <;> omega

theorem qswap_even (a b q : ℕ) : qswap a b (2 * q) = 2 * applySwap (a, b) q := by
  rw [qswap_eq]
  exact qlift_port _ q 0 (by omega)

theorem qswap_odd (a b q : ℕ) : qswap a b (2 * q + 1) = 2 * applySwap (a, b) q + 1 := by
  rw [qswap_eq, qlift_port _ q 1 (by omega)]

theorem qswap_invol (a b z : ℕ) : qswap a b (qswap a b z) = z := by
  rw [qswap_eq, qswap_eq]
  exact qlift_invol (applySwap_invol _) z

theorem qswap_injective (a b : ℕ) : Function.Injective (qswap a b) := by
  intro x y e
  have := congrArg (qswap a b) e
  rwa [qswap_invol, qswap_invol] at this

theorem qswap_div (a b z : ℕ) :
    qswap a b z / 2 = if z / 2 = a then b else if z / 2 = b then a else z / 2 := by
  rw [qswap_eq, qlift_div]
  rfl

theorem qswap_mod (a b z : ℕ) : qswap a b z % 2 = z % 2 := by
  rw [qswap_eq, qlift_mod]

theorem qswap_lt {a b n z : ℕ} (ha : a < n) (hb : b < n) : qswap a b z < 2 * n ↔ z < 2 * n := by
  have h : qswap a b z / 2 < n ↔ z / 2 < n := by
    rw [qswap_div]
    split_ifs <;> omega
  have := qswap_mod a b z
  omega

theorem qswap_of_ge (a b z : ℕ) (hz : 2 * max a b + 2 ≤ z) : qswap a b z = z := by
  rw [qswap_eq]
  exact qlift_fix _ z (applySwap_of_ne (by omega) (by omega))

end LW.C12F
