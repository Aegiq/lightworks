/-
  C07CdfReal — the real-valued twins of inverse-CDF selection and of `sampleOne`, and the uniform
  law on `[0,1)` (`uniform01`).

  `inverseCdfR` is the model's `inverseCdf` with `ℝ` in place of `Rat` (same recursion, same
  clipping).  It agrees with the model on rational data, has the same interval characterisation,
  is Borel measurable, and pushes the uniform law on `[0,1)` forward to the normalised weights.
  `sampleOneR` is the same for `sampleOne`.
-/
import Mathlib.MeasureTheory.Measure.Lebesgue.Basic
import LW.Proofs.C07Cdf

namespace LW.Proofs.C07

open MeasureTheory

noncomputable def inverseCdfR.go (u tot : ℝ) : List ℝ → ℝ → ℕ → ℕ
  | [], _, i => i
  | p :: rest, acc, i => if u < (acc + p) / tot then i else inverseCdfR.go u tot rest (acc + p) (i + 1)

/-- real-valued twin of the model's `inverseCdf` (`Generator.choice(p=…)` on an ideal real
variate) -/
noncomputable def inverseCdfR (ps : List ℝ) (u : ℝ) : ℕ :=
  min (inverseCdfR.go u (ps.foldl (· + ·) 0) ps 0 0) (ps.length - 1)

noncomputable def cumR (ps : List ℝ) (k : ℕ) : ℝ := (ps.take k).sum

theorem isGoR (u tot : ℝ) : IsGo u tot (inverseCdfR.go u tot) :=
  ⟨fun _ _ => rfl, fun _ _ _ _ => rfl⟩

theorem inverseCdfR_eq (ps : List ℝ) (u : ℝ) :
    inverseCdfR ps u = min (inverseCdfR.go u ps.sum ps 0 0) (ps.length - 1) := by
  rw [List.sum_eq_foldl]; rfl

theorem goR_cast (u tot : ℚ) (l : List ℚ) (acc : ℚ) (i : ℕ) :
    inverseCdfR.go (u : ℝ) (tot : ℝ) (l.map (fun q : ℚ => (q : ℝ))) (acc : ℝ) i =
      inverseCdf.go u tot l acc i := by
  induction l generalizing acc i with
  | nil => rfl
  | cons p rest ih =>
    rw [List.map_cons, (isGoR _ _).cons, (isGo _ _).cons, ← Rat.cast_add, ih (acc + p) (i + 1)]
    exact if_congr (by exact_mod_cast Iff.rfl) rfl rfl

theorem inverseCdfR_cast (ps : List ℚ) (u : ℚ) :
    inverseCdfR (ps.map (fun q : ℚ => (q : ℝ))) (u : ℝ) = inverseCdf ps u := by
  have h := goR_cast u ps.sum ps 0 0
  rw [Rat.cast_zero, Rat.cast_list_sum] at h
  rw [inverseCdfR_eq, inverseCdf_eq, h, List.length_map]

theorem inverseCdfR_interval (ps : List ℝ) (hnn : ∀ p ∈ ps, 0 ≤ p) (htot : 0 < ps.sum)
    (u : ℝ) (hu0 : 0 ≤ u) (hu1 : u < 1) (k : ℕ) (hk : k < ps.length) :
    inverseCdfR ps u = k ↔ cumR ps k / ps.sum ≤ u ∧ u < cumR ps (k + 1) / ps.sum := by
  rw [inverseCdfR_eq]
  exact (isGoR u ps.sum).clip_eq_iff hnn htot hu0 hu1 k hk

theorem inverseCdfR_lt (ps : List ℝ) (hne : ps ≠ []) (u : ℝ) : inverseCdfR ps u < ps.length :=
  clip_lt ps hne _

noncomputable def sampleOneR.go (u tot : ℝ) : List (FState × ℝ) → ℝ → FState → FState
  | [], _, last => last
  | (s, p) :: rest, acc, _ =>
    if u < (acc + p) / tot then s else sampleOneR.go u tot rest (acc + p) s

noncomputable def sampleOneR (dist : List (FState × ℝ)) (u : ℝ) : FState :=
  sampleOneR.go u ((dist.map (·.2)).foldl (· + ·) 0) dist 0 []

theorem isPickR (u tot : ℝ) : IsPick u tot (sampleOneR.go u tot) :=
  ⟨fun _ _ => rfl, fun _ _ _ _ _ => rfl⟩

theorem sampleOneR_eq (dist : List (FState × ℝ)) (u : ℝ) :
    sampleOneR dist u = (dist.getD (inverseCdfR (dist.map (·.2)) u) ([], 0)).1 := by
  unfold sampleOneR inverseCdfR
  rw [(isPickR u _).eq_getD (isGoR u _), List.length_map]

theorem measurable_goR (tot : ℝ) (l : List ℝ) (acc : ℝ) (i : ℕ) :
    Measurable fun u : ℝ => inverseCdfR.go u tot l acc i := by
  induction l generalizing acc i with
  | nil => simp only [inverseCdfR.go]; exact measurable_const
  | cons p rest ih =>
    simp only [inverseCdfR.go]
    exact Measurable.ite (measurableSet_lt measurable_id measurable_const) measurable_const
      (ih _ _)

theorem measurable_inverseCdfR (ps : List ℝ) : Measurable fun u : ℝ => inverseCdfR ps u := by
  unfold inverseCdfR
  exact (measurable_goR _ ps 0 0).min measurable_const

theorem measurableSet_inverseCdfR_eq (ps : List ℝ) (k : ℕ) :
    MeasurableSet {u : ℝ | inverseCdfR ps u = k} :=
  measurable_inverseCdfR ps (measurableSet_singleton k)

theorem measurableSet_sampleOneR_eq (dist : List (FState × ℝ)) (s : FState) :
    MeasurableSet {u : ℝ | sampleOneR dist u = s} := by
  simp only [sampleOneR_eq]
  exact measurable_inverseCdfR _ (.of_discrete (s := {k | (dist.getD k ([], 0)).1 = s}))

theorem inverseCdfR_preimage (ps : List ℝ) (hnn : ∀ p ∈ ps, 0 ≤ p) (htot : 0 < ps.sum)
    (k : ℕ) (hk : k < ps.length) :
    {u : ℝ | inverseCdfR ps u = k} ∩ Set.Ico 0 1 =
      Set.Ico (cumR ps k / ps.sum) (cumR ps (k + 1) / ps.sum) := by
  ext u
  simp only [Set.mem_inter_iff, Set.mem_ofPred_eq, Set.mem_Ico]
  constructor
  · rintro ⟨h, hu0, hu1⟩
    exact (inverseCdfR_interval ps hnn htot u hu0 hu1 k hk).mp h
  · rintro ⟨h1, h2⟩
    have hu0 : 0 ≤ u := le_trans (div_nonneg (sum_take_nonneg ps hnn k) htot.le) h1
    have hu1 : u < 1 :=
      lt_of_lt_of_le h2 ((div_le_one htot).mpr (sum_take_le_sum ps hnn (k + 1)))
    exact ⟨(inverseCdfR_interval ps hnn htot u hu0 hu1 k hk).mpr ⟨h1, h2⟩, hu0, hu1⟩

theorem volume_inverseCdfR_eq (ps : List ℝ) (hnn : ∀ p ∈ ps, 0 ≤ p) (htot : 0 < ps.sum)
    (k : ℕ) (hk : k < ps.length) :
    (volume.restrict (Set.Ico (0 : ℝ) 1)) {u : ℝ | inverseCdfR ps u = k} =
      ENNReal.ofReal (ps.getD k 0 / ps.sum) := by
  rw [Measure.restrict_apply' measurableSet_Ico, inverseCdfR_preimage ps hnn htot k hk,
    Real.volume_Ico, cumR, cumR, sum_take_succ_getD ps k hk]
  congr 1
  ring

/-- the uniform law on `[0,1)`; an `abbrev`, so a hypothesis spelt `volume.restrict (Set.Ico 0 1)`, as in
the statements about tapes, and one spelt `uniform01` are interchangeable -/
noncomputable abbrev uniform01 : Measure ℝ := volume.restrict (Set.Ico (0 : ℝ) 1)

instance : IsProbabilityMeasure uniform01 := ⟨by simp [uniform01]⟩

theorem aemeasurable_of_map_eq_uniform {Ω : Type*} [MeasurableSpace Ω] {μ : Measure Ω}
    (X : Ω → ℝ) (h : Measure.map X μ = uniform01) : AEMeasurable X μ :=
  AEMeasurable.of_map_ne_zero (h ▸ IsProbabilityMeasure.ne_zero uniform01)

theorem isProbabilityMeasure_of_map_eq_uniform {Ω : Type*} [MeasurableSpace Ω] {μ : Measure Ω}
    (X : Ω → ℝ) (h : Measure.map X μ = uniform01) : IsProbabilityMeasure μ :=
  haveI : IsProbabilityMeasure (Measure.map X μ) := h ▸ inferInstance
  Measure.isProbabilityMeasure_of_map X

theorem uniform01_real_inverseCdfR (ps : List ℝ) (hnn : ∀ p ∈ ps, 0 ≤ p) (htot : 0 < ps.sum)
    (k : ℕ) (hk : k < ps.length) :
    uniform01.real {u : ℝ | inverseCdfR ps u = k} = ps.getD k 0 / ps.sum := by
  rw [Measure.real, volume_inverseCdfR_eq ps hnn htot k hk, ENNReal.toReal_ofReal]
  refine div_nonneg ?_ htot.le
  rw [List.getD_eq_getElem ps 0 hk]
  exact hnn _ (List.getElem_mem hk)

/-- non-vacuity: weights 1/4, 0, 3/4 satisfy the hypotheses; index 2 has probability 3/4 and the
zero-weight index 1 has probability 0 -/
example : (∀ p ∈ ([1/4, 0, 3/4] : List ℝ), 0 ≤ p) ∧ 0 < ([1/4, 0, 3/4] : List ℝ).sum ∧
    ([1/4, 0, 3/4] : List ℝ).getD 2 0 / ([1/4, 0, 3/4] : List ℝ).sum = 3/4 ∧
    ([1/4, 0, 3/4] : List ℝ).getD 1 0 / ([1/4, 0, 3/4] : List ℝ).sum = 0 := by
  refine ⟨?_, by norm_num, by norm_num, by norm_num⟩
  intro p hp
  simp only [List.mem_cons, List.not_mem_nil, or_false] at hp
  rcases hp with h | h | h <;> rw [h] <;> norm_num

end LW.Proofs.C07
