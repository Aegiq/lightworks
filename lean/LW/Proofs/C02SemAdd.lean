/-
  LW.Proofs.C02SemAdd — REFINEMENT of `Circuit.add`. Through the arrangement of the result the two
  placements of `Optic.compose` are the two placements of `add`, so the composed matrix is the
  result's `U_full` read along it (`Ctx.W_add`): if an optic presents the parent, composing it with
  the closed form of the sub-circuit presents the result, the new ancillas last (`View.add`). On
  canonical closed forms: `sem_add_pos` (positional hypotheses `SpecPos` only), with `sem_add`
  (reachable circuits) and `C12F.sem_add_weak` (`SpecOk`) as instances.
-/
import LW.Proofs.C02SemAddArr
import LW.Proofs.C02SemAddMat
import LW.Proofs.C02SemCompose
import LW.Proofs.C02Reject

open scoped BigOperators

namespace LW.Proofs.C02Sem

open LW LW.Proofs.C01Aux LW.Proofs.C02

variable {K : Type} [CommRing K] [StarRing K]

-- `AddData` is stated with `[CommRing K] [StarRing K]`; what speaks of it takes them along, used or not
set_option linter.unusedSectionVars false

theorem closed_hn_length (i : K) (sub : Circ K) (hwfs : sub.WF) :
    (sub.toOptic i).closed.hn.length = sub.inHer.length := by
  rw [closed_toOptic i sub hwfs]; simp

theorem fn_id_of_keys_eq_vals (σ : Dict) (h : σ.keys = σ.vals) (r : Nat) : Dict.fn σ r = r := by
  by_cases hr : r ∈ σ.keys
  · have hm := Dict.fn_mem hr
    have : ∀ p ∈ σ, p.1 = p.2 := List.map_inj_left.mp h
    exact (this _ hm).symm
  · exact Dict.fn_of_not_mem hr

theorem get_compile_swapSpec (i : K) (c : Circ K) (hwf : c.WF) :
    ∃ ginv : Nat → Nat,
      (∀ x, ginv (Dict.fn (Circ.synthSwaps c.n (c.outHer.keys.zip c.inHer.keys)) x) = x) ∧
      ∀ r k, r < c.n + lossCount c.spec → k < c.n + lossCount c.spec →
        (compile i c.n (swapSpec c)).get r k = (compile i c.n c.spec).get (ginv r) k := by
  have hok := Reach.synthSwaps_zipHer_swapsOk c hwf
  have hperm := hok.permBelow
  refine ⟨_, hperm.left, fun r k hr hk => ?_⟩
  unfold swapSpec
  simp only
  rw [prov_eq c hwf]
  split
  · have := compile_append_prims i c.n c.spec [Prim.swaps (Circ.synthSwaps c.n (c.outHer.keys.zip c.inHer.keys))]
    rw [show [Comp.prim (Prim.swaps (Circ.synthSwaps c.n (c.outHer.keys.zip c.inHer.keys)))]
      = [Prim.swaps (Circ.synthSwaps c.n (c.outHer.keys.zip c.inHer.keys))].map Comp.prim from rfl, this]
    show ((permMat _ (compile i c.n c.spec).n).mul _).get r k = _
    rw [permMat_eq_permF, compile_n]
    exact permF_mul_get hperm (by omega) _ hr hk
  · rename_i hne
    have hkv : (Circ.synthSwaps c.n (c.outHer.keys.zip c.inHer.keys)).keys
        = (Circ.synthSwaps c.n (c.outHer.keys.zip c.inHer.keys)).vals := by
      by_contra hc
      apply hne
      simp only [bne_iff_ne, ne_eq]
      exact hc
    have hid := fn_id_of_keys_eq_vals _ hkv
    have : Dict.fn (Dict.ofPairs ((Circ.synthSwaps c.n (c.outHer.keys.zip c.inHer.keys)).map fun p => (p.2, p.1))) r = r := by
      have := hperm.left r
      rwa [hid r] at this
    rw [this]

theorem swap_row_col (sub : Circ K) (hwfs : sub.WF) (y : Nat) :
    Dict.fn (Circ.synthSwaps sub.n (sub.outHer.keys.zip sub.inHer.keys)) (rowM sub y) = colM sub y := by
  have hlen : sub.outHer.keys.length = sub.inHer.keys.length := by
    rw [keys_length, keys_length, hwfs.lenEq]
  rw [rowM, colM,
    ← sel_map _ _ (fun k => (Reach.synthSwaps_zipHer_swapsOk sub hwfs).fix _ (Nat.le_add_right _ k)),
    List.map_append,
    synthSwaps_free_map sub.n _ _ hlen hwfs.outNodup hwfs.inNodup hwfs.outLt hwfs.inLt,
    synthSwaps_keys_map sub.n _ _ hlen hwfs.outNodup hwfs.outLt]

/-- the matrix of the closed form is the compiled sub-circuit, herald-returning swap included, read
along the column selector: the swap takes the row selector to the column selector -/
theorem closedW_swap (i : K) (sub : Circ K) (g : Bool) (hwfs : sub.WF) :
    (sub.toOptic i).closed.W =
      Optic.embedVia (sub.n - sub.inHer.length + sub.inHer.length + lossCount sub.spec)
        (compile i sub.n (swapSpec (pick sub g).1)) (fun y => some (colM sub y)) := by
  rw [closed_toOptic i sub hwfs]
  unfold Optic.embedVia
  dsimp only
  refine M.ofFn_congr fun y1 y2 hy1 hy2 => ?_
  obtain ⟨pn, pin, pout⟩ := pick_props sub g
  obtain ⟨ginv, hginv, hget⟩ := get_compile_swapSpec i (pick sub g).1 (pick_WF sub g hwfs)
  rw [pn, pin, pout] at hginv
  have hle := WF.inHer_length_le hwfs
  have hget := hget (colM sub y1) (colM sub y2)
    (by rw [pn, lossCount_pick]; exact colM_lt sub hwfs (Nat.sub_add_cancel hle ▸ hy1))
    (by rw [pn, lossCount_pick]; exact colM_lt sub hwfs (Nat.sub_add_cancel hle ▸ hy2))
  rw [pn, compile_pick] at hget
  show _ = (compile i sub.n (swapSpec (pick sub g).1)).get (colM sub y1) (colM sub y2)
  rw [hget, ← swap_row_col sub hwfs y1, hginv]
  rfl

theorem lossCount_res {par sub res : Circ K} {m : Int} {g : Bool} {mode : Nat} {ts : List Nat}
    (d : AddData par sub res m g mode ts) : lossCount res.spec = lossCount par.spec + lossCount sub.spec := by
  rw [← lossN_flatten, d.flat]
  unfold lossN
  rw [List.filter_append, List.length_append]
  show lossN _ + lossN _ = _
  rw [lossN_flatten, lossN_flatten, lossCount_specIns]
  rw [lossCount_shift, lossCount_specIns, lossCount_swapSpec, lossCount_pick]

section
variable {par sub res : Circ K} {m : Int} {g : Bool} {mode : Nat} {ts : List Nat}
  {i : K} {x : Optic K} {anc : List Nat}

/-- the parent's relabelling `parMap` with `unbumps` of the new ancilla modes is a partial
injection, for every number `L` of loss modes -/
theorem Ctx.pinjK (c : Ctx par sub res m g mode ts) (L : Nat) :
    PInj (par.n + L) (par.n + sub.inHer.length + L) (parMap sub mode ts) (unbumps (ancModes sub mode ts)) := by
  obtain ⟨hKlen, -, -, hKok⟩ := c.d.ancModes_spec c.wfs
  have := pinj_bumps par.n L (ancModes sub mode ts) hKok
  rwa [hKlen] at this

/-- forward map of the sub-circuit's modes into the result -/
def phi (sub : Circ K) (par : Circ K) (mode : Nat) (ts : List Nat) (x : Nat) : Nat :=
  winFwd (sub.n + ts.length) mode (par.n + sub.inHer.length + lossCount par.spec) (bumps ts x)

/-- the partial inverse of `phi` (`Ctx.pinjPhi`) -/
def iota (sub : Circ K) (par : Circ K) (mode : Nat) (ts : List Nat) (r : Nat) : Option Nat :=
  (winInv (sub.n + ts.length) mode (par.n + sub.inHer.length + lossCount par.spec) r).bind (unbumps ts)

theorem Ctx.pinjPhi (c : Ctx par sub res m g mode ts) :
    PInj (sub.n + lossCount sub.spec)
      (par.n + sub.inHer.length + lossCount par.spec + lossCount sub.spec)
      (phi sub par mode ts) (iota sub par mode ts) := by
  have h1 := pinj_bumps sub.n (lossCount sub.spec) ts c.d.ok
  have h2 := pinj_win (sub.n + ts.length) mode (par.n + sub.inHer.length + lossCount par.spec)
    (lossCount sub.spec) (by have := c.pos.fit; omega)
  exact h1.comp h2

/-- the index wired to the `y`-th index of the sub-circuit's closed form stands, in the result, for
the place of the sub-circuit's `y`-th mode -/
theorem Ctx.arr_wire (c : Ctx par sub res m g mode ts) (ha : anc.Perm par.internal) (y : Nat) :
    arr res (ancAdd sub mode ts anc)
        (wire m.toNat (sub.n - sub.inHer.length) sub.inHer.length par.n (lossCount par.spec) y)
      = phi sub par mode ts (colM sub y) := by
  have hfl := length_freeOf sub.n _ c.wfs.inNodup c.wfs.inLt
  rw [keys_length] at hfl
  have hm1 := c.hm1
  have hmode : par.portModes[m.toNat] = mode := by rw [← optMode_port par hm1]; exact c.hmode
  have hbt : ∀ k, arr res (ancAdd sub mode ts anc) (par.n + sub.inHer.length + lossCount par.spec + k)
      = par.n + sub.inHer.length + lossCount par.spec + k := fun k =>
    arr_ge c.wf' (c.perm_ancAdd ha) (by rw [c.d.n_eq]; omega)
  have hbp : ∀ k, phi sub par mode ts (sub.n + k)
      = par.n + sub.inHer.length + lossCount par.spec + k := fun k => by
    unfold phi winFwd
    rw [bumps_of_ge sub.n ts c.d.ok _ (by omega), if_neg (by omega)]; omega
  have hphi : ∀ x, x < sub.n → phi sub par mode ts x = mode + bumps ts x := fun x hx => by
    unfold phi winFwd
    rw [if_pos (c.pos.b_lt x hx)]
  unfold wire
  rw [colM, ← sel_map _ _ hbt, ← sel_map _ _ hbp, List.map_append, List.map_append,
    List.map_map, List.map_map, map_eq_range_getD _ (freeOf sub.n sub.inHer.keys), hfl,
    map_eq_range_getD _ sub.inHer.keys, keys_length]
  refine congrArg (fun L => sel L _ y) (congrArg₂ (· ++ ·) ?_ ?_)
  · apply List.map_congr_left
    intro j hj
    have hj' : j < (freeOf sub.n sub.inHer.keys).length := by rw [hfl]; exact List.mem_range.mp hj
    obtain ⟨hmj, e⟩ := window par sub mode ts _ c.pos c.d.sorted m.toNat hm1 hmode j hj'
    show arr res (ancAdd sub mode ts anc) (m.toNat + j) = _
    rw [c.arr_add_low ha (by have := portModes_length par c.wf; omega), arr_port hmj,
      List.getD_eq_getElem _ _ hj', hphi _ (mem_freeOf.mp (List.getElem_mem hj')).1]
    exact e
  · apply List.map_congr_left
    intro j hj
    have hj' := List.mem_range.mp hj
    show arr res (ancAdd sub mode ts anc) (par.n + j) = _
    rw [c.arr_add_new ha hj', hphi _ (c.key_lt hj')]

/-- the index of the composed optic that holds the parent's index `y` stands, in the result, for the
place of the parent's mode behind `y` -/
theorem Ctx.arr_fwdP (c : Ctx par sub res m g mode ts) (ha : anc.Perm par.internal) (y : Nat) :
    arr res (ancAdd sub mode ts anc) (fwdP par.n sub.inHer.length y)
      = parMap sub mode ts (arr par anc y) := by
  unfold fwdP
  by_cases h : y < par.n
  · rw [if_pos h]; exact c.arr_add_low ha h
  · rw [if_neg h, arr_ge c.wf ha (by omega), c.pos.f_loss _ (by omega)]
    exact arr_ge c.wf' (c.perm_ancAdd ha) (by rw [c.d.n_eq]; omega)

/-- The matrix of the composed optic is the result's `U_full` read along the arrangement `τ` of the
result in the order `ancAdd … anc`. With `S` the compiled sub-circuit with its swap and
`P = par.Ufull`: the result's `U_full` (`Ufull_add`) read along `τ` is a product of `S` and of `P`,
each placed into the result and read along `τ` (`embedVia_mul`, which needs `τ` as a partial
injection: `pinj_arr`); the composed matrix (`compose_W`, `closedW_swap`, `View.W`) is the product of
`S` read along `colM sub` and of `P` read along the parent's arrangement, each placed into the
composed optic. Factor by factor the two agree by `embedVia_square`, since the forward maps commute:
`Ctx.arr_wire` and `Ctx.arr_fwdP`. -/
theorem Ctx.W_add (c : Ctx par sub res m g mode ts) (v : View i par x anc)
    (hs : SpecPos par.n par.spec) (hsub : SpecPos sub.n sub.spec) :
    (x.compose (sub.toOptic i).closed m.toNat).W
      = Optic.embedVia (par.n + sub.inHer.length + lossCount par.spec + lossCount sub.spec)
          (res.Ufull i) (fun R => some (arr res (ancAdd sub mode ts anc) R)) := by
  have hle := WF.inHer_length_le c.wfs
  have hdim := v.dim c.wf
  obtain ⟨τ', hτ⟩ := pinj_arr c.wf' (c.perm_ancAdd v.perm) (lossCount par.spec + lossCount sub.spec)
  rw [c.d.n_eq, ← Nat.add_assoc] at hτ
  obtain ⟨t', ht⟩ := pinj_arr c.wf v.perm (lossCount par.spec)
  obtain ⟨c', hc⟩ := pinj_sel_arr (perm_freeOf_append c.wfs.inNodup c.wfs.inLt)
    (N := sub.n - sub.inHer.length + sub.inHer.length + lossCount sub.spec) (by omega)
  have hc : PInj _ _ c' fun y => some (colM sub y) := hc
  have hsl := closed_hn_length i sub c.wfs
  have hsl2 : (sub.toOptic i).closed.l = lossCount sub.spec := by rw [closed_toOptic i sub c.wfs]
  have hS := pinj_invS x (sub.toOptic i).closed m.toNat
    (by rw [closed_q i sub c.wfs, hdim]; have := c.hmq; have := portModes_length par c.wf; omega)
  have hP := pinj_invP x sub.inHer.length (lossCount sub.spec)
  have hwin := pinj_win (sub.n + ts.length) mode (par.n + sub.inHer.length + lossCount par.spec)
    (lossCount sub.spec) (by have := c.pos.fit; omega)
  have hbel := pinj_below
    (Nat.le_add_right (par.n + sub.inHer.length + lossCount par.spec) (lossCount sub.spec))
  have hphi := c.pinjPhi
  rw [show sub.n + lossCount sub.spec
    = sub.n - sub.inHer.length + sub.inHer.length + lossCount sub.spec by omega] at hphi
  rw [closed_q i sub c.wfs, hsl, v.l, hdim, hsl2] at hS
  rw [v.l, hdim] at hP
  rw [Ufull_add i par sub res m g mode ts c.d c.wfs hs hsub,
    embedVia_mul hτ _ _ rfl, embedVia_comp hwin, pad_eq_embedVia, embedVia_n, embedVia_comp hbel,
    compose_W, hsl, v.l, hdim, hsl2, closedW_swap i sub g c.wfs, v.W]
  -- `congr 1` would try to close the two sides by unfolding them
  refine congrArg₂ M.mul ?_ ?_
  · exact (embedVia_square hphi hS hτ hc (fun y _ => c.arr_wire v.perm y) _).symm
  · exact (embedVia_square ((c.pinjK _).comp hbel) hP hτ ht (fun y _ => c.arr_fwdP v.perm y) _).symm

theorem View.add (c : Ctx par sub res m g mode ts) (v : View i par x anc)
    (hs : SpecPos par.n par.spec) (hsub : SpecPos sub.n sub.spec) :
    View i res (x.compose (sub.toOptic i).closed m.toNat) (ancAdd sub mode ts anc) := by
  have hsl := closed_hn_length i sub c.wfs
  have hl := lossCount_res c.d
  have hdim := v.dim c.wf
  have hlow : ∀ (L keys : List Nat), L.map (arr par anc) = keys → (∀ k ∈ keys, k < par.n) →
      L.map (arr res (ancAdd sub mode ts anc)) = keys.map (parMap sub mode ts) := by
    intro L keys e hk
    rw [← e, List.map_map]
    exact List.map_congr_left fun r hr =>
      c.arr_add_low v.perm (v.lt_of c.wf (hk _ (e ▸ List.mem_map_of_mem hr)))
  have hnew : ((List.range sub.inHer.length).map (par.n + ·)).map (arr res (ancAdd sub mode ts anc))
      = (sub.inHer.keys.map (bumps ts)).map (· + mode) := by
    rw [List.map_map, List.map_map, map_eq_range_getD _ sub.inHer.keys, keys_length]
    apply List.map_congr_left
    intro j hj
    show arr res (ancAdd sub mode ts anc) (par.n + j) = _
    rw [c.arr_add_new v.perm (List.mem_range.mp hj)]
    exact Nat.add_comm _ _
  refine ⟨c.perm_ancAdd v.perm, ?_, ?_, ?_, ?_, ?_, ?_, ?_⟩
  · rw [compose_p, v.p_eq, c.res_portModes, List.length_map]
  · rw [compose_a, v.a_eq, hsl, ancAdd_length]
  · rw [compose_l, v.l, hl]; congr 1; rw [closed_toOptic i sub c.wfs]
  · rw [c.W_add v hs hsub, c.d.n_eq, hl, ← Nat.add_assoc]
  · rw [compose_her_i, hdim, hsl, c.res_inKeys, List.map_append, hnew, hlow _ _ v.herI c.wf.inLt]
  · rw [compose_her_o, hdim, hsl, c.res_outKeys, List.map_append, hnew, hlow _ _ v.herO c.wf.outLt]
  · rw [compose_her_n, v.herN, c.d.inHer, List.map_append]
    have : (sub.toOptic i).closed.hn = sub.inHer.map (·.2) := by rw [closed_toOptic i sub c.wfs]
    rw [this]
    simp [Dict.mapKeys, Function.comp_def]

end

/-- REFINEMENT of `Circuit.add` under positional hypotheses only: the unitary blocks may be
arbitrary (possibly non-invertible) matrices. `[StarRing K]` is only handed on to `AddData`; no
step uses `star` (see at `specIns`, C02SemRelabel). -/
theorem sem_add_pos (i : K) (self sub self' : Circ K) (hwf : self.WF) (hwfs : sub.WF)
    (hs : SpecPos self.n self.spec) (hsub : SpecPos sub.n sub.spec) (m : Int) (g : Bool)
    (h : self.add sub m g = .ok self') :
    (self'.toOptic i).closed = ((self.toOptic i).compose (sub.toOptic i).closed m.toNat).closed := by
  have hwf' : self'.WF := (add_preserves_WF self sub self' hwf hwfs m g h).1
  obtain ⟨mode, ts, -, d⟩ := add_data self sub self' hwf hwfs m g h
  obtain ⟨hm0, hm1, hmode, -, -⟩ := mapped_port self hwf d.hmode
  have hcond := (add_accepts_iff self sub hwf hwfs m g).mp ⟨_, h⟩
  have hP := portModes_length_eq_ports self hwf
  have c : Ctx self sub self' m g mode ts :=
    ⟨hwf, hwfs, hwf', d, by omega, hmode.symm, by omega⟩
  exact ((view_toOptic i self' hwf').closed hwf').trans
    ((View.add c (view_toOptic i self hwf) hs hsub).closed hwf').symm

theorem sem_add (i : K) (self sub self' : Circ K) (hs : Reach self) (hsub : Reach sub)
    (m : Int) (g : Bool) (h : self.add sub m g = .ok self') :
    (self'.toOptic i).closed = ((self.toOptic i).compose (sub.toOptic i).closed m.toNat).closed :=
  have inv := LW.Proofs.Reach.reach_inv self hs
  have invs := LW.Proofs.Reach.reach_inv sub hsub
  sem_add_pos i self sub self' inv.wf invs.wf (.of_wf inv.spec) (.of_wf invs.spec) m g h

theorem sem_add_accepts (i : K) (self sub : Circ K) (hs : Reach self) (hsub : Reach sub) (m : Int) (g : Bool) :
    (∃ self', self.add sub m g = .ok self') ↔ (∃ x, (self.toOptic i).add (sub.toOptic i) m = .ok x) := by
  have hwf := (LW.Proofs.Reach.reach_inv self hs).wf
  have hwfs := (LW.Proofs.Reach.reach_inv sub hsub).wf
  have hP := portModes_length_eq_ports self hwf
  have hq := closed_q i sub hwfs
  have hp : (self.toOptic i).p = self.portModes.length := rfl
  rw [add_accepts_iff self sub hwf hwfs m g]
  unfold Optic.add
  dsimp only
  rw [hq, hp, hP]
  constructor
  · rintro ⟨h0, h1, h2⟩
    rw [if_pos ⟨h0, h1, by omega⟩]
    exact ⟨_, rfl⟩
  · rintro ⟨x, h⟩
    split at h
    · rename_i hc
      exact ⟨hc.1, hc.2.1, by omega⟩
    · cases h

end LW.Proofs.C02Sem
