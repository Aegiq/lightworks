/-
  LW.Proofs.C16ProjCP — the CP step of the MLE process tomography: `_cp_proj` (LW.Model.MLEProj
  `cpProjFrom`) returns a positive semi-definite matrix (Mathlib's `Matrix.PosSemidef`) for ANY
  matrix of eigenvectors and ANY eigenvalues `eigh` may return, and the part removed is negative
  semi-definite; for real `vals` the two parts add up to `vecs·diag(vals)·vecs†`
  (`cpProj_decomposition`), and with `vecs` unitary (the `eigh` contract) they are orthogonal
  (`cpProj_orthogonal`): the Moreau decomposition, so the result is the positive semi-definite
  matrix nearest to `vecs·diag(vals)·vecs†`. That this matrix is the input of `_cp_proj` (the
  reconstruction half of the contract) is assumed nowhere. Positive semi-definiteness survives the
  convex updates of `pgdb`.
-/
import Mathlib.LinearAlgebra.Matrix.PosDef
import Mathlib.Analysis.Complex.Basic
import LW.Proofs.C16Proj
import LW.Proofs.MatAlg
import LW.Proofs.ListLemmas

open scoped BigOperators ComplexOrder
open Matrix

namespace LW.Tomo

/-- `v ↦ max(v, 0)` on a real eigenvalue stored as a complex number -/
noncomputable def clipC (z : ℂ) : ℂ := ((max z.re 0 : ℝ) : ℂ)
/-- the part `_cp_proj` removes: `v ↦ min(v, 0)` -/
noncomputable def clipNegC (z : ℂ) : ℂ := ((min z.re 0 : ℝ) : ℂ)

/-- what the model assumes about `np.linalg.eigh` as far as shapes go -/
def EighShapes (eigh : M ℂ → List ℂ × M ℂ) (n : Nat) : Prop :=
  ∀ Y, Y.n = n → (eigh Y).2.n = n ∧ (eigh Y).1.length = n

/-- `_cp_proj` with `eigh` as a parameter -/
noncomputable def cpProjWith (eigh : M ℂ → List ℂ × M ℂ) (Y : M ℂ) : M ℂ :=
  cpProjFrom clipC (eigh Y).1 (eigh Y).2

theorem toMatN_mat2 {K : Type} [Field K] (a b c d : K) : (mat2 a b c d).toMatN 2 = !![a, b; c, d] := by
  ext r k
  fin_cases r <;> fin_cases k
  exacts [mat2_00 .., mat2_01 .., mat2_10 .., mat2_11 ..]

theorem get_diagOf {K : Type} [Field K] (vals : List K) {r k : Nat} (hr : r < vals.length) (hk : k < vals.length) :
    (diagOf vals).get r k = if r = k then vals.getD r 0 else 0 := by
  unfold diagOf
  rw [M.get_ofFn _ hr hk]

theorem toMatN_diagOf {K : Type} [Field K] (vals : List K) (n : Nat) (hl : vals.length = n) :
    (diagOf vals).toMatN n = Matrix.diagonal fun j : Fin n => vals.getD j 0 := by
  subst hl
  ext r k
  simp only [M.toMatN, get_diagOf vals r.2 k.2, Matrix.diagonal_apply, Fin.ext_iff]

theorem cpProjFrom_toMatN (f : ℂ → ℂ) (vals : List ℂ) (V : M ℂ) (n : Nat) (hV : V.n = n)
    (hl : vals.length = n) :
    (cpProjFrom f vals V).toMatN n
      = V.toMatN n * Matrix.diagonal (fun j : Fin n => f (vals.getD j 0)) * (V.toMatN n)ᴴ := by
  unfold cpProjFrom
  rw [M.toMatN_mul _ _ (by rw [M.mul_n, hV]), M.toMatN_mul _ _ hV, M.toMatN_dagger _ hV,
    toMatN_diagOf _ n (by rw [List.length_map, hl])]
  congr 3
  funext j
  exact getD_map_lt f vals (hl ▸ j.isLt)

theorem clipC_nonneg (z : ℂ) : 0 ≤ clipC z := by
  unfold clipC
  exact_mod_cast le_max_right _ _

theorem clipNegC_nonpos (z : ℂ) : clipNegC z ≤ 0 := by
  unfold clipNegC
  exact_mod_cast min_le_right _ _

theorem cpProj_posSemidef (vals : List ℂ) (V : M ℂ) (n : Nat) (hV : V.n = n) (hl : vals.length = n) :
    ((cpProjFrom clipC vals V).toMatN n).PosSemidef := by
  rw [cpProjFrom_toMatN clipC vals V n hV hl]
  exact Matrix.PosSemidef.mul_mul_conjTranspose_same
    (Matrix.PosSemidef.diagonal fun j => clipC_nonneg _) _

theorem cpProj_removed_negSemidef (vals : List ℂ) (V : M ℂ) (n : Nat) (hV : V.n = n)
    (hl : vals.length = n) :
    (-(cpProjFrom clipNegC vals V).toMatN n).PosSemidef := by
  rw [cpProjFrom_toMatN clipNegC vals V n hV hl]
  have : -(V.toMatN n * Matrix.diagonal (fun j : Fin n => clipNegC (vals.getD j 0)) * (V.toMatN n)ᴴ)
      = V.toMatN n * Matrix.diagonal (fun j : Fin n => -clipNegC (vals.getD j 0)) * (V.toMatN n)ᴴ := by
    rw [← Matrix.diagonal_neg, Matrix.mul_neg, Matrix.neg_mul]
  rw [this]
  exact Matrix.PosSemidef.mul_mul_conjTranspose_same
    (Matrix.PosSemidef.diagonal fun j => neg_nonneg.mpr (clipNegC_nonpos _)) _

theorem cpProj_decomposition (vals : List ℂ) (hre : ∀ v ∈ vals, v.im = 0) (V : M ℂ) (n : Nat)
    (hV : V.n = n) (hl : vals.length = n) :
    (cpProjFrom clipC vals V).toMatN n + (cpProjFrom clipNegC vals V).toMatN n
      = (cpProjFrom id vals V).toMatN n := by
  rw [cpProjFrom_toMatN _ vals V n hV hl, cpProjFrom_toMatN _ vals V n hV hl,
    cpProjFrom_toMatN _ vals V n hV hl, ← Matrix.add_mul, ← Matrix.mul_add, Matrix.diagonal_add]
  congr 3
  ext j
  have hj : (j : Nat) < vals.length := hl ▸ j.isLt
  have hmem : vals.getD j 0 ∈ vals := by
    rw [List.getD_eq_getElem?_getD, List.getElem?_eq_getElem hj]; exact List.getElem_mem hj
  have him := hre _ hmem
  generalize vals.getD j 0 = v at him
  apply Complex.ext
  · simp [clipC, clipNegC, max_add_min]
  · simp [clipC, clipNegC, him]

/-- With `cpProj_posSemidef`, `cpProj_removed_negSemidef` and `cpProj_decomposition` this is the
Moreau decomposition, i.e. the result is the Frobenius-nearest positive semi-definite matrix to
`cpProjFrom id vals V = vecs·diag(vals)·vecs†`. -/
theorem cpProj_orthogonal (vals : List ℂ) (V : M ℂ) (n : Nat) (hV : V.n = n) (hl : vals.length = n)
    (hU : (V.toMatN n)ᴴ * V.toMatN n = 1) :
    (cpProjFrom clipC vals V).toMatN n * (cpProjFrom clipNegC vals V).toMatN n = 0 := by
  rw [cpProjFrom_toMatN _ vals V n hV hl, cpProjFrom_toMatN _ vals V n hV hl]
  have hd : Matrix.diagonal (fun j : Fin n => clipC (vals.getD j 0))
      * Matrix.diagonal (fun j : Fin n => clipNegC (vals.getD j 0)) = 0 := by
    rw [Matrix.diagonal_mul_diagonal]
    ext r k
    by_cases h : r = k
    · subst h
      simp only [Matrix.diagonal_apply_eq, Matrix.zero_apply, clipC, clipNegC]
      generalize vals.getD r 0 = v
      rcases le_total v.re 0 with h0 | h0
      · simp [max_eq_right h0]
      · simp [min_eq_right h0]
    · simp [Matrix.diagonal_apply_ne _ h]
  calc V.toMatN n * diagonal (fun j : Fin n => clipC (vals.getD j 0)) * (V.toMatN n)ᴴ
        * (V.toMatN n * diagonal (fun j : Fin n => clipNegC (vals.getD j 0)) * (V.toMatN n)ᴴ)
      = V.toMatN n * (diagonal (fun j : Fin n => clipC (vals.getD j 0))
          * ((V.toMatN n)ᴴ * V.toMatN n) * diagonal (fun j : Fin n => clipNegC (vals.getD j 0)))
          * (V.toMatN n)ᴴ := by simp only [Matrix.mul_assoc]
    _ = 0 := by rw [hU, Matrix.mul_one, hd, Matrix.mul_zero, Matrix.zero_mul]

theorem pgdbStep_toMatN (proj grad : M ℂ → M ℂ) (muInv alpha : ℂ) (choi : M ℂ) (n : Nat)
    (hn : choi.n = n) (hp : ∀ X, X.n = n → (proj X).n = n) :
    (pgdbStep proj grad muInv alpha choi).toMatN n
      = (1 - alpha) • choi.toMatN n
        + alpha • (proj (msub choi (scale muInv (grad choi)))).toMatN n := by
  unfold pgdbStep
  simp only
  have hX : (msub choi (scale muInv (grad choi))).n = n := by simpa using hn
  rw [toMatN_madd _ _ n hn, toMatN_scale _ _ n (by simpa using hp _ hX),
    toMatN_msub _ _ n (hp _ hX), smul_sub, sub_smul, one_smul]
  abel

/-- `hproj` holds for `_cptp_proj`, which returns an output of `_cp_proj` (`cptpProj_posSemidef`);
`hal` holds for the step sizes `0.5^j` of the code. -/
theorem pgdbRun_posSemidef (n : Nat) (proj grad : M ℂ → M ℂ) (muInv : ℂ)
    (hproj : ∀ X, X.n = n → (proj X).n = n ∧ ((proj X).toMatN n).PosSemidef)
    (alphas : List ℝ) (hal : ∀ a ∈ alphas, 0 ≤ a ∧ a ≤ 1) (choi : M ℂ) (hn : choi.n = n)
    (hpsd : (choi.toMatN n).PosSemidef) :
    ((pgdbRun proj grad muInv (alphas.map Complex.ofReal) choi).toMatN n).PosSemidef := by
  refine (pgdbRun_induction (fun X => X.n = n ∧ (X.toMatN n).PosSemidef) proj grad muInv _ ?_ choi
    ⟨hn, hpsd⟩).2
  rintro X ⟨hXn, hXpsd⟩ a ha
  obtain ⟨al, hal', rfl⟩ := List.mem_map.mp ha
  obtain ⟨h0, h1⟩ := hal al hal'
  obtain ⟨hpn, hppsd⟩ := hproj (msub X (scale muInv (grad X))) hXn
  refine ⟨hXn, ?_⟩
  rw [pgdbStep_toMatN proj grad muInv al X n hXn (fun Y hY => (hproj Y hY).1)]
  refine Matrix.PosSemidef.add (hXpsd.smul ?_) (hppsd.smul ?_)
  · have : (0 : ℝ) ≤ 1 - al := by linarith
    exact_mod_cast this
  · exact_mod_cast h0

theorem pgdbInit_posSemidef (d : Nat) :
    ((pgdbInit d : M ℂ).toMatN (d * d)).PosSemidef := by
  have : (pgdbInit d : M ℂ).toMatN (d * d) = ((d : ℂ)⁻¹) • (1 : Matrix (Fin (d * d)) (Fin (d * d)) ℂ) := by
    unfold pgdbInit
    rw [toMatN_scale _ _ _ (by simp), natK_eq]
    congr 1
    ext r k
    simp only [M.toMatN]
    rw [M.get_one r.isLt k.isLt, Matrix.one_apply]
    by_cases h : r = k
    · subst h; simp
    · have : (r : Nat) ≠ k := fun h' => h (Fin.ext h')
      simp [h, this]
  rw [this]
  exact Matrix.PosSemidef.one.smul (by simp)

theorem iter_succ_last {α : Type} (f : α → α) (k : Nat) (a : α) : iter f (k + 1) a = f (iter f k a) := by
  induction k generalizing a with
  | zero => rfl
  | succ k ih => rw [iter, ih (f a)]; rfl

theorem dykstra_iter_n (tp cp : M ℂ → M ℂ) (n : Nat) (htp : ∀ X, (tp X).n = X.n)
    (hcp : ∀ X, X.n = n → (cp X).n = n) (k : Nat) (s : Dykstra ℂ) (hs : s.x.n = n) :
    (iter (Dykstra.step tp cp) k s).x.n = n := by
  induction k generalizing s with
  | zero => exact hs
  | succ k ih =>
    rw [iter]
    apply ih
    simp only [Dykstra.step]
    exact hcp _ (by rw [madd_n, htp, madd_n, hs])

/-- The value returned is an output of the CP step; `iters` is arbitrary, so this holds whatever the
stopping rule decides. -/
theorem cptpProj_posSemidef (d : Nat) (eigh : M ℂ → List ℂ × M ℂ) (he : EighShapes eigh (d * d))
    (iters : Nat) (A : M ℂ) (hA : A.n = d * d) :
    (cptpProj (tpProj d) (cpProjWith eigh) (d * d) iters A).n = d * d ∧
      ((cptpProj (tpProj d) (cpProjWith eigh) (d * d) iters A).toMatN (d * d)).PosSemidef := by
  have hcp : ∀ X : M ℂ, X.n = d * d → (cpProjWith eigh X).n = d * d := fun X hX => by
    unfold cpProjWith cpProjFrom
    rw [M.mul_n, M.mul_n]
    exact (he X hX).1
  unfold cptpProj
  simp only
  rw [iter_succ_last]
  set s := iter (Dykstra.step (tpProj d) (cpProjWith eigh)) iters
    { x := A, p := M.ofFn (d * d) fun _ _ => 0, q := M.ofFn (d * d) fun _ _ => 0,
      y := M.ofFn (d * d) fun _ _ => 0 }
  have hsn : s.x.n = d * d :=
    dykstra_iter_n (tpProj d) (cpProjWith eigh) (d * d) (fun X => tpProj_n d X) hcp iters _ hA
  simp only [Dykstra.step]
  have hY : (madd (tpProj d (madd s.x s.p)) s.q).n = d * d := by
    rw [madd_n, tpProj_n, madd_n, hsn]
  refine ⟨hcp _ hY, ?_⟩
  unfold cpProjWith
  exact cpProj_posSemidef _ _ _ (he _ hY).1 (he _ hY).2

end LW.Tomo
