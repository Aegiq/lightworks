/-
  LW.Proofs.C06BasicStatistics — the brightness-only statistics `_build_statistics_basic`: every photon of the
  input is emitted independently with probability `ν` (`emitMix`), the emitted ones are counted per
  mode (`countVec`); normalisation, key shape and the perfect source follow.  In front of them stand the
  lemmas on `mergeF` (commutative, associative, zero vectors neutral), which C06Remap and C06Output use too.
-/
import LW.Proofs.C06Dict
import LW.Proofs.C06SingleMode
import LW.Proofs.FockBasis

namespace LW.Proofs.C06

open LW.Src LW.SV

theorem mergeF_comm (a b : FState) : mergeF a b = mergeF b a :=
  List.zipWith_comm_of_comm (fun x y => Nat.add_comm x y)

theorem mergeF_assoc (a b c : FState) : mergeF (mergeF a b) c = mergeF a (mergeF b c) := by
  induction a generalizing b c with
  | nil => simp [mergeF]
  | cons x a ih =>
    cases b with
    | nil => simp [mergeF]
    | cons y b =>
      cases c with
      | nil => simp [mergeF]
      | cons z c =>
        have := ih b c
        simp only [mergeF, List.zipWith_cons_cons, List.cons.injEq] at this ⊢
        exact ⟨Nat.add_assoc x y z, this⟩

theorem mergeF_zeros_right (a : FState) : mergeF a (List.replicate a.length 0) = a := by
  induction a with
  | nil => rfl
  | cons x a ih =>
    simp only [mergeF, List.length_cons, List.replicate_succ, List.zipWith_cons_cons,
      Nat.add_zero] at ih ⊢
    rw [ih]

theorem mergeF_zeros_left (a : FState) : mergeF (List.replicate a.length 0) a = a := by
  rw [mergeF_comm, mergeF_zeros_right]

def countVec (n : Nat) (ms : List Nat) : FState := (List.range n).map fun j => ms.count j

theorem countVec_partitionIdx (s : FState) : countVec s.length (partitionIdx s) = s := by
  apply List.ext_getElem
  · simp [countVec]
  · intro i h1 h2
    simp only [countVec, List.getElem_map, List.getElem_range]
    rw [(C03.partitionIdx_spec s).2 i]
    simp [List.getD_eq_getElem?_getD, h2]

theorem countVec_nil (n : Nat) : countVec n [] = List.replicate n 0 := by
  simp [countVec, List.map_const']

theorem countVec_length (n : Nat) (e : List Nat) : (countVec n e).length = n := by
  simp [countVec]

theorem zipWith_countVec (n : Nat) (ms : List Nat) (m : Nat) :
    List.zipWith (· + ·) (countVec n ms) (unitVec n m) = countVec n (ms ++ [m]) := by
  unfold countVec unitVec
  rw [List.zipWith_map_left, List.zipWith_map_right, List.zipWith_self]
  apply List.map_congr_left
  intro j _
  rw [List.count_append, List.count_singleton]
  simp only [beq_iff_eq]

theorem mergeF_unitVec_countVec (n m : Nat) (e : List Nat) :
    mergeF (unitVec n m) (countVec n e) = countVec n (m :: e) := by
  unfold mergeF countVec unitVec
  rw [List.zipWith_map_left, List.zipWith_map_right, List.zipWith_self]
  apply List.map_congr_left
  intro j _
  rw [List.count_cons]
  simp only [beq_iff_eq]
  omega

section
variable {Q : Type} [Field Q] [LinearOrder Q]

/-- independent emission of the photons `ms` (given by their modes), each with probability `nu`:
mixture over the lists of emitted photons -/
def emitMix (nu : Q) : List Nat → (List Nat → Q) → Q
  | [], G => G []
  | m :: ms, G => (1 - nu) * emitMix nu ms G + nu * emitMix nu ms (fun e => G (m :: e))

omit [LinearOrder Q] in
theorem emitMix_const (nu : Q) (ms : List Nat) (c : Q) : emitMix nu ms (fun _ => c) = c := by
  induction ms with
  | nil => rfl
  | cons m ms ih =>
    simp only [emitMix, ih]
    ring

section
variable [IsStrictOrderedRing Q]

theorem emitMix_congr (nu : Q) (ms : List Nat) (G G' : List Nat → Q) (h : ∀ e, G e = G' e) :
    emitMix nu ms G = emitMix nu ms G' := by
  have : G = G' := funext h
  rw [this]

end

omit [LinearOrder Q] in
theorem mix_emitMix {α : Type} (d : List (α × Q)) (nu : Q) (ms : List Nat) (H : α → List Nat → Q) :
    mix d (fun b => emitMix nu ms (H b)) = emitMix nu ms (fun e => mix d (fun b => H b e)) := by
  induction ms generalizing H with
  | nil => rfl
  | cons m ms ih =>
    simp only [emitMix]
    rw [mix_add, mix_mul_left, mix_mul_left, ih H, ih (fun b e => H b (m :: e))]

/-- the loop body of `_build_statistics_basic` -/
def basicStep (P : Params Q) (n : Nat) (stats : List (Q × FState)) (mode : Nat) : List (Q × FState) :=
  let subS := (P.nu, unitVec n mode) :: (if P.nu < 1 then [(1 - P.nu, List.replicate n 0)] else [])
  if stats.isEmpty then subS
  else stats.flatMap fun a => subS.map fun b => (a.1 * b.1, List.zipWith (· + ·) a.2 b.2)

theorem buildStatisticsBasic_eq (P : Params Q) (s : FState) :
    buildStatisticsBasic P s =
      let d : KD FState Q := KD.ofPairs
        (((partitionIdx s).foldl (basicStep P s.length) []).map fun x => (x.2, x.1))
      if d.isEmpty then [(s, 1)] else d := rfl

theorem basicStep_ne_nil (P : Params Q) (n : Nat) (stats : List (Q × FState)) (m : Nat) :
    basicStep P n stats m ≠ [] := by
  cases stats with
  | nil => exact List.cons_ne_nil _ _
  | cons a t => exact List.cons_ne_nil _ _

theorem basic_fold_ne_nil (P : Params Q) (n : Nat) (ms : List Nat) (stats : List (Q × FState))
    (h : stats ≠ []) : ms.foldl (basicStep P n) stats ≠ [] := by
  induction ms generalizing stats with
  | nil => exact h
  | cons m ms ih => exact ih _ (basicStep_ne_nil P n stats m)

theorem buildStatisticsBasic_of_nil (P : Params Q) (s : FState) (hp : partitionIdx s = []) :
    buildStatisticsBasic P s = [(s, 1)] := by
  rw [buildStatisticsBasic_eq, hp]
  rfl

/-- the first round of the loop (`if not stats`) is the product with the vacuum of weight one -/
theorem basicStep_nil (P : Params Q) (n m : Nat) :
    basicStep P n [] m = basicStep P n [((1 : Q), List.replicate n 0)] m := by
  have hz : ∀ v : FState, v.length = n → List.zipWith (· + ·) (List.replicate n 0) v = v :=
    fun v hv => hv ▸ mergeF_zeros_left v
  unfold basicStep
  by_cases hν : P.nu < 1 <;> simp [hν, hz, unitVec]

/-- `_build_statistics_basic` as one loop from the vacuum of weight one, with photons (the
dictionary is then never empty) or without (the input is the vacuum) -/
theorem buildStatisticsBasic_eq_fold (P : Params Q) (s : FState) :
    buildStatisticsBasic P s = KD.ofPairs
      (((partitionIdx s).foldl (basicStep P s.length) [((1 : Q), List.replicate s.length 0)]).map
        fun x => (x.2, x.1)) := by
  cases hp : partitionIdx s with
  | nil =>
    have hs : List.replicate s.length 0 = s := by
      rw [← countVec_nil, ← hp, countVec_partitionIdx]
    rw [buildStatisticsBasic_of_nil P s hp, hs]
    rfl
  | cons m ms =>
    rw [buildStatisticsBasic_eq, hp, List.foldl_cons, List.foldl_cons, ← basicStep_nil]
    refine if_neg fun he => ?_
    rw [List.isEmpty_iff, ofPairs_eq_nil_iff, List.map_eq_nil_iff] at he
    exact basic_fold_ne_nil P _ ms _ (basicStep_ne_nil P _ [] m) he

theorem basicStep_len (P : Params Q) (n : Nat) (stats : List (Q × FState)) (mode : Nat)
    (hs : ∀ x ∈ stats, x.2.length = n) : ∀ x ∈ basicStep P n stats mode, x.2.length = n := by
  have hsub : ∀ x ∈ ((P.nu, unitVec n mode) ::
      (if P.nu < 1 then [(1 - P.nu, List.replicate n 0)] else [])), x.2.length = n := by
    intro x hx
    by_cases hν : P.nu < 1
    · simp only [hν, if_true, List.mem_cons, List.not_mem_nil, or_false] at hx
      rcases hx with rfl | rfl <;> simp [unitVec]
    · simp only [hν, if_false, List.mem_cons, List.not_mem_nil, or_false] at hx
      subst hx; simp [unitVec]
  unfold basicStep
  simp only
  by_cases he : stats.isEmpty = true
  · rw [if_pos he]; exact hsub
  · rw [if_neg he]
    intro x hx
    simp only [List.mem_flatMap, List.mem_map] at hx
    obtain ⟨a, ha, b, hb, rfl⟩ := hx
    simp only [List.length_zipWith, hs a ha, hsub b hb, Nat.min_self]

theorem buildStatisticsBasic_len (P : Params Q) (s : FState) :
    ∀ x ∈ buildStatisticsBasic P s, x.1.length = s.length := by
  intro x hx
  have hk : x.1 ∈ (buildStatisticsBasic P s).map (·.1) := List.mem_map_of_mem hx
  rw [buildStatisticsBasic_eq_fold, mem_ofPairs_keys, List.map_map] at hk
  obtain ⟨y, hy, e⟩ := List.mem_map.1 hk
  rw [← e]
  exact List.foldlRecOn (partitionIdx s) (basicStep P s.length)
    (motive := fun st => ∀ y ∈ st, y.2.length = s.length)
    (fun y hy => by rw [List.mem_singleton.1 hy, List.length_replicate])
    (fun st h m _ => basicStep_len P s.length st m h) y hy

omit [LinearOrder Q] in
theorem mix_swap_product (A B : List (Q × FState)) (g : FState → FState → FState)
    (H : FState → Q) :
    mix ((A.flatMap fun a => B.map fun b => (a.1 * b.1, g a.2 b.2)).map fun x => (x.2, x.1)) H =
      mix (A.map fun x => (x.2, x.1))
        (fun a => mix (B.map fun x => (x.2, x.1)) (fun b => H (g a b))) := by
  rw [← mix_product]
  congr 1
  simp [List.map_flatMap, List.flatMap_map, Function.comp_def]

theorem mix_subS (P : Params Q) (h : InRange P) (n m : Nat) (Φ : FState → Q) :
    mix (((P.nu, unitVec n m) ::
        (if P.nu < 1 then [(1 - P.nu, List.replicate n 0)] else [])).map fun x => (x.2, x.1)) Φ =
      P.nu * Φ (unitVec n m) + (1 - P.nu) * Φ (List.replicate n 0) := by
  by_cases hν : P.nu < 1
  · simp [hν]
  · have : P.nu = 1 := le_antisymm h.nu1 (not_lt.1 hν)
    simp [this]

theorem mix_basicStep (P : Params Q) (h : InRange P) (n : Nat) (stats : List (Q × FState))
    (m : Nat) (hne : stats ≠ []) (Φ : FState → Q) :
    mix ((basicStep P n stats m).map fun x => (x.2, x.1)) Φ =
      mix (stats.map fun x => (x.2, x.1)) (fun a =>
        P.nu * Φ (mergeF a (unitVec n m)) + (1 - P.nu) * Φ (mergeF a (List.replicate n 0))) := by
  unfold basicStep
  simp only
  have he : ¬ stats.isEmpty = true := fun he => hne (List.isEmpty_iff.1 he)
  rw [if_neg he]
  have := mix_swap_product stats ((P.nu, unitVec n m) ::
        (if P.nu < 1 then [(1 - P.nu, List.replicate n 0)] else [])) mergeF Φ
  unfold mergeF at this ⊢
  rw [this]
  apply mix_congr
  intro x _
  exact mix_subS P h n m _

theorem mix_basic_fold (P : Params Q) (h : InRange P) (n : Nat) (ms : List Nat)
    (stats : List (Q × FState)) (hne : stats ≠ [])
    (hlen : ∀ x ∈ stats, x.2.length = n) (H : FState → Q) :
    mix ((ms.foldl (basicStep P n) stats).map fun x => (x.2, x.1)) H =
      mix (stats.map fun x => (x.2, x.1))
        (fun a => emitMix P.nu ms (fun e => H (mergeF a (countVec n e)))) := by
  induction ms generalizing stats with
  | nil =>
    apply mix_congr
    intro x hx
    obtain ⟨y, hy, rfl⟩ := List.mem_map.1 hx
    simp only [emitMix, countVec_nil]
    rw [← hlen y hy, mergeF_zeros_right]
  | cons m ms ih =>
    rw [List.foldl_cons, ih _ (basicStep_ne_nil P n stats m) (basicStep_len P n stats m hlen),
      mix_basicStep P h n stats m hne]
    apply mix_congr
    intro x hx
    obtain ⟨y, hy, rfl⟩ := List.mem_map.1 hx
    simp only [emitMix]
    have e1 : mergeF y.2 (List.replicate n 0) = y.2 := by
      rw [← hlen y hy, mergeF_zeros_right]
    have e2 : ∀ e, mergeF (mergeF y.2 (unitVec n m)) (countVec n e) =
        mergeF y.2 (countVec n (m :: e)) := by
      intro e
      rw [mergeF_assoc, mergeF_unitVec_countVec]
    simp only [e1, e2]
    ring

theorem mix_buildStatisticsBasic (P : Params Q) (h : InRange P) (s : FState) (H : FState → Q) :
    mix (buildStatisticsBasic P s) H =
      emitMix P.nu (partitionIdx s) (fun e => H (countVec s.length e)) := by
  rw [buildStatisticsBasic_eq_fold, mix_ofPairs, mix_basic_fold P h s.length _ _ (List.cons_ne_nil _ _)
    (fun x hx => by rw [List.mem_singleton.1 hx, List.length_replicate])]
  have e0 : ∀ e, mergeF (List.replicate s.length 0) (countVec s.length e) = countVec s.length e :=
    fun e => by
      have := mergeF_zeros_left (countVec s.length e)
      rwa [countVec_length] at this
  simp only [List.map_cons, List.map_nil, mix_cons, mix_nil, one_mul, add_zero, e0]

theorem total_buildStatisticsBasic (P : Params Q) (h : InRange P) (s : FState) :
    KD.total (buildStatisticsBasic P s) = 1 := by
  rw [total_eq_mix, mix_buildStatisticsBasic P h s, emitMix_const]

theorem basic_fold_perfect (P : Params Q) (hν : P.nu = 1) (n : Nat) (rest done : List Nat) :
    rest.foldl (basicStep P n) [((1 : Q), countVec n done)] = [((1 : Q), countVec n (done ++ rest))] := by
  induction rest generalizing done with
  | nil => simp
  | cons m rest ih =>
    rw [List.foldl_cons]
    have hstep : basicStep P n [((1 : Q), countVec n done)] m = [((1 : Q), countVec n (done ++ [m]))] := by
      unfold basicStep
      simp only [hν, lt_irrefl, if_false, List.isEmpty_cons, Bool.false_eq_true, List.flatMap_cons,
        List.flatMap_nil, List.map_cons, List.map_nil, List.append_nil, mul_one]
      rw [zipWith_countVec]
    rw [hstep, ih]
    simp

theorem buildStatisticsBasic_perfect (P : Params Q) (hν : P.nu = 1) (s : FState) :
    buildStatisticsBasic P s = [(s, 1)] := by
  rw [buildStatisticsBasic_eq_fold, ← countVec_nil, basic_fold_perfect P hν, List.nil_append,
    countVec_partitionIdx]
  rfl

end

end LW.Proofs.C06
