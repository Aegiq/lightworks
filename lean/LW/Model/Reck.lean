/-
  LW.Model.Reck — the Reck (triangular) decomposition and `Reck.map` (C14).

  Mirrors lightworks/interferometers/decomposition.py (`reck_decomposition`, `bs_matrix`,
  `check_null`) and lightworks/interferometers/reck.py (`Reck.map`).

  Exact reals instead of floats (DESIGN §3.1).  Every float call of the code is a field of the
  interface `Num K`; the model is generic in it:
    * `abs(u_ij) < 1e-20`                                  ↦  `small u_ij`
    * `theta = 2*arctan(|u_ij1|/|u_ij|)`, `phi = angle(u_ij) - angle(u_ij1)`
                                                           ↦  `trig u_ij u_ij1 : Cell K`
      = (cos θ/2, sin θ/2, e^{iθ/2}, e^{iφ}); the theorems constrain it algebraically
      (`CellOk`, `NumOk.trig_nulls`), the driver computes it exactly when it is rational,
    * `np.angle(z)` of a residual diagonal entry, read back through `exp(1j·)` by the phase
      shifter                                              ↦  `ang z = e^{i·angle z}`
    * `check_unitary`, `check_null` (tolerances 1e-10)      ↦  `isUnitary`, `isNull`
  A programmed phase `(v + offset) % 2π` is represented by the circle point `e^{iv}·e^{i·offset}`;
  the numerical wrap itself is modelled on rationals in LW.Model.ReckNoise (`pmod`).
-/
import LW.Model.Circuit

namespace LW
namespace Reck

variable {K : Type}

/-- the settings of one unit cell as the results of the trigonometric calls:
`c = cos(θ/2)`, `s = sin(θ/2)`, `w = e^{iθ/2}`, `p = e^{iφ}` -/
structure Cell (K : Type) where
  c : K
  s : K
  w : K
  p : K
deriving Repr

/-- the float operations of `reck_decomposition` / `Reck.map` as exact functions -/
structure Num (K : Type) where
  small : K → Bool
  trig : K → K → Cell K
  ang : K → K
  isUnitary : M K → Bool
  isNull : M K → Bool

/-- coordinate of a unit cell: the `a_b` of the keys `bs_{a}_{b}` / `ps_{a}_{b}` -/
abbrev Key := Nat × Nat

section
variable [Add K] [Mul K] [Neg K] [Zero K] [One K]

/-- `bs_matrix(mode1, mode2, theta, phi, n_modes)`; `i` is the imaginary unit,
`gp = 1j * exp(1j*theta/2)` -/
def bsMatrix (i : K) (n m1 m2 : Nat) (x : Cell K) : M K :=
  let gp := i * x.w
  embed2 n m1 m2 (-(x.p * x.s * gp)) (x.c * gp) (x.p * x.c * gp) (x.s * gp)

/-- `np.flip(U, axis=(0, 1))` -/
def flip (U : M K) : M K := M.ofFn U.n fun a b => U.get (U.n - 1 - a) (U.n - 1 - b)

/-- the loop `for i in range(n-1): for j in range(n-1-i)` as the list of `(i, j)` -/
def stepsRow (n a : Nat) : List (Nat × Nat) := (List.range (n - 1 - a)).map fun j => (a, j)
def steps (n : Nat) : List (Nat × Nat) := (List.range (n - 1)).flatMap (stepsRow n)

/-- `theta, phi` chosen at step `(a, j)`: `(π, 0)` when the entry is already (numerically) zero -/
def stepCell (N : Num K) (i : K) (U : M K) (a j : Nat) : Cell K :=
  let loc := U.n - 1 - a
  if N.small (U.get loc j) then ⟨0, 1, i, 1⟩ else N.trig (U.get loc j) (U.get loc (j + 1))

section
variable [HasConj K]

/-- `unitary = unitary @ np.conj(tr_ij.T)` -/
def nullStep (i : K) (U : M K) (j : Nat) (x : Cell K) : M K :=
  U.mul (bsMatrix i U.n j (j + 1) x).dagger

/-- loop state: the matrix being nulled and `phase_map` (insertion order; the two entries
`bs_…`, `ps_…` of one cell are kept together under their common coordinate) -/
structure St (K : Type) where
  U : M K
  pm : List (Key × Cell K)

def decompStep (N : Num K) (i : K) (st : St K) (aj : Nat × Nat) : St K :=
  let x := stepCell N i st.U aj.1 aj.2
  ⟨nullStep i st.U aj.2 x, st.pm ++ [((aj.2 + 2 * aj.1, aj.2), x)]⟩

def decompLoop (N : Num K) (i : K) (U : M K) : St K :=
  (steps U.n).foldl (decompStep N i) ⟨U, []⟩

/-- `reck_decomposition(unitary)`: `(phase_map, end_phases)`;
`ValueError` when not unitary, `DecompositionUnsuccessful` (`.other`) when `check_null` fails -/
def reckDecomposition (N : Num K) (i : K) (U : M K) : Except Err (List (Key × Cell K) × List K) :=
  if !N.isUnitary U then .error .value
  else
    let st := decompLoop N i U
    if !N.isNull st.U then .error .other
    else .ok (st.pm, (List.range U.n).map fun k => N.ang (st.U.get k k))

end

/-- what `Reck.map` reads from the circuit it is given: `n_modes`, `U`, `heralds` -/
structure Src (K : Type) where
  n : Nat
  U : M K
  inHer : Dict
  outHer : Dict

def Src.ofCirc (i : K) (c : Circ K) : Src K := ⟨c.n, c.U i, c.inHer, c.outHer⟩

/-- the values the error model returns during one `map`, per unit cell `(a, j)`:
beam-splitter reflectivities as `(√r, √(1-r))`, the loss of the second beam splitter as
`(√(1-ℓ), √ℓ)` (`none` ⇔ `ℓ = 0`, the code's `loss > 0` test), phase offsets as `e^{i·offset}`;
the `…Ok` flags say that the drawn value lies in `[0, 1]` (otherwise the component raises) -/
structure EM (K : Type) where
  bs1 : Nat → Nat → K × K
  bs2 : Nat → Nat → K × K
  loss : Nat → Nat → Option (K × K)
  offTheta : Nat → Nat → K
  offPhi : Nat → Nat → K
  offEnd : Nat → K
  refl1Ok : Nat → Nat → Bool := fun _ _ => true
  refl2Ok : Nat → Nat → Bool := fun _ _ => true
  lossOk : Nat → Nat → Bool := fun _ _ => true

/-- the default `ErrorModel()`: reflectivity 0.5 (`h = √½`), no loss, no offset -/
def EM.ideal (h : K) : EM K :=
  { bs1 := fun _ _ => (h, h), bs2 := fun _ _ => (h, h), loss := fun _ _ => none,
    offTheta := fun _ _ => 1, offPhi := fun _ _ => 1, offEnd := fun _ => 1 }

/-- `phase_map["…" + coord]` (`KeyError` ↦ `.other`) -/
def lookup (pm : List (Key × Cell K)) (k : Key) : Except Err (Cell K) :=
  match pm.find? (fun e => e.1 == k) with
  | some e => .ok e.2
  | none => .error .other

/-- body of the construction loop of `Reck.map` for cell `(a, j)` on a circuit of `n` modes -/
def mapCell (em : EM K) (n : Nat) (pm : List (Key × Cell K)) (c : Circ K) (aj : Nat × Nat) :
    Except Err (Circ K) := do
  let a := aj.1
  let j := aj.2
  let x ← lookup pm (j + 2 * a, j)
  let mode : Int := (n : Int) - (j : Int) - 2
  let c ← c.barrier (some [mode, mode + 1])
  let c ← c.ps (mode + 1) (x.p * em.offPhi a j) none
  let c ← c.bs mode (mode + 1) (em.bs1 a j) .rx none (em.refl1Ok a j) true
  let c ← c.ps mode (x.w * x.w * em.offTheta a j) none
  c.bs mode (mode + 1) (em.bs2 a j) .rx (em.loss a j) (em.refl2Ok a j) (em.lossOk a j)

/-- `mapped_circuit.ps(n_modes - i - 1, end_phases[i])` -/
def mapEnd (em : EM K) (n : Nat) (ends : List K) (c : Circ K) (k : Nat) : Except Err (Circ K) :=
  match ends[k]? with
  | none => .error .other
  | some e => c.ps ((n : Int) - (k : Int) - 1) (e * em.offEnd k) none

/-- the herald loop: `zip(heralds["input"], heralds["output"], strict=True)`;
`RuntimeError` (`.other`) on mismatching photon numbers -/
def mapHerald (c : Circ K) (io : (Nat × Nat) × (Nat × Nat)) : Except Err (Circ K) :=
  if io.1.2 != io.2.2 then .error .other
  else c.herald io.1.2 (io.1.1 : Int) (io.2.1 : Int)

variable [HasConj K]

/-- `Reck(error_model).map(circuit)` -/
def map (N : Num K) (em : EM K) (i : K) (src : Src K) : Except Err (Circ K) := do
  let unitary := flip src.U
  let (pm, ends) ← reckDecomposition N i unitary
  let n := src.n
  let c : Circ K := Circ.new n
  let c ← (steps n).foldlM (mapCell em n pm) c
  let c ← c.barrier none
  let c ← (List.range n).foldlM (mapEnd em n ends) c
  if src.inHer.length != src.outHer.length then throw .value
  (src.inHer.zip src.outHer).foldlM mapHerald c

/-! ### specification side: the circuit `map` is meant to build, written down directly -/

/-- components of the unit cell `(a, j)` with settings `x` -/
def cellSpec (em : EM K) (n : Nat) (x : Cell K) (a j : Nat) : List (Comp K) :=
  let mode := n - j - 2
  [.prim (.barrier [mode, mode + 1]),
   .prim (.ps (mode + 1) (x.p * em.offPhi a j)),
   .prim (.bs mode (mode + 1) (em.bs1 a j).1 (em.bs1 a j).2 .rx),
   .prim (.ps mode (x.w * x.w * em.offTheta a j)),
   .prim (.bs mode (mode + 1) (em.bs2 a j).1 (em.bs2 a j).2 .rx)] ++
  (match em.loss a j with
   | none => []
   | some (la, lb) => [.prim (.loss mode la lb), .prim (.loss (mode + 1) la lb)])

/-- the whole interferometer for a list of `(step, settings)` and residual phases `ends` -/
def mapSpec (em : EM K) (n : Nat) (cells : List ((Nat × Nat) × Cell K)) (ends : List K) :
    List (Comp K) :=
  cells.flatMap (fun e => cellSpec em n e.2 e.1.1 e.1.2) ++
  [.prim (.barrier (List.range n))] ++
  (List.range n).map (fun k => .prim (.ps (n - k - 1) (ends.getD k 1 * em.offEnd k)))

/-- the interferometer that realises given cell settings and residual phases as a matrix in the
decomposition's (flipped) coordinates: `D · T_K ⋯ T_1` -/
def synth (i : K) (n : Nat) (cells : List ((Nat × Nat) × Cell K)) (ends : List K) : M K :=
  (M.ofFn n fun r k => if r = k then ends.getD r 1 else 0).mul
    (cells.foldl (fun A e => (bsMatrix i n e.1.2 (e.1.2 + 1) e.2).mul A) (M.one n))

end

end Reck
end LW
