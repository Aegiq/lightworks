/-
  LW.Proofs.C02SemAddData — where the pass-through loop of `Circuit.add` inserts its empty modes, and
  the result of an accepted `add` (`add_data`). In the result the window `[mode, mode + w)` holds the
  sub-circuit; the parent's modes from `mode` on are interleaved with the sub-circuit's heralded modes
  (the new ancillas), so the parent's mode at offset `a = i - mode` lands on the window position `t`
  with `a + #{heralded modes of the sub-circuit below t} = t` (the rank equation of `ModeRank`;
  `targetOf_rank`: `targetOf` solves it; by `bumps_eq_iff`, `t` is then `bumps` of the heralded
  modes at `a`). For an ancilla `i` of the parent inside the window the loop inserts an empty mode into
  the sub-circuit at this `t`, so that the sub-circuit does not act on it.
-/
import LW.Proofs.C02SemRelabel
import LW.Proofs.C02Final

open scoped BigOperators

namespace LW.Proofs.C02Sem

open LW LW.Proofs.C01Aux LW.Proofs.C02

variable {K : Type}

theorem bumps_eq_of_rank (ks : List Nat) (hs : ks.Pairwise (· < ·)) (x y : Nat) (hy : y ∉ ks)
    (h : y = x + cntLt ks y) : bumps ks x = y :=
  (bumps_eq_iff hs).mpr ⟨hy, h.symm⟩

theorem cntLt_map_add (l : List Nat) (s y : Nat) : cntLt (l.map (s + ·)) (s + y) = cntLt l y :=
  cntLt_map l _ y _ fun _ _ => by omega

theorem cntLt_map_bump (l : List Nat) (t y : Nat) (h : y ≤ t) :
    cntLt (l.map (bump t)) y = cntLt l y :=
  cntLt_map l _ y _ fun k _ => by unfold bump; split <;> omega

theorem targetOf_rank (keys : List Nat) (hnd : keys.Nodup) (a : Nat) :
    0 ≤ targetOf keys (a : Int) ∧
    a + cntLt keys (targetOf keys (a : Int)).toNat = (targetOf keys (a : Int)).toNat := by
  rw [targetOf_eq_stepFold, stepFold_eq_skipFold]
  cases a with
  | zero =>
    rw [skipFold_of_lt _ _ fun a _ => by omega]
    exact ⟨by omega, by rw [cntLt_of_le keys _ fun _ _ => by omega]; rfl⟩
  | succ x =>
    have hs := strictSorted_sortNat hnd
    have h1 := bumps_not_mem _ hs x
    have h2 := bumps_rank _ hs x
    have h3 := cntLt_succ (hs.imp Nat.ne_of_lt) (bumps (sortNat keys) x)
    rw [if_neg h1, cntLt_sortNat, cntLt_sortNat] at h3
    rw [cntLt_sortNat] at h2
    rw [show ((x + 1 : Nat) : Int) - 1 = (x : Int) by omega, ← natCast_bumps]
    refine ⟨by omega, ?_⟩
    rw [show ((bumps (sortNat keys) x : Nat) : Int) + 1 = ((bumps (sortNat keys) x + 1 : Nat) : Int) by omega,
      Int.toNat_natCast, h3]
    omega

theorem targetOf_mono (keys : List Nat) {a b : Int} (h : a ≤ b) : targetOf keys a ≤ targetOf keys b :=
  stepFold_mono _ h

theorem insOk_append (n : Nat) (ks : List Nat) (t : Nat) (h : InsOk n ks) (ht : t ≤ n + ks.length) :
    InsOk n (ks ++ [t]) := by
  induction ks generalizing n with
  | nil => exact ⟨by simpa using ht, trivial⟩
  | cons k ks ih =>
    refine ⟨h.1, ih (n + 1) h.2 ?_⟩
    simp only [List.length_cons] at ht; omega

theorem insOk_of_sorted_lt (n : Nat) (ks : List Nat) (hlt : ∀ k ∈ ks, k ≤ n) : InsOk n ks := by
  induction ks generalizing n with
  | nil => trivial
  | cons k ks ih =>
    exact ⟨hlt k (by simp), ih (n + 1) (fun k' hk' => by have := hlt k' (by simp [hk']); omega)⟩

section
variable [Zero K] [One K]

/-- The pass-through loop after the parent's ancillas `done` (ascending), having inserted empty modes
at `ts` into the sub-circuit `sub0`/`spec0`: `spec`, `inHer`, `n_eq` say what the state is (`spec`
is `specIns ts spec0` written out: `specIns` stands under the ring instances, `PtInv` under
`[Zero K] [One K]`), `sorted`, `ok`, `lt` that the targets are increasing and inside the sub-circuit. `fwd`: a processed ancilla `i`
lies below `mode`, or has its target `t ∈ ts` (rank equation: offset `i - mode` plus the heralded
modes below `t` is `t`), or its target lies beyond the sub-circuit (the ancilla is above the window,
nothing is inserted). `bwd`: every target comes from a processed ancilla. The rank equations are
stated on the current heralds and survive later insertions because those lie above
(`cntLt_map_bump`). -/
structure PtInv (sub0 : Circ K) (spec0 : List (Comp K)) (mode : Nat) (done ts : List Nat)
    (st : Circ.AddSt K) : Prop where
  spec : st.spec = ts.foldl (fun s k => Circ.addEmptyModeSpec s k) spec0
  inHer : st.sub.inHer = Dict.mapKeys (bumps ts) sub0.inHer
  n_eq : st.sub.n = sub0.n + ts.length
  sorted : ts.Pairwise (· < ·)
  ok : InsOk sub0.n ts
  lt : ∀ t ∈ ts, t < st.sub.n
  fwd : ∀ i ∈ done, i < mode ∨
    (mode ≤ i ∧ ∃ t ∈ ts, i - mode + cntLt st.sub.inHer.keys t = t) ∨
    (mode ≤ i ∧ (st.sub.n : Int) ≤ targetOf st.sub.inHer.keys ((i : Int) - (mode : Int)))
  bwd : ∀ t ∈ ts, ∃ i ∈ done, mode ≤ i ∧ i - mode + cntLt st.sub.inHer.keys t = t

theorem PtInv.init (sub0 : Circ K) (spec0 : List (Comp K)) (mode : Nat) :
    PtInv sub0 spec0 mode [] [] ⟨sub0, spec0⟩ := by
  refine ⟨rfl, ?_, rfl, List.Pairwise.nil, trivial, ?_, ?_, ?_⟩
  · simp [Dict.mapKeys, bumps]
  · intro t ht; cases ht
  · intro i hi; cases hi
  · intro t ht; cases ht

theorem PtInv.step {sub0 : Circ K} {spec0 : List (Comp K)} {mode : Nat} {done ts : List Nat}
    {st : Circ.AddSt K} (inv : PtInv sub0 spec0 mode done ts st) (hnd : sub0.inHer.keys.Nodup)
    (i : Nat) (hi : ∀ j ∈ done, j < i) :
    PtInv sub0 spec0 mode (done ++ [i]) (ts ++ ptTargets mode [i] st.sub.n st.sub.inHer)
      (ptStep mode st i) := by
  have hkeys : st.sub.inHer.keys = sub0.inHer.keys.map (bumps ts) := by
    rw [inv.inHer, keys_mapKeys]
  have hknd : st.sub.inHer.keys.Nodup := by
    rw [hkeys]; exact nodup_map_of_inj (fun a b => bumps_inj ts) hnd
  rcases ptStep_cases mode st i with ⟨e, hno⟩ | ⟨e, hyes⟩
  · -- nothing inserted
    have ept : ptTargets mode [i] st.sub.n st.sub.inHer = [] := by simp only [ptTargets, if_neg hno]
    rw [e, ept, List.append_nil]
    refine ⟨inv.spec, inv.inHer, inv.n_eq, inv.sorted, inv.ok, inv.lt, ?_, ?_⟩
    · intro j hj
      rcases List.mem_append.mp hj with hj | hj
      · exact inv.fwd j hj
      · simp only [List.mem_singleton] at hj; subst hj
        obtain ⟨b1, -, b3⟩ := targetOf_bounds st.sub.inHer.keys ((j : Int) - (mode : Int))
        by_cases hjm : j < mode
        · exact Or.inl hjm
        · right; right
          refine ⟨by omega, ?_⟩
          by_contra hc
          exact hno ⟨by omega, by omega⟩
    · intro t ht
      obtain ⟨j, hj, h1, h2⟩ := inv.bwd t ht
      exact ⟨j, List.mem_append_left _ hj, h1, h2⟩
  · -- a pass-through mode is inserted at the target
    have ept : ptTargets mode [i] st.sub.n st.sub.inHer =
        [(targetOf st.sub.inHer.keys ((i : Int) - (mode : Int))).toNat] := by
      simp only [ptTargets, if_pos hyes]
    rw [e, ept]
    obtain ⟨-, -, b3⟩ := targetOf_bounds st.sub.inHer.keys ((i : Int) - (mode : Int))
    have him : mode ≤ i := by
      by_contra hc
      have := b3 (by omega)
      omega
    have hcast : ((i : Int) - (mode : Int)) = ((i - mode : Nat) : Int) := by omega
    obtain ⟨r0, r1⟩ := targetOf_rank st.sub.inHer.keys hknd (i - mode)
    rw [← hcast] at r0 r1
    set T := targetOf st.sub.inHer.keys ((i : Int) - (mode : Int)) with hT
    set t := T.toNat with ht
    have htn : t < st.sub.n := by omega
    have habove : ∀ t' ∈ ts, t' < t := by
      intro t' ht'
      obtain ⟨j, hj, hj1, hj2⟩ := inv.bwd t' ht'
      have := hi j hj
      exact rank_lt hknd hj2 r1 (by omega)
    have hkeys' : (st.sub.addEmptyModeBook t).inHer.keys = st.sub.inHer.keys.map (bump t) := by
      show (bumpDict t st.sub.inHer).keys = _
      rw [bumpDict_of_nodup hknd, keys_mapKeys]
    refine ⟨?_, ?_, ?_, ?_, ?_, ?_, ?_, ?_⟩
    · show Circ.addEmptyModeSpec st.spec t = _
      rw [List.foldl_append, ← inv.spec]; rfl
    · show bumpDict t st.sub.inHer = _
      rw [bumpDict_of_nodup hknd, inv.inHer, mapKeys_mapKeys]
      congr 1
      funext x
      simp only [Function.comp, bumps_append, bumps_cons, bumps_nil]
    · show st.sub.n + 1 = _
      rw [inv.n_eq, List.length_append]; simp; omega
    · rw [List.pairwise_append]
      refine ⟨inv.sorted, List.pairwise_singleton _ _, ?_⟩
      intro a ha b hb
      simp only [List.mem_singleton] at hb; subst hb
      exact habove a ha
    · exact insOk_append _ _ _ inv.ok (by rw [← inv.n_eq]; omega)
    · intro t' ht'
      show t' < st.sub.n + 1
      rcases List.mem_append.mp ht' with h | h
      · have := inv.lt t' h; omega
      · simp only [List.mem_singleton] at h; subst h; omega
    · intro j hj
      rw [hkeys']
      rcases List.mem_append.mp hj with hj | hj
      · rcases inv.fwd j hj with h | ⟨h1, t', ht', h2⟩ | ⟨h1, h2⟩
        · exact Or.inl h
        · right; left
          refine ⟨h1, t', List.mem_append_left _ ht', ?_⟩
          rw [cntLt_map_bump _ _ _ (by have := habove t' ht'; omega)]
          exact h2
        · exfalso
          have hji := hi j hj
          have := targetOf_mono st.sub.inHer.keys
            (a := (j : Int) - (mode : Int)) (b := (i : Int) - (mode : Int)) (by omega)
          omega
      · simp only [List.mem_singleton] at hj; subst hj
        right; left
        refine ⟨him, t, by simp, ?_⟩
        rw [cntLt_map_bump _ _ _ (Nat.le_refl _)]
        exact r1
    · intro t' ht'
      rw [hkeys']
      rcases List.mem_append.mp ht' with h | h
      · obtain ⟨j, hj, h1, h2⟩ := inv.bwd t' h
        refine ⟨j, List.mem_append_left _ hj, h1, ?_⟩
        rw [cntLt_map_bump _ _ _ (by have := habove t' h; omega)]
        exact h2
      · simp only [List.mem_singleton] at h; subst h
        refine ⟨i, by simp, him, ?_⟩
        rw [cntLt_map_bump _ _ _ (Nat.le_refl _)]
        exact r1

/-- the targets the loop inserts are `ptTargets`, the list by which `C02.add_eq_ins` describes `add` -/
theorem PtInv.fold {sub0 : Circ K} {spec0 : List (Comp K)} {mode : Nat} (hnd : sub0.inHer.keys.Nodup)
    (S : List Nat) (hS : S.Pairwise (· < ·)) {done ts : List Nat} {st : Circ.AddSt K}
    (inv : PtInv sub0 spec0 mode done ts st) (hd : ∀ j ∈ done, ∀ i ∈ S, j < i) :
    PtInv sub0 spec0 mode (done ++ S) (ts ++ ptTargets mode S st.sub.n st.sub.inHer)
      (S.foldl (ptStep mode) st) := by
  induction S generalizing done ts st with
  | nil => simpa [ptTargets] using inv
  | cons i S ih =>
    have inv2 := ih hS.of_cons (inv.step hnd i (fun j hj => hd j hj i (by simp))) (by
      intro j hj x hx
      rcases List.mem_append.mp hj with h | h
      · exact hd j h x (by simp [hx])
      · simp only [List.mem_singleton] at h; subst h
        exact List.rel_of_pairwise_cons hS hx)
    rw [ptTargets_cons_ptStep, ← List.append_assoc]
    simpa using inv2

end

variable [CommRing K] [StarRing K]

-- `AddData` has both instance arguments, used or not (see at `specIns`, C02SemRelabel)
set_option linter.unusedSectionVars false

/-- An accepted `par.add sub m g = .ok res`, with `mode` the parent mode of the user mode `m` and
`ts` the pass-through targets. `sorted`, `ok`, `lt`, `fwd`, `bwd` are those of `PtInv` after all
ancillas of the parent; `fit`: the window `[mode, mode + sub.n + |ts|)` lies inside the result.
The result: `h = |sub.inHer|` new modes (`n_eq`); the parent's components with empty modes inserted
at the new ancilla modes `(sortNat (sub.inHer.keys.map (bumps ts))).map (mode + ·)`
(`C02Sem.ancModes`), followed by the sub-circuit's components (with the swap returning its output
heralds to the input herald modes) with empty modes inserted at `ts`, shifted to `mode` (`flat`);
the parent's heralds relabelled by `bumps` of the new ancilla modes followed by the sub-circuit's
input heralds at `mode + bumps ts ·`, for both `inHer` and `outHer` (after the swap the output
heralds sit on the input herald modes); `internal` likewise. -/
structure AddData (par sub res : Circ K) (m : Int) (g : Bool) (mode : Nat) (ts : List Nat) : Prop where
  hmode : par.modeInRange (par.mapMode m) = .ok mode
  sorted : ts.Pairwise (· < ·)
  ok : InsOk sub.n ts
  lt : ∀ t ∈ ts, t < sub.n + ts.length
  fit : mode + (sub.n + ts.length) ≤ par.n + sub.inHer.length
  fwd : ∀ i ∈ par.internal, i < mode ∨
    (mode ≤ i ∧ ∃ t ∈ ts, i - mode + cntLt (sub.inHer.keys.map (bumps ts)) t = t) ∨
    (mode ≤ i ∧ ((sub.n + ts.length : Nat) : Int)
        ≤ targetOf (sub.inHer.keys.map (bumps ts)) ((i : Int) - (mode : Int)))
  bwd : ∀ t ∈ ts, ∃ i ∈ par.internal, mode ≤ i ∧
    i - mode + cntLt (sub.inHer.keys.map (bumps ts)) t = t
  n_eq : res.n = par.n + sub.inHer.length
  flat : flattenSpec res.spec =
    flattenSpec (specIns ((sortNat (sub.inHer.keys.map (bumps ts))).map (mode + ·)) par.spec) ++
    flattenSpec ((specIns ts (swapSpec (pick sub g).1)).map (Comp.shift mode))
  inHer : res.inHer =
    Dict.mapKeys (bumps ((sortNat (sub.inHer.keys.map (bumps ts))).map (mode + ·))) par.inHer ++
      (Dict.mapKeys (bumps ts) sub.inHer).map (fun p => (p.1 + mode, p.2))
  outHer : res.outHer =
    Dict.mapKeys (bumps ((sortNat (sub.inHer.keys.map (bumps ts))).map (mode + ·))) par.outHer ++
      (Dict.mapKeys (bumps ts) sub.inHer).map (fun p => (p.1 + mode, p.2))
  internal : res.internal =
    par.internal.map (bumps ((sortNat (sub.inHer.keys.map (bumps ts))).map (mode + ·))) ++
      (sortNat (sub.inHer.keys.map (bumps ts))).map (mode + ·)

/-- `ts` is the list of `C02.add_eq_ins` / `C02.add_shape_wf`: the two descriptions of an accepted
`add` speak of the same insertion points -/
theorem add_data (self sub self' : Circ K) (hwf : self.WF) (hwfs : sub.WF) (m : Int) (g : Bool)
    (h : self.add sub m g = .ok self') :
    ∃ mode ts, ts = ptTargets mode (sortNat self.internal) sub.n sub.inHer ∧
      AddData self sub self' m g mode ts := by
  obtain ⟨mode, ts, hm, hts, h2, h⟩ := add_ok_ins h
  obtain ⟨pn, pin, pout⟩ := pick_props sub g
  have hnd : (pick sub g).1.inHer.keys.Nodup := by rw [pin]; exact hwfs.inNodup
  have inv := PtInv.fold (K := K) (sub0 := (pick sub g).1)
    (spec0 := swapSpec (pick sub g).1) (mode := mode) hnd (sortNat self.internal)
    (strictSorted_sortNat hwf.intNodup) (PtInv.init _ _ mode) (by intro j hj; cases hj)
  rw [List.nil_append, List.nil_append, ptFold_eq] at inv
  simp only [pn, pin, ← hts] at inv
  have sinv := subInv_subIns hwfs g ts
  change PtInv _ _ _ _ _ (subIns sub g ts) at inv
  generalize subIns sub g ts = st at inv sinv h
  have hkeys : st.sub.inHer.keys = sub.inHer.keys.map (bumps ts) := by
    rw [inv.inHer, keys_mapKeys, pin]
  have hstn : st.sub.n = sub.n + ts.length := by rw [inv.n_eq, pn]
  have hHlen : st.sub.inHer.length = sub.inHer.length := sinv.len
  have hhle := sinv.len_le
  have hLlen : (sortNat st.sub.inHer.keys).length = sub.inHer.length := by
    rw [length_sortNat, keys_length, hHlen]
  set A := (sortNat st.sub.inHer.keys).map (mode + ·) with hA
  have ai := addFinal_ancInv self hwf st sinv mode
  have e := addFinal_eq self st sinv mode (pick sub g).2 ai
  rw [ai.n_eq, hLlen, ← h] at e
  have e_n : self'.n = self.n + sub.inHer.length := by rw [e]
  have e_spec : self'.spec = specIns A self.spec ++ addedComps st mode (pick sub g).2 := by
    rw [h, (addFinal_shape self st mode _).2, specIns, foldl_addEmptyModeSpec]; rfl
  have e_rest : self'.inHer = Dict.mapKeys (bumps A) self.inHer ++ st.sub.inHer.map (fun p => (p.1 + mode, p.2)) ∧
      self'.outHer = Dict.mapKeys (bumps A) self.outHer ++ st.sub.inHer.map (fun p => (p.1 + mode, p.2)) ∧
      self'.internal = self.internal.map (bumps A) ++ A := by
    rw [e]; exact ⟨rfl, rfl, rfl⟩
  have hA' : A = (sortNat (sub.inHer.keys.map (bumps ts))).map (mode + ·) := by
    rw [hA, hkeys]
  have hin' : st.sub.inHer = Dict.mapKeys (bumps ts) sub.inHer := by rw [inv.inHer, pin]
  refine ⟨mode, ts, hts, ⟨hm, inv.sorted, ?_, ?_, ?_, ?_, ?_, e_n, ?_, ?_, ?_, ?_⟩⟩
  · have := inv.ok; rwa [pn] at this
  · intro t ht; have := inv.lt t ht; rwa [hstn] at this
  · omega
  · intro i hi
    have := inv.fwd i (mem_sortNat.mpr hi)
    rw [hkeys, hstn] at this
    exact this
  · intro t ht
    obtain ⟨i, hi, h3, h4⟩ := inv.bwd t ht
    rw [hkeys] at h4
    exact ⟨i, mem_sortNat.mp hi, h3, h4⟩
  · rw [e_spec, flattenSpec_append, flattenSpec_addedComps, flattenSpec_shift, inv.spec, ← hA']
    rfl
  · rw [e_rest.1, hin', ← hA']
  · rw [e_rest.2.1, hin', ← hA']
  · rw [e_rest.2.2, ← hA']

end LW.Proofs.C02Sem
