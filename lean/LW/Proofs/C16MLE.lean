/-
  MLE process tomography, data-model consistency (repaired `_p_vec`, F8).  The rows of `_a_mat`
  applied to the reference Choi matrix give the noiseless outcome probabilities
  `tr(Π± · V ρ_in V†) / 4ⁿ` (`mle_rows`); the data pipeline on noiseless tables of a unitary `V`
  (`mleData`, `_n_vec_from_data`) returns these up to the constant `4ⁿ / len(data)` (`mle_pipeline`).
-/
import LW.Proofs.C16Choi
import LW.Proofs.TomoRun
import LW.Proofs.MatAlg

open scoped BigOperators

namespace LW.Tomo

variable {K : Type} [Field K] [StarRing K] [DecidableEq K]

theorem mle_rows (i : K) (n : Nat) (V : M K) (hV : V.n = 2 ^ n) (ins : Ins) (hins : ins.length = n)
    (meas : Meas) (hm : meas.length = n) :
    pairing (aRowMats i n ins meas).1 (choiFromUnitary V)
        = (twoPow (2 * n))⁻¹ * (half * (trN n (channel V (rhoKron i ins))
            + trPauli i (channel V (rhoKron i ins)) meas)) ∧
    pairing (aRowMats i n ins meas).2 (choiFromUnitary V)
        = (twoPow (2 * n))⁻¹ * (half * (trN n (channel V (rhoKron i ins))
            + -trPauli i (channel V (rhoKron i ins)) meas)) := by
  have hr : (rhoKron i ins).n = 2 ^ n := by rw [rhoKron_n, hins]
  have hP : (pauliKron i meas).n = 2 ^ n := by rw [pauliKron_n, hm]
  -- `tr(½(1 + sg·P) · ρ') = ½(tr ρ' + sg · tr(P ρ'))`
  have key : ∀ (sg : K) (Q : M K), Q.toMatN (2 ^ n) = sg • (pauliKron i meas).toMatN (2 ^ n) →
      pairing (kron (rhoKron i ins) (scale half (madd (M.one (2 ^ n)) Q)).transpose) (choiFromUnitary V)
        = half * (trN n (channel V (rhoKron i ins))
            + sg * trPauli i (channel V (rhoKron i ins)) meas) := by
    intro sg Q hQ
    rw [pairing_kron_choi n V _ _ hV hr rfl, toMatN_scale _ _ (2 ^ n) rfl, toMatN_madd _ _ (2 ^ n) rfl,
      M.toMatN_one, hQ, trN_eq_trace, trPauli_eq_trace, hm, Matrix.smul_mul, Matrix.trace_smul,
      Matrix.add_mul, Matrix.one_mul, Matrix.trace_add, Matrix.smul_mul, Matrix.trace_smul]
    rfl
  constructor
  · simp only [aRowMats]
    rw [pairing_scale, key 1 (pauliKron i meas) (one_smul _ _).symm, one_mul]
  · simp only [aRowMats]
    rw [pairing_scale, key (-1) (scale (-1) (pauliKron i meas)) (toMatN_scale _ _ _ hP)]
    ring

omit [StarRing K] [DecidableEq K] in
theorem lsum_ones {α : Type} (l : List α) : lsum (l.map fun _ => (1 : K)) = (l.length : K) := by
  rw [lsum_eq_sum]
  simp

omit [StarRing K] [DecidableEq K] in
theorem entryRev_trace_one (fs : List (Nat → Nat → K)) (h : ∀ f ∈ fs, f 0 0 + f 1 1 = 1) :
    ∑ a ∈ Finset.range (2 ^ fs.length), entryRev fs a a = 1 := by
  induction fs with
  | nil => simp [entryRev]
  | cons f r ih =>
    rw [List.length_cons, pow_succ, sum_range_mul_two]
    simp only [entryRev, Nat.mul_div_cancel _ Nat.two_pos, Nat.mul_mod_left, idx_div Nat.one_lt_two,
      Nat.mul_add_mod_of_lt Nat.one_lt_two]
    rw [Finset.sum_congr rfl (fun q _ => (mul_add _ _ _).symm), ← Finset.sum_mul,
      ih (fun g hg => h g (List.mem_cons_of_mem _ hg)), one_mul]
    exact h f List.mem_cons_self

theorem trN_rhoKron (h2 : (1 + 1 : K) ≠ 0) (i : K) (ins : Ins) (n : Nat) (hins : ins.length = n) :
    trN n (rhoKron i ins) = 1 := by
  subst hins
  unfold trN rhoKron
  rw [Finset.sum_congr rfl (fun a ha => kronList_map_get (rhoM i) (rhoM_n i) ins
    (Finset.mem_range.mp ha) (Finset.mem_range.mp ha))]
  have hh := half_add_half (K := K) h2
  have := entryRev_trace_one (ins.reverse.map fun t => (rhoM i t).get) (by
    intro f hf
    obtain ⟨t, _, rfl⟩ := List.mem_map.mp hf
    cases t <;> simp [rhoM, hh])
  simpa using this

omit [DecidableEq K] in
theorem trN_channel (n : Nat) (V rho : M K) (hV : V.n = 2 ^ n)
    (hU : V.dagger.mul V = M.one (2 ^ n)) : trN n (channel V rho) = trN n rho := by
  have h := congrArg (fun A : M K => A.toMatN (2 ^ n)) hU
  simp only [M.toMatN_mul _ _ (show V.dagger.n = 2 ^ n from hV), M.toMatN_dagger _ hV,
    M.toMatN_one] at h
  rw [trN_eq_trace, trN_eq_trace, toMatN_channel V rho hV, Matrix.trace_mul_cycle, h, Matrix.one_mul]

theorem trN_channel_rhoKron (h2 : (1 + 1 : K) ≠ 0) (i : K) (n : Nat) (V : M K) (hV : V.n = 2 ^ n)
    (hU : V.dagger.mul V = M.one (2 ^ n)) (ins : Ins) (hins : ins.length = n) :
    trN n (channel V (rhoKron i ins)) = 1 := by
  rw [trN_channel n V _ hV hU, trN_rhoKron h2 i ins n hins]

theorem mleData_born {i h : K} (hc : Consts i h) (h2 : (1 + 1 : K) ≠ 0) (n : Nat) (hn : 0 < n)
    (V : M K) (hV : V.n = 2 ^ n) (hU : V.dagger.mul V = M.one (2 ^ n)) (order : List Meas)
    (hord : order.Perm (requiredSet n)) :
    mleData n order ((combineAll tomoInputsMLE n).flatMap fun ins =>
        order.map fun s => bornTable i h n (channel V (rhoKron i ins)) s)
      = .ok ((combineAll tomoInputsMLE n).flatMap fun ins =>
          (tomoMeasurements n true).map fun meas =>
            ((ins, meas), trPauli i (channel V (rhoKron i ins)) meas)) := by
  unfold mleData
  rw [runExperiments_tables n _ order (fun ins s => bornTable i h n (channel V (rhoKron i ins)) s)
    (cover_of_perm hord)]
  simp only [bind, Except.bind]
  rw [List.filter_flatMap]
  simp only [List.filter_map]
  have hfil : ∀ ins : Ins,
      ((fun e : (Ins × Meas) × Res K => e.1.2 != List.replicate n Pauli.I) ∘
        fun meas : Meas => ((ins, meas), bornTable i h n (channel V (rhoKron i ins)) (meas.map toZ)))
      = fun m : Meas => m != List.replicate n Pauli.I := fun _ => rfl
  simp only [hfil, ← tomoMeasurements_true]
  unfold expectationValues
  rw [Except.mapM_ok_of_forall (g := fun e => (e.1, trPauli i (channel V (rhoKron i e.1.1)) e.1.2))]
  · rw [List.map_flatMap]
    simp only [List.map_map]
    rfl
  · intro e he
    obtain ⟨ins, hins, he⟩ := List.mem_flatMap.mp he
    obtain ⟨meas, hmeas, rfl⟩ := List.mem_map.mp he
    have hl : meas.length = n := tomoMeasurements_length hn meas (mem_tomoMeasurements_true hmeas)
    have hil : ins.length = n := combineAll_length hn hins
    have htr := trN_channel_rhoKron h2 i n V hV hU ins hil
    have hexp := expectation_born hc meas (channel V (rhoKron i ins))
      (bornTable i h n (channel V (rhoKron i ins)) (meas.map toZ)) (by rw [hl])
      (by rw [hl, htr]; exact one_ne_zero)
    simp only [hexp, hl, htr, inv_one, mul_one]
    rfl

omit [StarRing K] [DecidableEq K] in
theorem nVec_table (n : Nat) (v : Ins → Meas → K) :
    nVec n ((combineAll tomoInputsMLE n).flatMap fun ins =>
        (tomoMeasurements n true).map fun meas => ((ins, meas), v ins meas))
      = .ok ((combineAll tomoInputsMLE n).flatMap fun ins =>
          (tomoMeasurements n true).flatMap fun meas =>
            [(1 + v ins meas) * half *
                ((((combineAll tomoInputsMLE n).length * (tomoMeasurements n true).length : Nat) : K))⁻¹,
             (1 + -v ins meas) * half *
                ((((combineAll tomoInputsMLE n).length * (tomoMeasurements n true).length : Nat) : K))⁻¹]) := by
  set inputs := combineAll tomoInputsMLE n with hinputs
  set TMt := tomoMeasurements n true with hTMt
  set keys : List (Ins × Meas) := inputs.flatMap fun ins => TMt.map fun meas => (ins, meas) with hkeys
  have hdata : (inputs.flatMap fun ins => TMt.map fun meas => ((ins, meas), v ins meas))
      = keys.map fun k => (k, v k.1 k.2) := by
    rw [hkeys, List.map_flatMap]
    simp only [List.map_map]
    rfl
  have hlen : (inputs.flatMap fun ins => TMt.map fun meas => ((ins, meas), v ins meas)).length
      = inputs.length * TMt.length := by
    rw [List.length_flatMap, List.map_congr_left (g := fun _ => TMt.length) (fun _ _ => List.length_map _),
      List.map_const', List.sum_replicate, smul_eq_mul]
  unfold nVec
  simp only [lsum_ones, hlen]
  rw [← hinputs, ← hTMt]
  rw [Except.mapM_ok_of_forall (g := fun ins => TMt.map fun meas =>
      [(1 + v ins meas) * half * (((inputs.length * TMt.length : Nat) : K))⁻¹,
       (1 + -v ins meas) * half * (((inputs.length * TMt.length : Nat) : K))⁻¹])]
  · simp only [bind, Except.bind, pure, Except.pure]
    rw [List.flatten_flatten, List.map_map, List.flatMap_def]
    rfl
  · intro ins hins
    apply Except.mapM_ok_of_forall
    intro meas hmeas
    have hk : (ins, meas) ∈ keys := by
      rw [hkeys]
      exact List.mem_flatMap.mpr ⟨ins, hins, List.mem_map.mpr ⟨meas, hmeas, rfl⟩⟩
    rw [hdata, find_key_map (fun k => v k.1 k.2) keys hk]
    rfl

/-- the data vector on noiseless data of `V`, with `L = len(data)` -/
def nvOf (i : K) (V : M K) (n : Nat) (L : K) : List K :=
  (combineAll tomoInputsMLE n).flatMap fun ins =>
    (tomoMeasurements n true).flatMap fun meas =>
      [(1 + trPauli i (channel V (rhoKron i ins)) meas) * half * L⁻¹,
       (1 + -trPauli i (channel V (rhoKron i ins)) meas) * half * L⁻¹]

theorem mle_pipeline {i h : K} (hc : Consts i h) (h2 : (1 + 1 : K) ≠ 0) (n : Nat) (hn : 0 < n)
    (V : M K) (hV : V.n = 2 ^ n) (hU : V.dagger.mul V = M.one (2 ^ n)) (order : List Meas)
    (hord : order.Perm (requiredSet n)) :
    (do let data ← mleData n order ((combineAll tomoInputsMLE n).flatMap fun ins =>
          order.map fun s => bornTable i h n (channel V (rhoKron i ins)) s)
        nVec n data)
      = .ok (nvOf i V n (((6 ^ n * (4 ^ n - 1) : Nat)) : K)) := by
  rw [mleData_born hc h2 n hn V hV hU order hord]
  simp only [bind, Except.bind]
  rw [nVec_table, combineAll_card tomoInputsMLE hn, tomoMeasurements_true_length n hn]
  rfl


/-- list-level MLE consistency, for every field in which the number of data entries
`6ⁿ·(4ⁿ - 1)` (= `len(data)`) is invertible -/
theorem mle_model_consistent_nz {i h : K} (hc : Consts i h) (h2 : (1 + 1 : K) ≠ 0) (n : Nat)
    (V : M K) (order : List Meas) (rs : List (Res K)) (nv : List K) (hn : 0 < n)
    (hV : V.n = 2 ^ n) (hU : V.dagger.mul V = M.one (2 ^ n)) (hord : order.Perm (requiredSet n))
    (hrs : rs = (combineAll tomoInputsMLE n).flatMap (fun ins =>
      order.map fun s => bornTable i h n (channel V (rhoKron i ins)) s))
    (hnv : (do let data ← mleData n order rs; nVec n data) = .ok nv)
    (hlen : ((6 ^ n * (4 ^ n - 1) : Nat) : K) ≠ 0) :
    ∃ c : K, c ≠ 0 ∧ (pVec i n (choiFromUnitary V)).map (· * c) = nv := by
  subst hrs
  rw [mle_pipeline hc h2 n hn V hV hU order hord] at hnv
  injection hnv with hnv
  set L : K := ((6 ^ n * (4 ^ n - 1) : Nat) : K) with hL
  have htp : (twoPow (2 * n) : K) ≠ 0 := twoPow_ne_zero h2 _
  refine ⟨twoPow (2 * n) * L⁻¹, mul_ne_zero htp (inv_ne_zero hlen), ?_⟩
  rw [← hnv]
  unfold pVec nvOf
  rw [List.map_flatMap]
  apply List.flatMap_congr
  intro ins hins
  rw [List.map_flatMap]
  apply List.flatMap_congr
  intro meas hmeas
  have hl : meas.length = n := tomoMeasurements_length hn meas (mem_tomoMeasurements_true hmeas)
  have hil : ins.length = n := combineAll_length hn hins
  have htr := trN_channel_rhoKron h2 i n V hV hU ins hil
  obtain ⟨e1, e2⟩ := mle_rows i n V hV ins hil meas hl
  show [pairing (aRowMats i n ins meas).1 (choiFromUnitary V) * (twoPow (2 * n) * L⁻¹),
      pairing (aRowMats i n ins meas).2 (choiFromUnitary V) * (twoPow (2 * n) * L⁻¹)] = _
  rw [e1, e2, htr]
  have key : ∀ x : K, (twoPow (2 * n))⁻¹ * x * (twoPow (2 * n) * L⁻¹) = x * L⁻¹ := by
    intro x
    rw [mul_comm (twoPow (2 * n))⁻¹ x, mul_assoc, ← mul_assoc (twoPow (2 * n))⁻¹,
      inv_mul_cancel₀ htp, one_mul]
  rw [key, key, mul_comm half, mul_comm half]

theorem mle_model_consistent_char0 [CharZero K] {i h : K} (hc : Consts i h) (h2 : (1 + 1 : K) ≠ 0)
    (n : Nat) (V : M K) (order : List Meas) (rs : List (Res K)) (nv : List K) (hn : 0 < n)
    (hV : V.n = 2 ^ n) (hU : V.dagger.mul V = M.one (2 ^ n)) (hord : order.Perm (requiredSet n))
    (hrs : rs = (combineAll tomoInputsMLE n).flatMap (fun ins =>
      order.map fun s => bornTable i h n (channel V (rhoKron i ins)) s))
    (hnv : (do let data ← mleData n order rs; nVec n data) = .ok nv) :
    ∃ c : K, c ≠ 0 ∧ (pVec i n (choiFromUnitary V)).map (· * c) = nv := by
  refine mle_model_consistent_nz hc h2 n V order rs nv hn hV hU hord hrs hnv ?_
  have h4 : 4 ^ 1 ≤ 4 ^ n := Nat.pow_le_pow_right (by norm_num) hn
  have h6 : 0 < 6 ^ n := Nat.pos_of_ne_zero (pow_ne_zero _ (by norm_num))
  exact Nat.cast_ne_zero.mpr (Nat.mul_ne_zero (by omega) (by omega))

end LW.Tomo
