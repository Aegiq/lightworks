/-
  C02 (amplitude clause) — the heralded input-to-output transition amplitudes of the result of an
  addition are exactly those of the two transformations composed under the wiring.

  `Optic.compose x s m` has matrix `Embed(S̃) · Embed(P)` on the index space
  [ports | old ancillas | new ancillas | old loss | new loss]; by the Fock functor theorem
  (`ampNum_mul`, Cauchy–Binet for permanents) every Fock-space amplitude of the composite is the sum
  over intermediate Fock states `w` of (amplitude of the embedded parent from the input to `w`) ×
  (amplitude of the embedded sub-circuit from `w` to the output), with the occupation weight `1/w!`
  that turns amplitude numerators into normalised amplitudes.  Together with `sem_add`
  (LW/Properties/C02Sem.lean: the bookkeeping of `Circuit.add` refines `Optic.compose`) this is the
  amplitude-level statement of C02 for every constructible circuit.
-/
import LW.Proofs.FockFunctor
import LW.Model.Optic

namespace LW.C02

variable {K : Type} [Field K] [CharZero K]

/-- the two embedded factors of a composition (as in `Optic.compose`). The index maps are written
out because this file stands beside the C02Sem chain, not on it; there they are named `invP`,
`invS`, and the same `rfl` is `Proofs.C02Sem.compose_W` (LW.Proofs.C02SemCompose). -/
def composeFactors (x : Optic K) (s : Closed K) (m : Nat) : M K × M K :=
  let aS := s.hn.length
  let D := x.p + x.a + aS + x.l + s.l
  let invP (r : Nat) : Option Nat :=
    if r < x.p + x.a then some r
    else if r < x.p + x.a + aS then none
    else if r < x.p + x.a + aS + x.l then some (r - aS)
    else none
  let invS (r : Nat) : Option Nat :=
    if m ≤ r ∧ r < m + s.q then some (r - m)
    else if x.p + x.a ≤ r ∧ r < x.p + x.a + aS then some (s.q + (r - (x.p + x.a)))
    else if x.p + x.a + aS + x.l ≤ r then some (s.q + aS + (r - (x.p + x.a + aS + x.l)))
    else none
  (Optic.embedVia D s.W invS, Optic.embedVia D x.W invP)

theorem compose_W (x : Optic K) (s : Closed K) (m : Nat) :
    (x.compose s m).W = (composeFactors x s m).1.mul (composeFactors x s m).2 := rfl

/-- Amplitudes compose: for any Fock input `fin` and output `fout` on the composite's index space
(user photons on the ports, herald photons on the ancillas, vacuum on the loss indices), the
amplitude numerator of the composite is the path sum over all intermediate Fock states. -/
theorem add_amplitudes (x : Optic K) (s : Closed K) (m : Nat) (fin fout : FState)
    (hD : 0 < x.p + x.a + s.hn.length + x.l + s.l)
    (hin : fin.length = x.p + x.a + s.hn.length + x.l + s.l)
    (hout : fout.length = x.p + x.a + s.hn.length + x.l + s.l)
    (hp : photons fout = photons fin) :
    ampNum (x.compose s m).W fin fout =
      ((fockBasis (x.p + x.a + s.hn.length + x.l + s.l) (photons fin)).map fun w =>
        ampNum (composeFactors x s m).1 w fout * ampNum (composeFactors x s m).2 fin w /
          ((factProd w : Nat) : K)).sum := by
  have e1 : (composeFactors x s m).1.n = x.p + x.a + s.hn.length + x.l + s.l := rfl
  have e2 : (composeFactors x s m).2.n = (composeFactors x s m).1.n := rfl
  rw [← e1] at hD hin hout ⊢
  rw [compose_W]
  exact Proofs.FockIso.ampNum_mul _ _ e2 hD fin fout hin hout hp

end LW.C02
