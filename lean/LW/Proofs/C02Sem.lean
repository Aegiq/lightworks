/-
  LW.Proofs.C02Sem — C02 (semantic core): collects the refinement theorems of the construction calls
  (C02SemCalls) and of `add` (C02SemAdd: `View.add`, `sem_add_pos`, `sem_add`, `sem_add_accepts`);
  the chain of modules is described in DESIGN.md §13.9.
-/
import LW.Model.Abs
import LW.Proofs.Reach
import LW.Proofs.C02SemCalls
import LW.Proofs.C02SemAdd

namespace LW.Proofs.C02Sem

/-! ### non-vacuity: an accepted addition with an ancilla inside the span, heralds whose input and
output modes differ and are declared out of mode order -/

private def exSub : Except Err (Circ Int) := do
  let c : Circ Int := { n := 4, spec := [.prim (.bs 0 1 1 0 .h), .prim (.bs 2 3 1 0 .rx)] }
  let c ← c.herald 1 3 0
  c.herald 2 0 1

private def exPar : Except Err (Circ Int) := do
  let c : Circ Int := { n := 3, spec := [.prim (.bs 0 2 1 0 .h)] }
  let s : Circ Int := { n := 2, spec := [.prim (.bs 0 1 1 0 .h)] }
  let s ← s.herald 1 1 1
  c.add s 1 false

example : ∃ par sub res : Circ Int, exPar = .ok par ∧ exSub = .ok sub ∧ par.add sub 1 false = .ok res ∧
    par.internal = [2] ∧ sub.inHer = [(3, 1), (0, 2)] ∧ sub.outHer = [(0, 1), (1, 2)] ∧
    res.internal = [3, 1, 5] := by
  refine ⟨_, _, _, rfl, rfl, rfl, ?_, ?_, ?_, ?_⟩ <;> decide

end LW.Proofs.C02Sem
