/- kernel decision of the amplitude table of `CCZ` (`closedTable`, LW/Proofs/C13Eval.lean) -/
import LW.Proofs.C13Eval
import LW.Proofs.C13Struct

namespace LW.Gates

theorem tab_CCZ : closedTable (cczUnitary cCCZ) herCCZ 3 kCCZ namedCZ false = true := by decide +kernel

end LW.Gates
