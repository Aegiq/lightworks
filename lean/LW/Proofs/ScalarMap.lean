/-
  LW.Proofs.ScalarMap — a circuit as a container over its scalar type: `M.map`, `Prim.map`,
  `Comp.map`, `Circ.map` (LW.Model.PCircuit) leave everything but the scalars alone, compose, and
  are determined by their values on the scalars present — the fields (`Prim.syms`) and the
  entries of the unitary blocks (`Prim.blockEntries`).

  The C10 chain is free of Mathlib, so this module cannot use `M.get_ofFn` of MatAlg: the few
  facts about `M.map` on `M.get`, `M.ofFn` and `M.entries` unfold the arrays here, once.
-/
import LW.Model.PCircuit

namespace LW

variable {K K' K'' : Type}

@[simp] theorem M.map_n (f : K → K') (A : M K) : (A.map f).n = A.n := rfl

theorem M.get_map [Zero K] [Zero K'] (f : K → K') (hf0 : f 0 = 0) (A : M K) (i j : Nat) :
    (A.map f).get i j = f (A.get i j) := by
  unfold M.get M.map
  simp only [Array.getD_eq_getD_getElem?, Array.getElem?_map]
  cases h : A.a[i]? with
  | none => simp [hf0]
  | some row =>
    simp only [Option.map_some, Option.getD_some, Array.getElem?_map]
    cases h2 : row[j]? with
    | none => simp [hf0]
    | some x => simp

theorem M.ofFn_map (f : K → K') (n : Nat) (g : Nat → Nat → K) :
    (M.ofFn n g).map f = M.ofFn n fun i j => f (g i j) := by
  unfold M.ofFn M.map
  simp [Array.map_ofFn, Function.comp_def]

theorem M.map_map (g : K → K') (f : K' → K'') (A : M K) : (A.map g).map f = A.map (f ∘ g) := by
  unfold M.map
  simp [Array.map_map, Function.comp_def]

def M.entries (A : M K) : List K := A.a.toList.flatMap Array.toList

theorem M.map_congr {f g : K → K'} (A : M K) (h : ∀ x ∈ A.entries, f x = g x) : A.map f = A.map g := by
  unfold M.map
  congr 1
  apply Array.map_congr_left
  intro row hrow
  apply Array.map_congr_left
  intro x hx
  apply h
  unfold M.entries
  rw [List.mem_flatMap]
  exact ⟨row, Array.mem_toList_iff.mpr hrow, Array.mem_toList_iff.mpr hx⟩

theorem M.entries_map (f : K → K') (u : M K) : (u.map f).entries = u.entries.map f := by
  unfold M.entries M.map
  simp only [Array.toList_map, List.flatMap_map, List.map_flatMap]

theorem M.entries_ofFn (n : Nat) (g : Nat → Nat → K) (x : K) (hx : x ∈ (M.ofFn n g).entries) :
    ∃ i j, x = g i j := by
  unfold M.entries M.ofFn at hx
  simp only [List.mem_flatMap, Array.mem_toList_iff] at hx
  obtain ⟨row, hrow, hxr⟩ := hx
  rw [Array.mem_ofFn] at hrow
  obtain ⟨i, rfl⟩ := hrow
  rw [Array.mem_ofFn] at hxr
  obtain ⟨j, rfl⟩ := hxr
  exact ⟨i, j, rfl⟩

theorem M.get_mem [Zero K] (A : M K) (i j : Nat) : A.get i j = 0 ∨ A.get i j ∈ A.entries := by
  unfold M.get M.entries
  simp only [Array.getD_eq_getD_getElem?]
  cases h : A.a[i]? with
  | none => left; simp
  | some row =>
    simp only [Option.getD_some]
    cases h2 : row[j]? with
    | none => left; simp
    | some x =>
      right
      simp only [Option.getD_some, List.mem_flatMap, Array.mem_toList_iff]
      exact ⟨row, Array.mem_of_getElem? h, Array.mem_of_getElem? h2⟩

theorem Comp.toPrims_map (f : K → K') (c : Comp K) : (c.map f).toPrims = c.toPrims.map (Prim.map f) := by
  cases c <;> rfl

theorem primsOf_map (f : K → K') (spec : List (Comp K)) :
    primsOf (spec.map (Comp.map f)) = (primsOf spec).map (Prim.map f) := by
  simp only [primsOf, List.flatMap_map, List.map_flatMap, Comp.toPrims_map]

theorem Prim.syms_map (f : K → K') (p : Prim K) : (p.map f).syms = p.syms.map f := by
  cases p <;> rfl

/-- the scalars of a component that are not fields (`Prim.syms`): the entries of a unitary block -/
def Prim.blockEntries : Prim K → List K
  | .unitary _ u => u.entries
  | _ => []

theorem Prim.blockEntries_map (f : K → K') (p : Prim K) :
    (p.map f).blockEntries = p.blockEntries.map f := by
  cases p with
  | unitary m u => exact M.entries_map f u
  | _ => rfl

namespace Circ

@[simp] theorem map_n (f : K → K') (c : Circ K) : (c.map f).n = c.n := rfl
@[simp] theorem map_spec (f : K → K') (c : Circ K) : (c.map f).spec = c.spec.map (Comp.map f) := rfl
@[simp] theorem map_inHer (f : K → K') (c : Circ K) : (c.map f).inHer = c.inHer := rfl
@[simp] theorem map_outHer (f : K → K') (c : Circ K) : (c.map f).outHer = c.outHer := rfl
@[simp] theorem map_extIn (f : K → K') (c : Circ K) : (c.map f).extIn = c.extIn := rfl
@[simp] theorem map_extOut (f : K → K') (c : Circ K) : (c.map f).extOut = c.extOut := rfl
@[simp] theorem map_internal (f : K → K') (c : Circ K) : (c.map f).internal = c.internal := rfl
@[simp] theorem map_mapMode (f : K → K') (c : Circ K) (m : Int) : (c.map f).mapMode m = c.mapMode m := rfl
@[simp] theorem map_modeInRange (f : K → K') (c : Circ K) (m : Int) :
    (c.map f).modeInRange m = c.modeInRange m := rfl
@[simp] theorem map_inputModes (f : K → K') (c : Circ K) : (c.map f).inputModes = c.inputModes := rfl

end Circ

theorem Circ.syms_map (f : K → K') (c : Circ K) : (c.map f).syms = c.syms.map f := by
  unfold Circ.syms
  simp only [Circ.map, primsOf_map, List.flatMap_map, List.map_flatMap, Prim.syms_map]

theorem Prim.map_map (g : K → K') (f : K' → K'') (p : Prim K) : (p.map g).map f = p.map (f ∘ g) := by
  cases p <;> simp [Prim.map, M.map_map]

theorem Comp.map_map (g : K → K') (f : K' → K'') (c : Comp K) : (c.map g).map f = c.map (f ∘ g) := by
  cases c with
  | prim p => simp [Comp.map, Prim.map_map]
  | group cs m1 m2 hin hout =>
    simp only [Comp.map, List.map_map]
    congr 1
    apply List.map_congr_left
    intro p _
    exact Prim.map_map g f p

theorem Circ.map_map (g : K → K') (f : K' → K'') (c : Circ K) : (c.map g).map f = c.map (f ∘ g) := by
  simp only [Circ.map, List.map_map]
  congr 1
  apply List.map_congr_left
  intro p _
  exact Comp.map_map g f p

theorem Prim.map_congr {f g : K → K'} (p : Prim K) (h : ∀ x ∈ p.syms, f x = g x)
    (hb : ∀ x ∈ p.blockEntries, f x = g x) : p.map f = p.map g := by
  cases p with
  | bs m1 m2 c s cv =>
    show Prim.bs m1 m2 (f c) (f s) cv = Prim.bs m1 m2 (g c) (g s) cv
    rw [h c List.mem_cons_self, h s (List.mem_cons_of_mem _ List.mem_cons_self)]
  | ps m p => exact congrArg (Prim.ps m) (h p List.mem_cons_self)
  | loss m a b =>
    show Prim.loss m (f a) (f b) = Prim.loss m (g a) (g b)
    rw [h a List.mem_cons_self, h b (List.mem_cons_of_mem _ List.mem_cons_self)]
  | barrier ms => rfl
  | swaps σ => rfl
  | unitary m u => exact congrArg (Prim.unitary m) (M.map_congr u hb)

theorem Comp.map_congr {f g : K → K'} (c : Comp K)
    (h : ∀ p ∈ c.toPrims, (∀ x ∈ p.syms, f x = g x) ∧ ∀ x ∈ p.blockEntries, f x = g x) :
    c.map f = c.map g := by
  cases c with
  | prim p => exact congrArg Comp.prim (Prim.map_congr p (h p List.mem_cons_self).1 (h p List.mem_cons_self).2)
  | group cs m1 m2 hin hout =>
    simp only [Comp.map]
    congr 1
    exact List.map_congr_left fun p hp => Prim.map_congr p (h p hp).1 (h p hp).2

theorem Circ.map_congr {f g : K → K'} (c : Circ K)
    (h : ∀ p ∈ primsOf c.spec, (∀ x ∈ p.syms, f x = g x) ∧ ∀ x ∈ p.blockEntries, f x = g x) :
    c.map f = c.map g := by
  simp only [Circ.map]
  congr 1
  exact List.map_congr_left fun comp hcomp =>
    Comp.map_congr comp fun p hp => h p (List.mem_flatMap.mpr ⟨comp, hcomp, hp⟩)

end LW
