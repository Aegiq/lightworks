/-
  `GateFidelity.process`.  Every Pauli string is the `alphaN`-combination of the input density
  matrices (single-qubit table + Kronecker induction), so the `np.linalg.solve` of
  `_calculate_alpha_and_u_basis` — whose solution is unique because the input density matrices are a
  basis (C16LI `rhoM_dual`) — returns `alphaN`.  The sum of `process` evaluates to the average gate
  fidelity `(|tr(U†V)|² + d)/(d(d+1))` when the reconstructed states are those of `ρ ↦ V ρ V†` (Pauli
  twirl from the completeness relation; no unitarity needed for the algebraic identity), which is
  one for `U = V` unitary.
-/
import LW.Proofs.C16Choi

open scoped BigOperators

namespace LW.Tomo

variable {K : Type} [Field K] [StarRing K] [DecidableEq K]

omit [StarRing K] [DecidableEq K] in
theorem lprod_snoc (l : List K) (x : K) : lprod (l ++ [x]) = lprod l * x := by
  induction l with
  | nil => simp [lprod]
  | cons a t ih =>
    simp only [lprod, List.cons_append, List.foldr_cons] at ih ⊢
    rw [ih, mul_assoc]

omit [StarRing K] [DecidableEq K] in
theorem alpha1 {i : K} (h2 : (1 + 1 : K) ≠ 0) (p : Pauli) {x y : Nat} (hx : x < 2) (hy : y < 2) :
    ((tomoInputsLI.map fun t => alphaCoeff p t * (rhoM i t).get x y).sum : K) = (pauliM i p).get x y := by
  have hh := two_half h2
  simp only [tomoInputsLI, List.map_cons, List.map_nil, List.sum_cons, List.sum_nil]
  cases p <;> interval_cases x <;> interval_cases y <;>
    simp [alphaCoeff, rhoM, pauliM, hh, mul_left_comm _ i]

omit [StarRing K] [DecidableEq K] in
theorem lprod_zip_snoc {σ τ : Type} (c : σ → τ → K) (ss : List σ) (ts : List τ) (hl : ss.length = ts.length)
    (s : σ) (t : τ) :
    lprod (((ss ++ [s]).zip (ts ++ [t])).map fun p => c p.1 p.2)
      = lprod ((ss.zip ts).map fun p => c p.1 p.2) * c s t := by
  rw [List.zip_append hl, List.map_append, List.zip_cons_cons, List.zip_nil_right, List.map_cons,
    List.map_nil, lprod_snoc]

omit [StarRing K] [DecidableEq K] in
/-- a linear relation between single-qubit tables, `Σ_t c s t · R_t = P_s`, lifts to strings: the
coefficient of a string is the product of the coefficients of its letters -/
theorem combos_lift {σ τ : Type} (vals : List τ) (c : σ → τ → K) (R : τ → Nat → Nat → K)
    (P : σ → Nat → Nat → K)
    (h1 : ∀ s x y, x < 2 → y < 2 → (vals.map fun t => c s t * R t x y).sum = P s x y)
    (k : Nat) (ss : List σ) (hs : ss.length = k + 1) (a b : Nat) :
    ((combos vals k).map fun ts =>
        lprod ((ss.zip ts).map fun p => c p.1 p.2) * entryRev (ts.reverse.map R) a b).sum
      = entryRev (ss.reverse.map P) a b := by
  induction k generalizing ss a b with
  | zero =>
    match ss, hs with
    | [s], _ =>
      simp only [combos, List.map_map, Function.comp_def, List.reverse_cons, List.reverse_nil,
        List.nil_append, List.map_cons, List.map_nil, entryRev, one_mul]
      rw [← h1 s _ _ (Nat.mod_lt _ (by omega)) (Nat.mod_lt _ (by omega))]
      exact congrArg List.sum (List.map_congr_left fun t _ => by simp [lprod])
  | succ k ih =>
    have hne : ss ≠ [] := by intro h; rw [h] at hs; simp at hs
    obtain ⟨ss', s, rfl⟩ : ∃ ss' s, ss = ss' ++ [s] :=
      ⟨ss.dropLast, ss.getLast hne, (List.dropLast_append_getLast hne).symm⟩
    have hs' : ss'.length = k + 1 := by simpa using hs
    simp only [combos]
    rw [sum_flatMap_mul _ _ _ _
        (fun v => lprod ((ss'.zip v).map fun p => c p.1 p.2) * entryRev (v.reverse.map R) (a / 2) (b / 2))
        (fun t => c s t * R t (a % 2) (b % 2))
        (fun v hv t _ => by
          rw [lprod_zip_snoc c ss' v (by rw [hs', combos_length _ _ v hv]) s t, entryRev_snoc]; ring),
      ih ss' hs', h1 s _ _ (Nat.mod_lt _ (by omega)) (Nat.mod_lt _ (by omega)), entryRev_snoc]

theorem alpha_reconstruct {i : K} (h2 : (1 + 1 : K) ≠ 0) (k : Nat) (qs : Meas) (hq : qs.length = k + 1)
    {a b : Nat} (ha : a < 2 ^ (k + 1)) (hb : b < 2 ^ (k + 1)) :
    (((combineAll tomoInputsLI (k + 1)).map fun ins =>
        alphaN qs ins * (rhoKron i ins).get a b).sum : K) = (pauliKron i qs).get a b := by
  rw [pauliKron_get i qs (by rw [hq]; exact ha) (by rw [hq]; exact hb),
    ← combos_lift tomoInputsLI alphaCoeff (fun t => (rhoM i t).get) (fun p => (pauliM i p).get)
      (fun p _ _ hx hy => alpha1 h2 p hx hy) k qs hq a b]
  refine congrArg List.sum (List.map_congr_left fun ins hins => ?_)
  unfold rhoKron
  rw [kronList_get_of_mem_combos _ (rhoM_n i) hins ha hb]
  rfl

theorem alpha_reconstruct_mat {i : K} (h2 : (1 + 1 : K) ≠ 0) (k : Nat) (qs : Meas) (hq : qs.length = k + 1) :
    ((combineAll tomoInputsLI (k + 1)).map fun ins =>
        (alphaN qs ins : K) • (rhoKron i ins).toMatN (2 ^ (k + 1))).sum
      = (pauliKron i qs).toMatN (2 ^ (k + 1)) := by
  ext a b
  rw [list_sum_apply]
  exact alpha_reconstruct h2 k qs hq a.2 b.2

omit [StarRing K] [DecidableEq K] in
theorem list_sum_mul_trace {ι n : Type} [Fintype n] (l : List ι) (c : ι → K) (Q : Matrix n n K)
    (X : ι → Matrix n n K) :
    (l.map fun t => c t * Matrix.trace (Q * X t)).sum = Matrix.trace (Q * (l.map fun t => c t • X t).sum) := by
  rw [← List.sum_map_mul_left, Matrix.trace_list_sum, List.map_map]
  exact congrArg List.sum (List.map_congr_left fun t _ => by
    rw [Function.comp_apply, Matrix.mul_smul, Matrix.trace_smul, smul_eq_mul])

/-- one term of the outer sum, `Σ_j α_ij tr(U U_i† U† ρ_j)` with `ρ_j = V ρ_in_j V†`: linear in `ρ`,
`Σ_j α_ij ρ_in_j = U_i`, and the trace is cyclic; `A = U†V` -/
theorem gf_inner {i : K} (hs : star i = -i) (h2 : (1 + 1 : K) ≠ 0) (k : Nat) (T V : M K)
    (hT : T.n = 2 ^ (k + 1)) (hV : V.n = 2 ^ (k + 1)) (ps : Meas) (hl : ps.length = k + 1) :
    (((combineAll tomoInputsLI (k + 1)).map fun ins =>
        alphaN ps ins * trace (((T.mul (pauliKron i ps).dagger).mul T.dagger).mul
          (channel V (rhoKron i ins)))).sum : K)
      = Matrix.trace (((T.toMatN (2 ^ (k + 1))).conjTranspose * V.toMatN (2 ^ (k + 1))).conjTranspose
          * ((pauliKron i ps).toMatN (2 ^ (k + 1))
            * ((T.toMatN (2 ^ (k + 1))).conjTranspose * V.toMatN (2 ^ (k + 1))) * (pauliKron i ps).toMatN (2 ^ (k + 1)))) := by
  set N := 2 ^ (k + 1) with hN
  have hP : (pauliKron i ps).n = N := by rw [pauliKron_n, hl]
  have hPh := pauliKron_conjTranspose hs ps (N := N) (by rw [hl])
  have term : ∀ ins : Ins, trace (((T.mul (pauliKron i ps).dagger).mul T.dagger).mul
      (channel V (rhoKron i ins)))
        = Matrix.trace ((V.toMatN N).conjTranspose * (T.toMatN N * (pauliKron i ps).toMatN N * (T.toMatN N).conjTranspose)
            * V.toMatN N * (rhoKron i ins).toMatN N) := fun ins => by
    rw [trace_eq_trace _ (show (((T.mul (pauliKron i ps).dagger).mul T.dagger).mul _).n = N from hT),
      M.toMatN_mul _ _ (show ((T.mul (pauliKron i ps).dagger).mul T.dagger).n = N from hT),
      M.toMatN_mul _ _ (show (T.mul (pauliKron i ps).dagger).n = N from hT), M.toMatN_mul _ _ hT,
      M.toMatN_dagger _ hP, M.toMatN_dagger _ hT, toMatN_channel V _ hV, hPh,
      ← Matrix.mul_assoc, Matrix.trace_mul_comm, ← Matrix.mul_assoc, ← Matrix.mul_assoc]
  rw [List.map_congr_left fun ins _ => by rw [term ins], list_sum_mul_trace,
    alpha_reconstruct_mat h2 k ps hl, Matrix.conjTranspose_mul, Matrix.conjTranspose_conjTranspose]
  simp only [Matrix.mul_assoc]
  rfl

/-- the total of equation 19 (of arXiv:quant-ph/0205035, cited in the docstring of `GateFidelity`),
`d · |tr(U†V)|²`: the Pauli twirl `Σ_P P A P = d · tr A · 1` -/
theorem gf_total {i : K} (hi : i * i = -1) (hs : star i = -i) (h2 : (1 + 1 : K) ≠ 0) (k : Nat)
    (T V : M K) (hT : T.n = 2 ^ (k + 1)) (hV : V.n = 2 ^ (k + 1)) :
    (((combineAll Pauli.basisOrder (k + 1)).map fun ps =>
        ((combineAll tomoInputsLI (k + 1)).map fun ins =>
          alphaN ps ins * trace (((T.mul (pauliKron i ps).dagger).mul T.dagger).mul
            (channel V (rhoKron i ins)))).sum).sum : K)
      = (1 + 1) ^ (k + 1) * (trace (T.dagger.mul V) * star (trace (T.dagger.mul V))) := by
  set N := 2 ^ (k + 1) with hN
  set A := (T.toMatN N).conjTranspose * V.toMatN N with hA
  have tw : ((combineAll Pauli.basisOrder (k + 1)).map fun ps =>
      (pauliKron i ps).toMatN N * A * (pauliKron i ps).toMatN N).sum
      = ((1 + 1) ^ (k + 1) * A.trace) • (1 : Matrix (Fin N) (Fin N) K) :=
    (pauliKron_dual hi (by decide) k).twirl A
  have htr : trace (T.dagger.mul V) = A.trace := by
    rw [trace_eq_trace _ (show (T.dagger.mul V).n = N from hT),
      M.toMatN_mul _ _ (show T.dagger.n = N from hT), M.toMatN_dagger _ hT]
  have tl := Matrix.trace_list_sum ((combineAll Pauli.basisOrder (k + 1)).map fun ps =>
      A.conjTranspose * ((pauliKron i ps).toMatN N * A * (pauliKron i ps).toMatN N))
  rw [List.map_map] at tl
  rw [List.map_congr_left fun ps hps =>
    gf_inner hs h2 k T V hT hV ps (combineAll_length k.succ_pos hps)]
  refine tl.symm.trans ?_
  rw [List.sum_map_mul_left, tw, htr, ← Matrix.trace_conjTranspose A, Matrix.mul_smul, Matrix.mul_one,
    Matrix.trace_smul, smul_eq_mul, mul_assoc]

theorem gate_fidelity_formula {i : K} (hi : i * i = -1) (hs : star i = -i) (h2 : (1 + 1 : K) ≠ 0)
    (k : Nat) (T V : M K) (hT : T.n = 2 ^ (k + 1)) (hV : V.n = 2 ^ (k + 1)) :
    gateFidelityOf i (k + 1) T ((combineAll tomoInputsLI (k + 1)).map fun ins =>
        (ins, channel V (rhoKron i ins)))
      = avgGateFidelity (k + 1) T V := by
  unfold gateFidelityOf avgGateFidelity
  simp only [lsum_eq_sum, List.map_map, Function.comp_def]
  rw [gf_total hi hs h2 k T V hT hV, twoPow_eq]
  set d : K := (1 + 1) ^ (k + 1) with hd
  have hd0 : d ≠ 0 := pow_ne_zero _ h2
  set t := trace (T.dagger.mul V)
  rw [show d * d * (d + 1) = d * (d * (d + 1)) by ring, mul_inv]
  linear_combination ((t * star t + d) * (d * (d + 1))⁻¹) * (mul_inv_cancel₀ hd0)

omit [StarRing K] [DecidableEq K] in
theorem trace_one (N : Nat) : trace (M.one N : M K) = (N : K) := by
  rw [trace_eq_trace _ (M.one_n N), M.toMatN_one, Matrix.trace_one, Fintype.card_fin]

omit [DecidableEq K] in
theorem avg_gate_fidelity_self (h2 : (1 + 1 : K) ≠ 0) (k : Nat) (V : M K)
    (hU : V.dagger.mul V = M.one (2 ^ (k + 1))) (hd1 : (1 + 1 : K) ^ (k + 1) + 1 ≠ 0) :
    avgGateFidelity (k + 1) V V = 1 := by
  unfold avgGateFidelity
  simp only [hU, trace_one, twoPow_eq, conj_eq_star]
  have hc : ((2 ^ (k + 1) : Nat) : K) = (1 + 1) ^ (k + 1) := by
    rw [Nat.cast_pow, Nat.cast_ofNat, one_add_one_eq_two]
  rw [hc]
  set d : K := (1 + 1) ^ (k + 1) with hd
  have hsd : star d = d := by simp [hd]
  rw [hsd]
  have hd0 : d ≠ 0 := pow_ne_zero _ h2
  rw [show d * d + d = d * (d + 1) by ring]
  exact mul_inv_cancel₀ (mul_ne_zero hd0 hd1)

end LW.Tomo

/- LW/Properties/C16 cites `gate_fidelity_self` as `LW.Proofs.C16.gate_fidelity_self`. -/
namespace LW.Proofs.C16

open LW.Tomo

variable {K : Type} [Field K] [StarRing K] [DecidableEq K]

theorem gate_fidelity_self {i : K} (hi : i * i = -1) (hs : star i = -i) (h2 : (1 + 1 : K) ≠ 0)
    (k : Nat) (V : M K) (hV : V.n = 2 ^ (k + 1)) (hU : V.dagger.mul V = M.one (2 ^ (k + 1)))
    (hd1 : (1 + 1 : K) ^ (k + 1) + 1 ≠ 0) :
    gateFidelityOf i (k + 1) V ((combineAll tomoInputsLI (k + 1)).map fun ins =>
        (ins, channel V (rhoKron i ins))) = 1 := by
  rw [gate_fidelity_formula hi hs h2 k V V hV hV, avg_gate_fidelity_self h2 k V hU hd1]

end LW.Proofs.C16
