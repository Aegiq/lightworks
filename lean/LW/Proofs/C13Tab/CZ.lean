/- kernel decision of the amplitude table of `CZ` (`closedTable`, LW/Proofs/C13Eval.lean) -/
import LW.Proofs.C13Eval
import LW.Proofs.C13Struct

namespace LW.Gates

theorem tab_CZ : closedTable (czUnitary cCZ) herCZ 2 kCZ namedCZ false = true := by decide +kernel

end LW.Gates
