/-
  LW.Proofs.C02SemAddArr — the result of `Circuit.add` seen from the composed optic: its heralds and
  ports follow the parent's through `parMap` (`Ctx.res_inKeys`, `Ctx.res_portModes`), and its ancillas
  in the order of the composed optic, `[old ancillas | new ancillas]`, are `ancAdd` (`Ctx.perm_ancAdd`;
  `Ctx.arr_add_low`, `Ctx.arr_add_new`: the arrangement of the result on the two blocks).
-/
import LW.Proofs.C02SemAddPos
import LW.Proofs.Arrangement

open scoped BigOperators

namespace LW.Proofs.C02Sem

open LW LW.Proofs.C01Aux LW.Proofs.C02

variable {K : Type} [CommRing K] [StarRing K]

-- `AddData` is stated with `[CommRing K] [StarRing K]`; what speaks of it takes them along, used or not
set_option linter.unusedSectionVars false

/-- an accepted `par.add sub m g = .ok res` with its data: `mode` is the `m`-th port mode of the
parent (`hm1`, `hmode`) and the `sub.n - |sub.inHer|` free modes of `sub` fit on the ports from `m`
on (`hmq`), which is what the specification `Optic.add` checks -/
structure Ctx (par sub res : Circ K) (m : Int) (g : Bool) (mode : Nat) (ts : List Nat) : Prop where
  wf : par.WF
  wfs : sub.WF
  wf' : res.WF
  d : AddData par sub res m g mode ts
  hm1 : m.toNat < par.portModes.length
  hmode : par.optMode m.toNat = mode
  hmq : m.toNat + (sub.n - sub.inHer.length) ≤ par.portModes.length

section
variable {par sub res : Circ K} {m : Int} {g : Bool} {mode : Nat} {ts : List Nat}
  {anc : List Nat}

theorem Ctx.pos (c : Ctx par sub res m g mode ts) : AddPos par sub mode ts (parMap sub mode ts) :=
  addPos par sub res m g mode ts c.d c.wfs

theorem Ctx.key_lt (c : Ctx par sub res m g mode ts) {k : Nat} (hk : k < sub.inHer.length) :
    sub.inHer.keys.getD k 0 < sub.n := by
  have hk' : k < sub.inHer.keys.length := by rw [keys_length]; exact hk
  rw [List.getD_eq_getElem _ _ hk']
  exact c.wfs.inLt _ (List.getElem_mem _)

theorem keys_mapKeys_append_shift (f : Nat → Nat) (d H : Dict) (mode : Nat) :
    (Dict.mapKeys f d ++ H.map fun p => (p.1 + mode, p.2)).keys
      = d.keys.map f ++ H.keys.map (· + mode) := by
  rw [keys_append, keys_mapKeys]
  exact congrArg _ (keys_mapKeys (· + mode) H)

theorem Ctx.res_inKeys (c : Ctx par sub res m g mode ts) :
    res.inHer.keys = par.inHer.keys.map (parMap sub mode ts)
      ++ (sub.inHer.keys.map (bumps ts)).map (· + mode) := by
  rw [c.d.inHer, keys_mapKeys_append_shift, keys_mapKeys]; rfl

theorem Ctx.res_outKeys (c : Ctx par sub res m g mode ts) :
    res.outHer.keys = par.outHer.keys.map (parMap sub mode ts)
      ++ (sub.inHer.keys.map (bumps ts)).map (· + mode) := by
  rw [c.d.outHer, keys_mapKeys_append_shift, keys_mapKeys]; rfl

/-- `parMap` is increasing and maps the parent's modes onto the modes of the result that are not new
ancillas, so it carries the parent's ports onto the result's -/
theorem Ctx.res_portModes (c : Ctx par sub res m g mode ts) :
    res.portModes = par.portModes.map (parMap sub mode ts) := by
  rw [portModes_eq_freeOf, portModes_eq_freeOf, c.d.n_eq]
  refine (map_freeOf (fun a b h _ => c.pos.f_mono a b h) fun y => ?_).symm
  have hk : y ∈ res.internal ↔ y ∈ par.internal.map (parMap sub mode ts)
      ∨ ∃ k ∈ sub.inHer.keys, y = mode + bumps ts k := by
    rw [c.d.internal, List.mem_append]
    refine or_congr Iff.rfl ?_
    simp only [List.mem_map, mem_sortNat]
    constructor
    · rintro ⟨w, ⟨k, hk, rfl⟩, rfl⟩; exact ⟨k, hk, rfl⟩
    · rintro ⟨k, hk, rfl⟩; exact ⟨_, ⟨k, hk, rfl⟩, rfl⟩
  rw [hk]
  simp only [List.mem_map, not_or]
  constructor
  · rintro ⟨hy, h1, h2⟩
    obtain ⟨x, hx, rfl⟩ := c.pos.f_surj y hy (fun k hk e => h2 ⟨k, hk, e⟩)
    exact ⟨x, ⟨hx, fun hin => h1 ⟨x, hin, rfl⟩⟩, rfl⟩
  · rintro ⟨x, ⟨hxn, hxk⟩, rfl⟩
    exact ⟨c.pos.f_lt x hxn, fun ⟨x', hx', e⟩ => hxk (c.pos.f_inj e ▸ hx'),
      fun ⟨k, hk, e⟩ => c.pos.f_not_new x k hk e⟩

/-- the ancillas of the result in the order of the composed optic: the parent's in the order `anc`,
where `parMap` puts them, then the sub-circuit's heralded modes in declaration order, where the
insertions `ts` and the shift to `mode` put them -/
def ancAdd (sub : Circ K) (mode : Nat) (ts anc : List Nat) : List Nat :=
  anc.map (parMap sub mode ts) ++ sub.inHer.keys.map fun k => mode + bumps ts k

theorem ancAdd_length (sub : Circ K) (mode : Nat) (ts anc : List Nat) :
    (ancAdd sub mode ts anc).length = anc.length + sub.inHer.length := by
  rw [ancAdd, List.length_append, List.length_map, List.length_map, keys_length]

theorem Ctx.perm_ancAdd (c : Ctx par sub res m g mode ts) (ha : anc.Perm par.internal) :
    (ancAdd sub mode ts anc).Perm res.internal := by
  rw [c.d.internal]
  refine (ha.map _).append ?_
  exact (List.map_map (g := (mode + ·)) (f := bumps ts)).symm ▸ ((perm_sortNat _).map _).symm

theorem Ctx.arr_add_eq (c : Ctx par sub res m g mode ts) (R : Nat) :
    arr res (ancAdd sub mode ts anc) R
      = sel ((par.portModes ++ anc).map (parMap sub mode ts)
          ++ sub.inHer.keys.map fun k => mode + bumps ts k) (par.n + sub.inHer.length) R := by
  rw [arr, c.res_portModes, ancAdd, ← List.append_assoc, ← List.map_append, c.d.n_eq]

theorem Ctx.arr_add_low (c : Ctx par sub res m g mode ts) (ha : anc.Perm par.internal) {R : Nat}
    (h : R < par.n) :
    arr res (ancAdd sub mode ts anc) R = parMap sub mode ts (arr par anc R) := by
  have h' : R < (par.portModes ++ anc).length := by rwa [perm_range_length (perm_ports c.wf ha)]
  rw [c.arr_add_eq, sel_append, List.length_map, if_pos h', arr, sel, if_pos h',
    List.getD_eq_getElem _ _ (by rwa [List.length_map]), List.getD_eq_getElem _ _ h', List.getElem_map]

theorem Ctx.arr_add_new (c : Ctx par sub res m g mode ts) (ha : anc.Perm par.internal) {k : Nat}
    (h : k < sub.inHer.length) :
    arr res (ancAdd sub mode ts anc) (par.n + k) = mode + bumps ts (sub.inHer.keys.getD k 0) := by
  have hn := perm_range_length (perm_ports c.wf ha)
  have hk : k < sub.inHer.keys.length := by rwa [keys_length]
  rw [c.arr_add_eq, sel_append, List.length_map, hn, if_neg (by omega), List.length_map,
    if_pos (by omega), Nat.add_sub_cancel_left, List.getD_eq_getElem _ _ (by rwa [List.length_map]),
    List.getElem_map, List.getD_eq_getElem _ _ hk]

end

end LW.Proofs.C02Sem
