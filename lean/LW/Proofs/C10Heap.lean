/-
  LW.Proofs.C10Heap — naturality lifted to the pool of live circuits: one call, and every history
  of calls (construction, copies, `unpack_groups`, and the two rewrites), commutes with mapping the
  scalars.
-/
import LW.Proofs.C10Rewrite

namespace LW

variable {K K' : Type}

def Heap.mapK (f : K → K') (h : Heap K) : Heap K' := h.map fun x => (x.1, x.2.map f)

theorem Heap.get?_mapK (f : K → K') (h : Heap K) (k : String) :
    Heap.get? (Heap.mapK f h) k = (Heap.get? h k).map (Circ.map f) :=
  Assoc.find_map_vals (Circ.map f) h k

theorem Heap.get?_mapK_map {β γ : Type} (f : K → K') (h : Heap K) (k : String) (g : Circ K' → γ)
    (g' : Circ K → β) (φ : β → γ) (hg : ∀ c, g (c.map f) = φ (g' c)) :
    ((Heap.mapK f h).get? k).map g = ((h.get? k).map g').map φ := by
  rw [Heap.get?_mapK]
  cases h.get? k with
  | none => rfl
  | some c => exact congrArg some (hg c)

theorem Heap.set_mapK (f : K → K') (h : Heap K) (k : String) (c : Circ K) :
    Heap.mapK f (Heap.set h k c) = Heap.set (Heap.mapK f h) k (c.map f) :=
  Assoc.put_map_vals (Circ.map f) h k c

theorem CircOp.target_map (f : K → K') (op : CircOp K) : (op.map f).target = op.target := by
  cases op <;> rfl

section
variable [Zero K] [One K] [Zero K'] [One K'] {f : K → K'}

theorem CircOp.eval_map (hf : Fix01 f) (h : Heap K) (op : CircOp K) :
    (op.map f).eval (Heap.mapK f h) = (op.eval h).map (Except.map (Circ.map f)) := by
  cases op with
  | new id n => rfl
  | unitary id u => rfl
  | bs id m1 m2 cs cv l rv lv =>
    exact Heap.get?_mapK_map f h id _ _ _ fun c => Circ.map_bs f c m1 m2 cs cv l rv lv
  | ps id m p l lv => exact Heap.get?_mapK_map f h id _ _ _ fun c => Circ.map_ps f c m p l lv
  | loss id m ab lv => exact Heap.get?_mapK_map f h id _ _ _ fun c => Circ.map_loss f c m ab lv
  | barrier id ms => exact Heap.get?_mapK_map f h id _ _ _ fun c => Circ.map_barrier f c ms
  | swaps id sw => exact Heap.get?_mapK_map f h id _ _ _ fun c => Circ.map_modeSwaps f c sw
  | herald id n i o => exact Heap.get?_mapK_map f h id _ _ _ fun c => Circ.map_herald f c n i o
  | add id sub m g =>
    simp only [CircOp.map, CircOp.eval, Heap.get?_mapK]
    cases Heap.get? h id with
    | none => rfl
    | some c =>
      cases Heap.get? h sub with
      | none => rfl
      | some s => exact congrArg some (Circ.map_add hf c s m g)
  | plus dst a b =>
    simp only [CircOp.map, CircOp.eval, Heap.get?_mapK]
    cases Heap.get? h a with
    | none => rfl
    | some x =>
      cases Heap.get? h b with
      | none => rfl
      | some y => exact congrArg some (Circ.map_plus f x y)
  | copy dst src => exact Heap.get?_mapK_map f h src _ _ _ fun _ => rfl
  | unpack id =>
    exact Heap.get?_mapK_map f h id _ _ _ fun c => congrArg Except.ok (Circ.map_unpackGroups f c)
  | compress id =>
    exact Heap.get?_mapK_map f h id _ _ _ fun c => congrArg Except.ok (Circ.map_compress f c)
  | nonadj id =>
    exact Heap.get?_mapK_map f h id _ _ _ fun c => congrArg Except.ok (Circ.map_removeNonAdj f c)

theorem heapStep_mapK (hf : Fix01 f) (h : Heap K) (op : CircOp K) :
    heapStep (Heap.mapK f h) (op.map f) = (heapStep h op).map fun p => (Heap.mapK f p.1, p.2) := by
  unfold heapStep
  rw [CircOp.eval_map hf h op, CircOp.target_map]
  cases op.eval h with
  | none => rfl
  | some r =>
    cases r with
    | error e => rfl
    | ok c => simp only [Option.map_some, Except.map, Heap.set_mapK]

theorem heapRun_mapK (hf : Fix01 f) (ops : List (CircOp K)) (h : Heap K) :
    heapRun (Heap.mapK f h) (ops.map (CircOp.map f)) =
      (heapRun h ops).map fun p => (Heap.mapK f p.1, p.2) :=
  heapRun_isRun.map heapRun_isRun (Heap.mapK f) (CircOp.map f) (heapStep_mapK hf) h ops

end

end LW
