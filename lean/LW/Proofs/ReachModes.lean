/-
  LW.Proofs.ReachModes — well-formedness under the relabellings of modes: `SwapsOk` is closed under
  relabelling, inversion and `combineSwapDicts`; `Prim.Wf`, `Comp.Wf`, `Comp.GroupOk` are kept by
  `addEmptyMode` and `shift`, and bound the modes of a component.  The dotted names here are
  `LW.Proofs.Reach.SwapsOk.…`, `LW.Proofs.Reach.Prim.Wf.…` etc.: they are cited as `Prim.Wf.mono h`, not `h.mono`;
  `SwapsOk.inverse` here has the statement of SwapDict's `LW.SwapsOk.inverse`, whose name inside `LW.Proofs.Reach` has
  to be written in full.
-/
import LW.Proofs.SwapDict
import LW.Proofs.C02Modes
import LW.Proofs.GroupWf
import LW.Proofs.AddModeUnitary

namespace LW.Proofs.Reach

section
open LW LW.Proofs.C02

variable {K : Type} [CommRing K] [StarRing K]

theorem SwapsOk.combine {n : Nat} {σ τ : Dict} (hσ : SwapsOk n σ) (hτ : SwapsOk n τ) :
    SwapsOk n (combineSwapDicts σ τ) :=
  PermOk.swapsOk ((LW.SwapsOk.permOk hσ).combine (LW.SwapsOk.permOk hτ))

theorem SwapsOk.relabel {n N : Nat} {σ : Dict} (h : SwapsOk n σ) (f : Nat → Nat)
    (hf : ∀ a b, f a = f b → a = b) (hlt : ∀ k, k < n → f k < N) :
    SwapsOk N (Dict.ofPairs (σ.map fun p => (f p.1, f p.2))) := by
  rw [ofPairs_map_pair f hf, ofPairs_of_nodup h.nodup]
  refine ⟨?_, ?_, ?_⟩
  · rw [keys_map_pair]; exact nodup_map_of_inj hf h.nodup
  · rw [keys_map_pair, vals_map_pair]; exact h.perm.map f
  · intro k hk
    rw [keys_map_pair] at hk
    obtain ⟨a, ha, rfl⟩ := List.mem_map.mp hk
    exact hlt a (h.lt a ha)

theorem SwapsOk.inverse {n : Nat} {σ : Dict} (h : SwapsOk n σ) :
    SwapsOk n (Dict.ofPairs (σ.map fun p => (p.2, p.1))) :=
  LW.SwapsOk.inverse h

theorem Prim.Wf.mono {n N : Nat} {p : Prim K} (h : p.Wf n) (hN : n ≤ N) : p.Wf N := by
  cases p with
  | bs m1 m2 c s cv =>
    obtain ⟨h1, h2, h3⟩ := h
    exact ⟨by omega, by omega, h3⟩
  | ps m q => exact ⟨by have := h.1; omega, h.2⟩
  | loss m a b => exact ⟨by have := h.1; omega, h.2⟩
  | barrier ms => intro m hm; have := h m hm; omega
  | swaps σ => exact SwapsOk.mono h hN
  | unitary m u => exact ⟨by have := h.1; omega, h.2⟩

theorem Comp.Wf.mono {n N : Nat} {c : Comp K} (h : c.Wf n) (hN : n ≤ N) : c.Wf N := by
  cases c with
  | prim p => exact Prim.Wf.mono (p := p) h hN
  | group cs m1 m2 hin hout => exact fun p hp => Prim.Wf.mono (h p hp) hN

theorem Prim.Wf.modes_lt {n : Nat} {p : Prim K} (h : p.Wf n) : ∀ m ∈ p.modes, m < n := by
  intro m hm
  cases p with
  | bs m1 m2 c s cv =>
    simp only [Prim.modes, List.mem_cons, List.not_mem_nil, or_false] at hm
    rcases hm with rfl | rfl
    · exact h.1
    · exact h.2.1
  | ps m0 q => exact List.mem_singleton.mp hm ▸ h.1
  | loss m0 a b => exact List.mem_singleton.mp hm ▸ h.1
  | barrier ms => exact h m hm
  | swaps σ =>
    rcases List.mem_append.mp hm with hm | hm
    · exact h.2.2 m hm
    · exact SwapsOk.vals_lt h m hm
  | unitary m0 u =>
    obtain ⟨r, hr, rfl⟩ := List.mem_map.mp hm
    have := h.1
    have := List.mem_range.mp hr
    omega

theorem Comp.Wf.modes_lt {n : Nat} {c : Comp K} (h : c.Wf n) : ∀ m ∈ c.modes, m < n := by
  cases c with
  | prim p => exact Prim.Wf.modes_lt (p := p) h
  | group cs m1 m2 hin hout =>
    intro m hm
    simp only [Comp.modes, List.mem_flatMap] at hm
    obtain ⟨p, hp, hm⟩ := hm
    exact Prim.Wf.modes_lt (h p hp) m hm

end

section
-- the `GroupOk` lemmas use the ring only through `addEmptyMode` and take `[StarRing K]` along unused
set_option linter.unusedSectionVars false

open LW LW.Proofs.C02

variable {K : Type} [CommRing K] [StarRing K]

theorem Prim.Wf.addEmptyMode {n : Nat} {p : Prim K} (h : p.Wf n) (t : Nat) :
    (p.addEmptyMode t).Wf (n + 1) := by
  cases p with
  | bs m1 m2 c s cv =>
    obtain ⟨h1, h2, h3, h4⟩ := h
    exact ⟨bump_lt_succ h1, bump_lt_succ h2, fun e => h3 (bump_inj e), h4⟩
  | ps m q => exact ⟨bump_lt_succ h.1, h.2⟩
  | loss m a b => exact ⟨bump_lt_succ h.1, h.2⟩
  | barrier ms =>
    intro m hm
    simp only [List.mem_map] at hm
    obtain ⟨a, ha, rfl⟩ := hm
    exact bump_lt_succ (h a ha)
  | swaps σ =>
    exact SwapsOk.relabel h (bump t) (fun a b => bump_inj) (fun k hk => bump_lt_succ hk)
  | unitary m u =>
    obtain ⟨h1, h2⟩ := h
    simp only [Prim.addEmptyMode]
    split
    · rename_i hc
      have hb : bump t m = m := bump_of_lt (Nat.lt_of_le_of_lt (le_bump t m) hc.1)
      rw [hb] at hc ⊢
      refine ⟨?_, isUnitary_addModeToUnitary u (t - m) (by omega) h2⟩
      show m + (u.n + 1) ≤ n + 1
      omega
    · refine ⟨?_, h2⟩
      have := bump_le_succ t m
      show bump t m + u.n ≤ n + 1
      omega

theorem Prim.modes_addEmptyMode_range (t a b : Nat) (p : Prim K)
    (h : ∀ m ∈ p.modes, a ≤ m ∧ m ≤ b) :
    ∀ m ∈ (p.addEmptyMode t).modes, bump t a ≤ m ∧ m ≤ bump t b := by
  intro m hm
  rcases Prim.mem_modes_addEmptyMode t p m hm with ⟨m0, h0, rfl⟩ | ⟨rfl, x, hx, y, hy, h1, h2⟩
  · exact ⟨bump_mono (h m0 h0).1, bump_mono (h m0 h0).2⟩
  · have := (h x hx).1; have := (h y hy).2
    rw [bump_of_lt (by omega), bump_of_ge (by omega)]; omega

theorem Comp.Wf.addEmptyMode {n : Nat} {c : Comp K} (h : c.Wf n) (t : Nat) :
    (c.addEmptyMode t).Wf (n + 1) := by
  cases c with
  | prim p => exact Prim.Wf.addEmptyMode (p := p) h t
  | group cs m1 m2 hin hout =>
    intro p hp
    simp only [List.mem_map] at hp
    obtain ⟨p0, hp0, rfl⟩ := hp
    exact Prim.Wf.addEmptyMode (h p0 hp0) t

theorem Comp.GroupOk.addEmptyMode {c : Comp K} (h : c.GroupOk) (t : Nat) :
    (c.addEmptyMode t).GroupOk := by
  cases c with
  | prim p => trivial
  | group cs m1 m2 hin hout =>
    intro p hp
    simp only [List.mem_map] at hp
    obtain ⟨p0, hp0, rfl⟩ := hp
    exact Prim.modes_addEmptyMode_range t m1 m2 p0 (h p0 hp0)

theorem SpecWf.addEmptyMode {n : Nat} {spec : List (Comp K)} (h : SpecWf n spec) (t : Nat) :
    SpecWf (n + 1) (Circ.addEmptyModeSpec spec t) := by
  intro c hc
  simp only [Circ.addEmptyModeSpec, List.mem_map] at hc
  obtain ⟨c0, hc0, rfl⟩ := hc
  exact Comp.Wf.addEmptyMode (h c0 hc0) t

theorem SpecGroupOk.addEmptyMode {spec : List (Comp K)} (h : SpecGroupOk spec) (t : Nat) :
    SpecGroupOk (Circ.addEmptyModeSpec spec t) := by
  intro c hc
  simp only [Circ.addEmptyModeSpec, List.mem_map] at hc
  obtain ⟨c0, hc0, rfl⟩ := hc
  exact Comp.GroupOk.addEmptyMode (h c0 hc0) t

theorem Prim.Wf.shift {n : Nat} {p : Prim K} (h : p.Wf n) (k : Nat) : (p.shift k).Wf (n + k) := by
  cases p with
  | bs m1 m2 c s cv =>
    obtain ⟨h1, h2, h3, h4⟩ := h
    exact ⟨by omega, by omega, by omega, h4⟩
  | ps m q => exact ⟨by have := h.1; omega, h.2⟩
  | loss m a b => exact ⟨by have := h.1; omega, h.2⟩
  | barrier ms =>
    intro m hm
    simp only [List.mem_map] at hm
    obtain ⟨a, ha, rfl⟩ := hm
    have := h a ha; omega
  | swaps σ =>
    exact SwapsOk.relabel h (· + k) (fun a b e => by simpa using e) (fun x hx => by simp; omega)
  | unitary m u =>
    refine ⟨?_, h.2⟩
    have := h.1
    show m + k + u.n ≤ n + k
    omega

theorem Comp.Wf.shift {n : Nat} {c : Comp K} (h : c.Wf n) (k : Nat) : (c.shift k).Wf (n + k) := by
  cases c with
  | prim p => exact Prim.Wf.shift (p := p) h k
  | group cs m1 m2 hin hout =>
    intro p hp
    simp only [List.mem_map] at hp
    obtain ⟨p0, hp0, rfl⟩ := hp
    exact Prim.Wf.shift (h p0 hp0) k

theorem Comp.GroupOk.shift {c : Comp K} (h : c.GroupOk) (k : Nat) : (c.shift k).GroupOk := by
  cases c with
  | prim p => trivial
  | group cs m1 m2 hin hout =>
    intro p hp m hm
    simp only [List.mem_map] at hp
    obtain ⟨p0, hp0, rfl⟩ := hp
    obtain ⟨m0, hm0, rfl⟩ := Prim.mem_modes_shift k p0 m hm
    have := h p0 hp0 m0 hm0
    omega

end

end LW.Proofs.Reach
