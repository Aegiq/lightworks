/-
  LW.Proofs.C14Loop — the decomposition half: the nulling loop of `reck_decomposition`.  Every step
  multiplies by a unitary cell matrix from the right, so the loop telescopes; each step zeroes its
  entry and keeps those nulled before, a triangular unitary is diagonal, hence the settings the loop
  returns realise the matrix (`loop_realises`).
-/
import Mathlib.LinearAlgebra.Matrix.Block
import Mathlib.LinearAlgebra.UnitaryGroup
import LW.Proofs.C14Cell
import LW.Proofs.ListLemmas

open Matrix

namespace LW

/-- exactness of the float operations (DESIGN §3.1): what the real-analytic functions satisfy -/
structure Reck.NumOk {K : Type} [CommRing K] [StarRing K] (i : K) (N : Reck.Num K) : Prop where
  /-- the threshold `abs(u) < 1e-20`, idealised: only an exact zero counts as already nulled -/
  small_zero : ∀ z, N.small z = true → z = 0
  /-- `cos`, `sin`, `exp` of the computed angles -/
  trig_ok : ∀ u0 u1, N.small u0 = false → Reck.CellOk i (N.trig u0 u1)
  /-- `tan(θ/2) = |u1|/|u0|`, `φ = arg u0 - arg u1`, in polynomial form -/
  trig_nulls : ∀ u0 u1, N.small u0 = false →
    (N.trig u0 u1).c * u1 = star (N.trig u0 u1).p * (N.trig u0 u1).s * u0
  /-- `exp(i·angle z) = z` on the unit circle -/
  ang_unit : ∀ z, z * star z = 1 → N.ang z = z

end LW

namespace LW.Proofs.C14

open LW.Reck

variable {K : Type} [CommRing K] [StarRing K]

/-- the settings `decompLoop` chooses over the steps `l` from `U`, in loop order (`foldl_decompStep`) -/
def cellsGo (N : Num K) (i : K) : List (Nat × Nat) → M K → List (Cell K)
  | [], _ => []
  | aj :: rest, U =>
    let x := stepCell N i U aj.1 aj.2
    x :: cellsGo N i rest (nullStep i U aj.2 x)

/-- the matrix `decompLoop` leaves after the steps `l` from `U` (`foldl_decompStep`) -/
def finalGo (N : Num K) (i : K) : List (Nat × Nat) → M K → M K
  | [], U => U
  | aj :: rest, U => finalGo N i rest (nullStep i U aj.2 (stepCell N i U aj.1 aj.2))

theorem foldl_decompStep (N : Num K) (i : K) (l : List (Nat × Nat)) (U : M K)
    (pm : List (Key × Cell K)) :
    l.foldl (decompStep N i) ⟨U, pm⟩ =
      ⟨finalGo N i l U, pm ++ (l.zip (cellsGo N i l U)).map keyed⟩ := by
  induction l generalizing U pm with
  | nil => simp [finalGo, cellsGo]
  | cons aj rest ih =>
    rw [List.foldl_cons, show decompStep N i ⟨U, pm⟩ aj =
      ⟨nullStep i U aj.2 (stepCell N i U aj.1 aj.2),
        pm ++ [keyed (aj, stepCell N i U aj.1 aj.2)]⟩ from rfl, ih]
    simp [finalGo, cellsGo, List.append_assoc]

theorem finalGo_append (N : Num K) (i : K) (l1 l2 : List (Nat × Nat)) (U : M K) :
    finalGo N i (l1 ++ l2) U = finalGo N i l2 (finalGo N i l1 U) := by
  induction l1 generalizing U with
  | nil => rfl
  | cons aj rest ih => simp [finalGo, ih]

theorem finalGo_n (N : Num K) (i : K) (l : List (Nat × Nat)) (U : M K) :
    (finalGo N i l U).n = U.n := by
  induction l generalizing U with
  | nil => rfl
  | cons aj rest ih => exact (ih _).trans rfl

theorem cellsGo_length (N : Num K) (i : K) (l : List (Nat × Nat)) (U : M K) :
    (cellsGo N i l U).length = l.length := by
  induction l generalizing U with
  | nil => rfl
  | cons aj rest ih => simp [cellsGo, ih]

theorem toMatN_nullStep {n j : Nat} (i : K) (U : M K) (hU : U.n = n) (hj : j + 1 < n) (x : Cell K) :
    (nullStep i U j x).toMatN n =
      U.toMatN n * E2 ⟨j, by omega⟩ ⟨j + 1, hj⟩ (Tblk i x)ᴴ := by
  unfold nullStep
  rw [M.toMatN_mul _ _ hU, hU, M.toMatN_dagger (n := n) _ rfl, toMatN_bsMatrix hj,
    E2_conjTranspose]

theorem stepCell_ok {i : K} {N : Num K} (hN : NumOk i N) (U : M K) (a j : Nat) :
    CellOk i (stepCell N i U a j) := by
  unfold stepCell
  by_cases h : N.small (U.get (U.n - 1 - a) j) = true
  · simp only [h, if_true]
    exact ⟨by simp, by simp, by simp, by simp, by simp⟩
  · simp only [h]
    exact hN.trig_ok _ _ (by simpa using h)

theorem stepCell_nulls {i : K} {N : Num K} (hN : NumOk i N) (U : M K) (a j : Nat) :
    (stepCell N i U a j).c * U.get (U.n - 1 - a) (j + 1) =
      star (stepCell N i U a j).p * (stepCell N i U a j).s * U.get (U.n - 1 - a) j := by
  unfold stepCell
  by_cases h : N.small (U.get (U.n - 1 - a) j) = true
  · simp only [h, if_true]
    rw [hN.small_zero _ h]
    simp
  · simp only [h]
    exact hN.trig_nulls _ _ (by simpa using h)

/-- over any step list: the settings chosen are valid cells, and the loop telescopes (the matrix left,
times the cells in reverse order, is the matrix it started from) -/
theorem loop_run {n : Nat} {i : K} (hi : IsImagUnit i) {N : Num K} (hN : NumOk i N)
    (l : List (Nat × Nat)) (hl : ∀ aj ∈ l, aj.2 + 1 < n) (U : M K) (hU : U.n = n) :
    (∀ e ∈ l.zip (cellsGo N i l U), e.1.2 + 1 < n ∧ CellOk i e.2) ∧
    (finalGo N i l U).toMatN n * revProd (cellMat i n) (l.zip (cellsGo N i l U)) = U.toMatN n := by
  induction l generalizing U with
  | nil => simp [finalGo, cellsGo, revProd_nil]
  | cons aj rest ih =>
    have hj : aj.2 + 1 < n := hl aj List.mem_cons_self
    have hx := stepCell_ok hN U aj.1 aj.2
    obtain ⟨ih1, ih2⟩ := ih (fun a ha => hl a (List.mem_cons_of_mem _ ha))
      (nullStep i U aj.2 (stepCell N i U aj.1 aj.2)) hU
    simp only [finalGo, cellsGo, List.zip_cons_cons, revProd_cons, List.forall_mem_cons, cellMat]
    refine ⟨⟨⟨hj, hx⟩, ih1⟩, ?_⟩
    rw [← Matrix.mul_assoc, ih2, toMatN_nullStep i U hU hj, toMatN_bsMatrix hj, Matrix.mul_assoc,
      E2_mul (fin_ne_succ _ _), Tblk_unitary hi hx, E2_one, Matrix.mul_one]

/-- the entries below the diagonal that are nulled before step `(loc, j)`: all of the rows below
`loc`, and row `loc` left of column `j` -/
def NulledBefore {n : Nat} (X : Matrix (Fin n) (Fin n) K) (loc j : Nat) : Prop :=
  ∀ r c : Fin n, c.val < r.val → (loc < r.val ∨ (r.val = loc ∧ c.val < j)) → X r c = 0

/-- the column operation `Tblkᴴ` sends a pair `(a, b)` satisfying the nulling relation to `0` in
its first component -/
theorem null_entry {i : K} {x : Cell K} (hx : CellOk i x) {a b : K}
    (hnull : x.c * b = star x.p * x.s * a) :
    a * (Tblk i x)ᴴ 0 0 + b * (Tblk i x)ᴴ 1 0 = 0 := by
  simp only [Matrix.conjTranspose_apply, Tblk, Matrix.cons_val', Matrix.cons_val_zero,
    Matrix.cons_val_one, Matrix.empty_val', Matrix.cons_val_fin_one, Matrix.of_apply,
    star_neg, star_mul', hx.c_real, hx.s_real]
  linear_combination (star i * star x.w) * hnull

theorem null_step_zeroes_entry {n loc j : Nat} {i : K} (U : M K) (hU : U.n = n) (hloc : loc < n)
    (hj : j < loc) {x : Cell K} (hx : CellOk i x)
    (hnull : x.c * U.get loc (j + 1) = star x.p * x.s * U.get loc j) :
    (nullStep i U j x).get loc j = 0 := by
  have h1 := toMatN_nullStep i U hU (show j + 1 < n by omega) x
  have h2 := congrFun (congrFun h1 ⟨loc, hloc⟩) ⟨j, by omega⟩
  simp only [M.toMatN] at h2
  rw [h2, mul_E2_apply (fin_ne_succ _ _), if_pos rfl]
  exact null_entry hx hnull

theorem nulledBefore_step {n loc j : Nat} (hloc : loc < n) (hj : j < loc) {i : K} {x : Cell K}
    (hx : CellOk i x) (X : Matrix (Fin n) (Fin n) K) (hZ : NulledBefore X loc j)
    (hnull : x.c * X ⟨loc, hloc⟩ ⟨j + 1, by omega⟩ = star x.p * x.s * X ⟨loc, hloc⟩ ⟨j, by omega⟩) :
    NulledBefore (X * E2 ⟨j, by omega⟩ ⟨j + 1, by omega⟩ (Tblk i x)ᴴ) loc (j + 1) := by
  intro r c hcr hcond
  rw [mul_E2_apply (fin_ne_succ _ _)]
  -- column `j`: `null_entry` in row `loc`, `0·_ + 0·_` in the rows below; column `j + 1`: only rows below `loc`
  -- are asked for, again `0·_ + 0·_`; the other columns are untouched
  by_cases h1 : c = ⟨j, by omega⟩
  · rw [if_pos h1]
    rcases hcond with hlt | ⟨hr, _⟩
    · rw [hZ r ⟨j, by omega⟩ (by simp; omega) (Or.inl hlt),
        hZ r ⟨j + 1, by omega⟩ (by simp; omega) (Or.inl hlt)]
      simp
    · have hr' : r = ⟨loc, hloc⟩ := Fin.ext hr
      subst hr'
      exact null_entry hx hnull
  · rw [if_neg h1]
    by_cases h2 : c = ⟨j + 1, by omega⟩
    · rw [if_pos h2]
      rcases hcond with hlt | ⟨hr, hc⟩
      · rw [hZ r ⟨j, by omega⟩ (by simp; omega) (Or.inl hlt),
          hZ r ⟨j + 1, by omega⟩ (by simp; omega) (Or.inl hlt)]
        simp
      · exfalso
        have := congrArg Fin.val h2
        simp at this
        omega
    · rw [if_neg h2]
      rcases hcond with hlt | ⟨hr, hc⟩
      · exact hZ r c hcr (Or.inl hlt)
      · refine hZ r c hcr (Or.inr ⟨hr, ?_⟩)
        have e1 : c.val ≠ j := fun e => h1 (Fin.ext e)
        omega

omit [StarRing K] in
theorem nulledBefore_row_done {n loc : Nat} (X : Matrix (Fin n) (Fin n) K) (hloc : 1 ≤ loc)
    (hZ : NulledBefore X loc loc) : NulledBefore X (loc - 1) 0 := by
  intro r c hcr hcond
  rcases hcond with hlt | ⟨_, hc⟩
  · by_cases e : r.val = loc
    · exact hZ r c hcr (Or.inr ⟨e, by omega⟩)
    · exact hZ r c hcr (Or.inl (by omega))
  · omega

theorem nulledBefore_inner {n : Nat} {i : K} {N : Num K} (hN : NumOk i N) (a : Nat)
    (m : Nat) (hm : m ≤ n - 1 - a) (ha : a < n) (U : M K) (hU : U.n = n)
    (hZ : NulledBefore (U.toMatN n) (n - 1 - a) 0) :
    NulledBefore ((finalGo N i ((List.range m).map fun j => (a, j)) U).toMatN n) (n - 1 - a) m := by
  induction m with
  | zero => simpa [finalGo] using hZ
  | succ m ih =>
    have ih := ih (by omega)
    rw [List.range_succ, List.map_append, finalGo_append]
    set cur := finalGo N i ((List.range m).map fun j => (a, j)) U with hcur
    have hn : cur.n = n := by rw [hcur, finalGo_n, hU]
    simp only [List.map_cons, List.map_nil, finalGo]
    rw [toMatN_nullStep i cur hn (by omega)]
    have hloc : n - 1 - a < n := by omega
    refine nulledBefore_step hloc (by omega) (stepCell_ok hN cur a m) _ ih ?_
    have := stepCell_nulls hN cur a m
    rw [hn] at this
    exact this

theorem nulledBefore_outer {n : Nat} {i : K} {N : Num K} (hN : NumOk i N)
    (t : Nat) (ht : t ≤ n - 1) (U : M K) (hU : U.n = n) :
    NulledBefore ((finalGo N i ((List.range t).flatMap (stepsRow n)) U).toMatN n) (n - 1 - t) 0 := by
  induction t with
  | zero =>
    intro r c _ hcond
    rcases hcond with hlt | ⟨_, hc⟩
    · have := r.2; omega
    · omega
  | succ t ih =>
    have ih := ih (by omega)
    rw [List.range_succ, List.flatMap_append, finalGo_append]
    set cur := finalGo N i ((List.range t).flatMap (stepsRow n)) U with hcur
    have hn : cur.n = n := by rw [hcur, finalGo_n, hU]
    simp only [List.flatMap_cons, List.flatMap_nil, List.append_nil, stepsRow]
    have h1 := nulledBefore_inner hN t (n - 1 - t) (le_refl _) (by omega) cur hn ih
    have h2 := nulledBefore_row_done _ (by omega) h1
    have e : n - 1 - t - 1 = n - 1 - (t + 1) := by omega
    rw [e] at h2
    exact h2

theorem mem_steps {n : Nat} {aj : Nat × Nat} (h : aj ∈ steps n) : aj.2 + 1 < n := by
  simp only [steps, stepsRow, List.mem_flatMap, List.mem_map, List.mem_range] at h
  obtain ⟨a, ha, j, hj, rfl⟩ := h
  simp only
  omega

theorem lower_zero {n : Nat} {i : K} {N : Num K} (hN : NumOk i N)
    (U : M K) (hU : U.n = n) (r c : Fin n) (hcr : c < r) :
    (finalGo N i (steps n) U).toMatN n r c = 0 := by
  have h := nulledBefore_outer hN (n - 1) (le_refl _) U hU
  refine h r c hcr (Or.inl ?_)
  have : c.val < r.val := hcr
  omega

theorem nulled_unitary_diagonal {n : Nat} (X : Matrix (Fin n) (Fin n) K)
    (hX : X ∈ Matrix.unitaryGroup (Fin n) K) (hlow : ∀ r c : Fin n, c < r → X r c = 0) :
    (∀ r c : Fin n, r ≠ c → X r c = 0) ∧ ∀ r, X r r * star (X r r) = 1 := by
  have h1 : star X * X = 1 := (Matrix.mem_unitaryGroup_iff').mp hX
  have h2 : X * star X = 1 := (Matrix.mem_unitaryGroup_iff).mp hX
  have hup : ∀ r c : Fin n, r < c → X r c = 0 := by
    let _ : Invertible X := invertibleOfLeftInverse _ _ h1
    have hinv : X⁻¹ = star X := Matrix.inv_eq_left_inv h1
    have hbt : Matrix.BlockTriangular X id := fun r c h => hlow r c h
    have hbi := Matrix.blockTriangular_inv_of_blockTriangular hbt
    rw [hinv] at hbi
    intro r c hrc
    have := hbi (show id r < id c from hrc)
    rw [Matrix.star_apply] at this
    exact star_eq_zero.mp this
  have hoff : ∀ r c : Fin n, r ≠ c → X r c = 0 := fun r c hne => by
    rcases lt_or_gt_of_ne hne with h | h
    · exact hup r c h
    · exact hlow r c h
  refine ⟨hoff, fun r => ?_⟩
  have := congrFun (congrFun h2 r) r
  rw [Matrix.mul_apply, Matrix.one_apply_eq, Finset.sum_eq_single r] at this
  · rwa [Matrix.star_apply] at this
  · intro k _ hk
    rw [hoff r k (Ne.symm hk)]
    simp
  · simp

theorem loop_realises {n : Nat} {i : K} (hi : IsImagUnit i) {N : Num K} (hN : NumOk i N)
    (W : M K) (hW : W.n = n) (hWu : W.toMatN n ∈ Matrix.unitaryGroup (Fin n) K) :
    (∀ r k : Fin n, r ≠ k → (finalGo N i (steps n) W).toMatN n r k = 0) ∧
    Realises i n ((steps n).zip (cellsGo N i (steps n) W))
      ((List.range n).map fun k => N.ang ((finalGo N i (steps n) W).get k k)) (W.toMatN n) := by
  obtain ⟨hcs, h1⟩ := loop_run hi hN (steps n) (fun aj h => mem_steps h) W hW
  have hT := revProd_cellMat_unitary hi _ hcs
  set F := finalGo N i (steps n) W
  set T := revProd (cellMat i n) ((steps n).zip (cellsGo N i (steps n) W))
  -- `F = W · Tᴴ` is unitary, and triangular by `lower_zero`
  have hF : F.toMatN n = W.toMatN n * star T := by
    rw [← h1, Matrix.mul_assoc, (Matrix.mem_unitaryGroup_iff).mp hT, Matrix.mul_one]
  obtain ⟨h2, h3⟩ := nulled_unitary_diagonal (F.toMatN n)
    (hF ▸ mul_mem hWu (Unitary.star_mem hT)) (fun r c hcr => lower_zero hN W hW r c hcr)
  have hang : ∀ k (hk : k < n), ((List.range n).map fun k => N.ang (F.get k k)).getD k 1 =
      F.get k k :=
    fun k hk => (getD_map_range _ hk).trans (hN.ang_unit _ (h3 ⟨k, hk⟩))
  refine ⟨h2, hcs, fun k hk => ?_, ?_⟩
  · rw [hang k hk]
    exact h3 ⟨k, hk⟩
  · rw [toMatN_synth]
    refine Eq.trans (congrArg (· * T) ?_) h1
    ext r k
    rw [Matrix.diagonal_apply]
    by_cases hrk : r = k
    · subst hrk
      rw [if_pos rfl]
      exact hang r.val r.2
    · rw [if_neg hrk]
      exact (h2 r k hrk).symm

end LW.Proofs.C14
