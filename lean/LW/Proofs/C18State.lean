/-
  LW.Proofs.C18State — Python subscripts and slices on lists, and `State`: equality, `+`, merge,
  injectivity of `str`, immutability through the API.
-/
import Mathlib.Data.List.Basic
import Mathlib.Algebra.BigOperators.Group.List.Basic
import LW.Model.StateVal
import LW.Proofs.ExceptLemmas
import LW.Proofs.ListLemmas

namespace LW.SV

theorem pyIndex_eq_some_iff {n k : Nat} {i : Int} :
    pyIndex n i = some k ↔ k < n ∧ ((k : Int) = i ∨ (k : Int) = i + n) := by
  unfold pyIndex
  split
  · split
    · rw [Option.some.injEq]; omega
    · exact ⟨fun h => (nomatch h), by omega⟩
  · split
    · rw [Option.some.injEq]; omega
    · exact ⟨fun h => (nomatch h), by omega⟩

theorem pyIndex_nonneg {n : Nat} {i : Int} (h0 : 0 ≤ i) (h1 : i < n) : pyIndex n i = some i.toNat := by
  rw [pyIndex, if_pos h0, if_pos h1]

theorem pyIndex_neg {n : Nat} {i : Int} (h0 : i < 0) (h1 : -(n : Int) ≤ i) :
    pyIndex n i = some (i + n).toNat := by
  rw [pyIndex, if_neg (Int.not_le.mpr h0), if_pos (by omega)]

theorem pyIndex_none {n : Nat} {i : Int} (h : (n : Int) ≤ i ∨ i < -(n : Int)) : pyIndex n i = none :=
  Option.eq_none_iff_forall_ne_some.mpr fun k hk => by
    have := pyIndex_eq_some_iff.mp hk
    omega

theorem pyIndex_lt {n k : Nat} {i : Int} (h : pyIndex n i = some k) : k < n :=
  (pyIndex_eq_some_iff.mp h).1

theorem getItem_ok_of_pyIndex {α : Type} {l : List α} {i : Int} {k : Nat} (h : pyIndex l.length i = some k) :
    getItem l i = .ok (l[k]'(pyIndex_lt h)) := by
  simp only [getItem, h, List.getElem?_eq_getElem (pyIndex_lt h)]

theorem getItem_nonneg {α : Type} (l : List α) (i : Nat) (h : i < l.length) :
    getItem l (i : Int) = .ok l[i] :=
  getItem_ok_of_pyIndex (pyIndex_nonneg (Int.natCast_nonneg i) (Int.ofNat_lt.mpr h))

theorem getItem_neg {α : Type} (l : List α) (j : Nat) (h1 : 1 ≤ j) (h2 : j ≤ l.length) :
    getItem l (-(j : Int)) = .ok (l[l.length - j]'(by omega)) :=
  getItem_ok_of_pyIndex (pyIndex_eq_some_iff.mpr (by omega))

/-- outside `[-len, len)` the subscript is refused (IndexError) -/
theorem getItem_out_of_range {α : Type} (l : List α) (i : Int)
    (h : (l.length : Int) ≤ i ∨ i < -(l.length : Int)) : getItem l i = .error .other := by
  rw [getItem, pyIndex_none h]

theorem getItem_ok_iff {α : Type} (l : List α) (i : Int) :
    (∃ x, getItem l i = .ok x) ↔ -(l.length : Int) ≤ i ∧ i < l.length := by
  constructor
  · rintro ⟨x, hx⟩
    by_contra hc
    rw [getItem_out_of_range l i (by omega)] at hx
    cases hx
  · intro h
    by_cases h0 : 0 ≤ i
    · exact ⟨_, getItem_ok_of_pyIndex (pyIndex_nonneg h0 h.2)⟩
    · exact ⟨_, getItem_ok_of_pyIndex (pyIndex_neg (by omega) h.1)⟩

theorem getItem_map {α β : Type} (f : α → β) (l : List α) (i : Int) :
    getItem (l.map f) i = (getItem l i).map f := by
  rw [getItem, getItem, List.length_map]
  cases pyIndex l.length i with
  | none => rfl
  | some k =>
    simp only [List.getElem?_map]
    cases l[k]? <;> rfl

/-- both signs of `step` at once: the clamped bound stays in `[lo, lo + n]`, where `lo` is `-1` for
a negative step and `0` otherwise -/
theorem adjust_bounds (n : Nat) (step : Int) (x : Option Int) (d : Int)
    (hd : (if step < 0 then -1 else 0) ≤ d ∧ d ≤ (if step < 0 then -1 else 0) + (n : Int)) :
    (if step < 0 then -1 else 0) ≤ adjust n step x d ∧
      adjust n step x d ≤ (if step < 0 then -1 else 0) + (n : Int) := by
  cases x with
  | none => exact hd
  | some v =>
    unfold adjust
    dsimp only
    generalize (if v < 0 then v + (n : Int) else v) = w
    split <;> omega

/-- the adjusted bounds and the number of selected positions, as functions -/
def sStart (n : Nat) (sl : Slice) : Int :=
  adjust n (sl.step.getD 1) sl.start (if sl.step.getD 1 < 0 then (n : Int) - 1 else 0)
def sStop (n : Nat) (sl : Slice) : Int :=
  adjust n (sl.step.getD 1) sl.stop (if sl.step.getD 1 < 0 then -1 else (n : Int))
def sCnt (n : Nat) (sl : Slice) : Nat :=
  (if sl.step.getD 1 < 0 then
      (if sStop n sl < sStart n sl then (sStart n sl - sStop n sl - 1) / (-(sl.step.getD 1)) + 1 else 0)
    else (if sStart n sl < sStop n sl then (sStop n sl - sStart n sl - 1) / (sl.step.getD 1) + 1 else 0) : Int).toNat

theorem sliceIdx_eq (n : Nat) (sl : Slice) : sliceIdx n sl =
    if sl.step.getD 1 = 0 then .error .value
    else .ok ((List.range (sCnt n sl)).map fun (k : Nat) => sStart n sl + (k : Int) * sl.step.getD 1) := by
  by_cases h : sl.step.getD 1 = 0
  · simp [sliceIdx, sliceParams, h, bind, Except.bind]
  · simp only [sliceIdx, sliceParams, sCnt, sStart, sStop, h, bind, Except.bind, pure, Except.pure, if_false]
    rfl

theorem sliceList_eq_map {α : Type} [Inhabited α] (l : List α) (sl : Slice) :
    sliceList l sl = (sliceIdx l.length sl).map fun idx => idx.map fun i => l.getD i.toNat default := by
  rw [sliceList]
  cases sliceIdx l.length sl <;> rfl

theorem sliceList_eq {α : Type} [Inhabited α] (l : List α) (sl : Slice) (h : sl.step.getD 1 ≠ 0) :
    sliceList l sl = .ok ((List.range (sCnt l.length sl)).map fun (k : Nat) =>
      l.getD (sStart l.length sl + (k : Int) * sl.step.getD 1).toNat default) := by
  rw [sliceList_eq_map, sliceIdx_eq, if_neg h]
  exact congrArg Except.ok (List.map_map ..)

theorem step_getD_eq_zero_iff (sl : Slice) : sl.step.getD 1 = 0 ↔ sl.step = some 0 := by
  cases sl.step <;> simp

theorem sliceIdx_step_zero (n : Nat) (sl : Slice) (h : sl.step = some 0) : sliceIdx n sl = .error .value := by
  rw [sliceIdx_eq, if_pos ((step_getD_eq_zero_iff sl).mpr h)]

/-- a slice is refused exactly for `step = 0` (ValueError) -/
theorem sliceIdx_error_iff (n : Nat) (sl : Slice) :
    (∃ e, sliceIdx n sl = .error e) ↔ sl.step = some 0 := by
  rw [sliceIdx_eq, ← step_getD_eq_zero_iff]
  split
  · exact ⟨fun _ => ‹_›, fun _ => ⟨_, rfl⟩⟩
  · exact ⟨fun ⟨_, h⟩ => (nomatch h), fun h => absurd h ‹_›⟩

theorem sliceList_error_iff {α : Type} [Inhabited α] (l : List α) (sl : Slice) :
    (∃ e, sliceList l sl = .error e) ↔ sl.step = some 0 := by
  rw [sliceList_eq_map, Except.map_error_iff, sliceIdx_error_iff]

/-- the `k`-th term of the progression `s, s + d, …` counted by `(e - s - 1) / d + 1` stays below `e` -/
theorem prog_lt {s e d : Int} {k : Nat} (hd : 0 < d) (hk : (k : Int) < (e - s - 1) / d + 1) :
    s ≤ s + k * d ∧ s + k * d < e := by
  have hmul : (k : Int) * d ≤ e - s - 1 := (Int.le_ediv_iff_mul_le hd).mp (by omega)
  have hk0 : 0 ≤ (k : Int) * d := Int.mul_nonneg (by omega) (by omega)
  omega

/-- the mirror image: for a negative step the progression runs down from `s` and stays above `e` -/
theorem prog_gt {s e d : Int} {k : Nat} (hd : d < 0) (hk : (k : Int) < (s - e - 1) / (-d) + 1) :
    e < s + k * d ∧ s + k * d ≤ s := by
  have := prog_lt (s := -s) (e := -e) (d := -d) (k := k) (Int.neg_pos.mpr hd)
    (by rwa [show -e - -s - 1 = s - e - 1 by omega])
  rw [Int.mul_neg] at this
  omega

theorem sliceIdx_valid (n : Nat) (sl : Slice) (idx : List Int) (h : sliceIdx n sl = .ok idx) :
    ∀ i ∈ idx, 0 ≤ i ∧ i < n := by
  rw [sliceIdx_eq] at h
  split at h
  · cases h
  · cases h
    intro i hi
    obtain ⟨k, hk, rfl⟩ := List.mem_map.mp hi
    rw [List.mem_range, sCnt] at hk
    have hb1 : (if sl.step.getD 1 < 0 then -1 else 0) ≤ sStart n sl ∧
        sStart n sl ≤ (if sl.step.getD 1 < 0 then -1 else 0) + (n : Int) :=
      adjust_bounds n _ sl.start _ (by split <;> omega)
    have hb2 : (if sl.step.getD 1 < 0 then -1 else 0) ≤ sStop n sl ∧
        sStop n sl ≤ (if sl.step.getD 1 < 0 then -1 else 0) + (n : Int) :=
      adjust_bounds n _ sl.stop _ (by split <;> omega)
    generalize sStart n sl = start at *
    generalize sStop n sl = stop at *
    generalize sl.step.getD 1 = step at *
    by_cases hneg : step < 0
    · rw [if_pos hneg] at hk hb1 hb2
      split at hk
      · have := prog_gt hneg (Int.lt_toNat.mp hk)
        omega
      · exact absurd hk (Nat.not_lt_zero _)
    · rw [if_neg hneg] at hk hb1 hb2
      split at hk
      · have := prog_lt (by omega) (Int.lt_toNat.mp hk)
        omega
      · exact absurd hk (Nat.not_lt_zero _)

theorem sliceList_spec {α : Type} [Inhabited α] (l : List α) (sl : Slice) (r : List α)
    (h : sliceList l sl = .ok r) :
    ∃ idx, sliceIdx l.length sl = .ok idx ∧ r.length = idx.length ∧
      ∀ k (hk : k < idx.length), ∃ (hv : (idx[k]).toNat < l.length), 0 ≤ idx[k] ∧ r[k]? = some l[(idx[k]).toNat] := by
  obtain ⟨idx, hidx, rfl⟩ := Except.map_eq_ok.mp ((sliceList_eq_map l sl).symm.trans h)
  refine ⟨idx, hidx, List.length_map _, fun k hk => ?_⟩
  have hv := sliceIdx_valid l.length sl idx hidx idx[k] (List.getElem_mem hk)
  have hlt : (idx[k]).toNat < l.length := by omega
  refine ⟨hlt, hv.1, ?_⟩
  rw [List.getElem?_map, List.getElem?_eq_getElem hk, Option.map_some, List.getElem_eq_getD (h := hlt) default]

theorem sliceList_map {α β : Type} [Inhabited α] [Inhabited β] (f : α → β) (hf : f default = default)
    (l : List α) (sl : Slice) : sliceList (l.map f) sl = (sliceList l sl).map (List.map f) := by
  rw [sliceList_eq_map, sliceList_eq_map, List.length_map]
  cases sliceIdx l.length sl with
  | error e => rfl
  | ok idx =>
    refine congrArg Except.ok ((List.map_congr_left fun i _ => ?_).trans (List.map_map ..).symm)
    simp only [Function.comp, List.getD_eq_getElem?_getD, List.getElem?_map]
    cases l[i.toNat]? <;> simp [hf]

theorem range_map_eq {α : Type} (g : Nat → α) (l : List α) (n : Nat) (hn : l.length = n)
    (h : ∀ k (hk : k < l.length), g k = l[k]) : (List.range n).map g = l := by
  refine List.ext_getElem (by rw [List.length_map, List.length_range, hn]) fun i h1 h2 => ?_
  rw [List.getElem_map, List.getElem_range]
  exact h i h2

theorem range_map_getD_block {α : Type} (l : List α) (d : α) (s c : Nat) (h : s + c ≤ l.length) :
    ((List.range c).map fun k => l.getD (s + k) d) = (l.drop s).take c := by
  have hlen : ((l.drop s).take c).length = c := by
    rw [List.length_take, List.length_drop]; omega
  refine range_map_eq _ _ _ hlen fun k hk => ?_
  rw [hlen] at hk
  rw [List.getElem_take, List.getElem_drop, List.getElem_eq_getD d]

theorem sliceList_step_one {α : Type} [Inhabited α] (l : List α) (a b : Option Int) (st : Option Int)
    (hst : st = none ∨ st = some 1) :
    sliceList l ⟨a, b, st⟩ =
      .ok ((l.take (adjust l.length 1 b l.length).toNat).drop (adjust l.length 1 a 0).toNat) := by
  have hstep : (Slice.mk a b st).step.getD 1 = 1 := by
    rcases hst with rfl | rfl <;> rfl
  have hb1 := adjust_bounds l.length 1 a 0 (by simp)
  obtain ⟨s, hs⟩ := Int.eq_ofNat_of_zero_le hb1.1
  have hb1 : (s : Int) ≤ l.length := by simpa [hs] using hb1.2
  have hb2 : adjust l.length 1 b l.length ≤ l.length := by
    simpa using (adjust_bounds l.length 1 b l.length (by simp)).2
  have hcnt : ∀ e : Int, (if (s : Int) < e then e - s - 1 + 1 else 0 : Int).toNat = (e - s).toNat := by
    intro e; split <;> omega
  rw [sliceList_eq l _ (by rw [hstep]; decide)]
  simp only [sCnt, sStart, sStop, hstep, show ¬ ((1 : Int) < 0) by decide, if_false, Int.mul_one,
    Int.ediv_one, hs, hcnt, Int.toNat_natCast, ← Int.natCast_add]
  rw [range_map_getD_block l default s _ (by omega), List.drop_take, Int.toNat_sub']

theorem slice_split {α : Type} [Inhabited α] (l : List α) (k : Int) :
    ∃ p q, sliceList l ⟨none, some k, none⟩ = .ok p ∧ sliceList l ⟨some k, none, none⟩ = .ok q ∧
      p ++ q = l := by
  refine ⟨_, _, sliceList_step_one l none (some k) none (Or.inl rfl),
    sliceList_step_one l (some k) none none (Or.inl rfl), ?_⟩
  show (l.take _).drop 0 ++ (l.take l.length).drop _ = l
  rw [List.drop_zero, List.take_length]
  exact List.take_append_drop _ l

theorem slice_full {α : Type} [Inhabited α] (l : List α) : sliceList l ⟨none, none, none⟩ = .ok l := by
  rw [sliceList_step_one l none none none (Or.inl rfl)]
  exact congrArg Except.ok (List.take_length (l := l))

theorem slice_reverse {α : Type} [Inhabited α] (l : List α) :
    sliceList l ⟨none, none, some (-1)⟩ = .ok l.reverse := by
  have hneg : ((-1 : Int) < 0) = True := by decide
  have hc : l.reverse.length = sCnt l.length ⟨none, none, some (-1)⟩ := by
    simp only [sCnt, sStart, sStop, adjust, Option.getD_some, hneg, if_true, Int.neg_neg, Int.ediv_one,
      List.length_reverse]
    split <;> omega
  rw [sliceList_eq l _ (by decide)]
  refine congrArg Except.ok (range_map_eq _ _ _ hc fun k hk => ?_)
  rw [List.length_reverse] at hk
  have hi : (sStart l.length ⟨none, none, some (-1)⟩ + (k : Int) * -1).toNat = l.length - 1 - k := by
    simp only [sStart, adjust, Option.getD_some, hneg, if_true]
    omega
  rw [List.getElem_reverse, Option.getD_some, hi, List.getElem_eq_getD default]

namespace State

theorem eq_iff (a b : State) : a.eq b = true ↔ a = b := by
  cases a; cases b; simp [eq, getS]

theorem add_s (a b : State) : (a.add b).s = a.s ++ b.s := rfl

theorem nModes_add (a b : State) : (a.add b).nModes = a.nModes + b.nModes :=
  List.length_append

theorem nPhotons_add (a b : State) : (a.add b).nPhotons = a.nPhotons + b.nPhotons :=
  List.sum_append

theorem add_empty (a : State) : a.add ⟨[]⟩ = a ∧ (⟨[]⟩ : State).add a = a :=
  ⟨congrArg State.mk (List.append_nil a.s), rfl⟩

theorem merge_eq_ok_iff (a b c : State) :
    a.merge b = .ok c ↔ a.nModes = b.nModes ∧ c = ⟨List.zipWith (· + ·) a.s b.s⟩ :=
  Except.ite_error_eq_ok.trans (and_congr not_not ⟨fun h => (Except.ok.inj h).symm, fun h => h ▸ rfl⟩)

theorem merge_nModes (a b c : State) (h : a.merge b = .ok c) : c.nModes = a.nModes ∧ c.nModes = b.nModes := by
  obtain ⟨hn, rfl⟩ := (merge_eq_ok_iff a b c).mp h
  rw [nModes, List.length_zipWith, ← nModes, ← nModes, ← hn, Nat.min_self]
  exact ⟨rfl, rfl⟩

theorem slice_eq (a : State) (sl : Slice) : a.slice sl = (sliceList a.s sl).map State.mk := by
  rw [slice]
  cases sliceList a.s sl <;> rfl

theorem slice_eq_ok {a : State} {sl : Slice} {r : List Int} (h : sliceList a.s sl = .ok r) :
    a.slice sl = .ok ⟨r⟩ := by
  rw [slice_eq, h]
  rfl

end State

/-! ### `str(State)` determines the State

so the string-based hash separates States exactly as far as Python's string hash does -/

theorem toDigits_isDigit {n : Nat} {c : Char} (h : c ∈ Nat.toDigits 10 n) : c.isDigit = true :=
  Nat.isDigit_of_mem_toDigits (by decide) (by decide) h

theorem toDigits_injective {m n : Nat} (h : Nat.toDigits 10 m = Nat.toDigits 10 n) : m = n := by
  have h1 := Nat.ofDigitChars_ten_toDigits (n := m)
  rw [h, Nat.ofDigitChars_ten_toDigits] at h1
  exact h1.symm

theorem comma_not_mem_intChars (x : Int) : ',' ∉ intChars x := by
  unfold intChars
  intro h
  split at h
  · simp only [List.mem_cons] at h
    rcases h with h | h
    · exact absurd h (by decide)
    · exact absurd (toDigits_isDigit h) (by decide)
  · exact absurd (toDigits_isDigit h) (by decide)

theorem intChars_injective {x y : Int} (h : intChars x = intChars y) : x = y := by
  unfold intChars at h
  have key : ∀ n l, Nat.toDigits 10 n ≠ '-' :: l := by
    intro n l hh
    have : '-' ∈ Nat.toDigits 10 n := by rw [hh]; simp
    exact absurd (toDigits_isDigit this) (by decide)
  split at h <;> split at h
  · simp only [List.cons.injEq, true_and] at h
    have := toDigits_injective h
    omega
  · exact absurd h.symm (key _ _)
  · exact absurd h (key _ _)
  · have := toDigits_injective h
    omega

theorem append_sep_inj {c : Char} : ∀ (a b r r' : List Char), c ∉ a → c ∉ b →
    a ++ c :: r = b ++ c :: r' → a = b ∧ r = r'
  | [], [], _, _, _, _, h => ⟨rfl, (List.cons.inj h).2⟩
  | [], y :: b, _, _, _, hb, h => absurd (List.mem_cons.mpr (Or.inl (List.cons.inj h).1)) hb
  | x :: a, [], _, _, ha, _, h => absurd (List.mem_cons.mpr (Or.inl (List.cons.inj h).1.symm)) ha
  | x :: a, y :: b, r, r', ha, hb, h => by
    obtain ⟨hxy, ht⟩ := List.cons.inj h
    obtain ⟨e1, e2⟩ := append_sep_inj a b r r' (fun hh => ha (List.mem_cons_of_mem x hh))
      (fun hh => hb (List.mem_cons_of_mem y hh)) ht
    exact ⟨congrArg₂ List.cons hxy e1, e2⟩

def body (l : List Int) : List Char := l.flatMap fun x => intChars x ++ [',']

theorem body_cons (x : Int) (l : List Int) : body (x :: l) = intChars x ++ ',' :: body l := by
  simp [body]

theorem body_injective : ∀ (l l' : List Int), body l = body l' → l = l'
  | [], [], _ => rfl
  | [], y :: l', h => nomatch (List.nil_eq_append_iff.mp (h.trans (body_cons y l'))).2
  | x :: l, [], h => nomatch (List.nil_eq_append_iff.mp (h.symm.trans (body_cons x l))).2
  | x :: l, y :: l', h => by
    rw [body_cons, body_cons] at h
    have := append_sep_inj _ _ _ _ (comma_not_mem_intChars x) (comma_not_mem_intChars y) h
    rw [intChars_injective this.1, body_injective l l' this.2]

theorem body_nil_or_concat (l : List Int) : (l = [] ∧ body l = []) ∨ ∃ c, body l = c ++ [','] := by
  rcases List.eq_nil_or_concat l with h | ⟨l', x, h⟩
  · left; subst h; exact ⟨rfl, rfl⟩
  · right
    subst h
    refine ⟨body l' ++ intChars x, ?_⟩
    simp [body, List.flatMap_append]

/-- `state_to_string` is injective on integer occupation lists -/
theorem State.strChars_injective (a b : State) (h : a.strChars = b.strChars) : a = b := by
  unfold State.strChars at h
  rw [List.append_left_inj] at h
  change ('|' :: body a.s).dropLast = ('|' :: body b.s).dropLast at h
  have hd : ∀ c : List Char, ('|' :: (c ++ [','])).dropLast = '|' :: c := fun c =>
    List.dropLast_concat (l₁ := '|' :: c)
  have hab : body a.s = body b.s := by
    rcases body_nil_or_concat a.s with ⟨_, ha⟩ | ⟨c, ha⟩ <;>
      rcases body_nil_or_concat b.s with ⟨_, hb⟩ | ⟨c', hb⟩ <;> rw [ha, hb] at h ⊢
    · rw [hd] at h; cases h
    · rw [hd] at h; cases h
    · rw [hd, hd] at h
      rw [List.cons.inj h |>.2]
  have := body_injective _ _ hab
  cases a; cases b; simpa using this

/-! ### immutability through the API

whatever client code does with the values handed out by reads, the stored rows do not change (repaired
`__getitem__`); the pinned `AnnotatedState.__getitem__` hands out an internal row (finding F14) -/

section Alias

/-- every handle held by client code is a private copy -/
def AllFresh (w : World) : Prop := ∀ h ∈ w.handles, ∃ v, h = Handle.fresh v

def ClientOp.isGetRow : ClientOp → Bool
  | .getRow _ => true
  | _ => false

theorem allFresh_append {w : World} {hs : List Handle} (hw : AllFresh w)
    (h : ∀ x ∈ hs, ∃ v, x = Handle.fresh v) :
    AllFresh { w with handles := w.handles ++ hs } :=
  fun x hx => (List.mem_append.mp hx).elim (hw x) (h x)

/-- one client action keeps the rows and the invariant, provided the read that was used does not
alias (repaired code, or any action other than `obj[i]`) -/
theorem clientStep_frame (aliasing : Bool) (w : World) (hw : AllFresh w) (op : ClientOp)
    (hop : aliasing = false ∨ op.isGetRow = false) :
    (clientStep aliasing w op).rows = w.rows ∧ AllFresh (clientStep aliasing w op) := by
  cases op with
  | readS =>
    refine ⟨rfl, allFresh_append hw fun x hx => ?_⟩
    obtain ⟨v, _, rfl⟩ := List.mem_map.mp hx
    exact ⟨v, rfl⟩
  | getRow i =>
    obtain rfl : aliasing = false := hop.elim id fun h => nomatch h
    simp only [clientStep]
    cases pyIndex w.rows.length i with
    | none => exact ⟨rfl, hw⟩
    | some k =>
      exact ⟨rfl, allFresh_append hw fun x hx => ⟨_, List.mem_singleton.mp hx⟩⟩
  | setS | setNModes | setItem | slice _ => exact ⟨rfl, hw⟩
  | append h x =>
    simp only [clientStep]
    cases hh : w.handles[h]? with
    | none => exact ⟨rfl, hw⟩
    | some hd =>
      obtain ⟨v, rfl⟩ := hw hd (List.mem_of_getElem? hh)
      exact ⟨rfl, fun y hy => (List.mem_or_eq_of_mem_set hy).elim (hw y) fun e => ⟨_, e⟩⟩

theorem clientRun_frame (aliasing : Bool) (w : World) (hw : AllFresh w) (ops : List ClientOp)
    (hops : ∀ op ∈ ops, aliasing = false ∨ op.isGetRow = false) :
    (clientRun aliasing w ops).rows = w.rows ∧ AllFresh (clientRun aliasing w ops) :=
  List.foldlRecOn (motive := fun x => x.rows = w.rows ∧ AllFresh x) ops (clientStep aliasing)
    ⟨rfl, hw⟩ fun x hx op hop =>
      have h := clientStep_frame aliasing x hx.2 op (hops op hop)
      ⟨h.1.trans hx.1, h.2⟩

theorem F14_fixed_witness :
    (clientRun false ⟨[[0], [1]], []⟩ [.getRow 0, .append 0 5]).rows = [[0], [1]] := by
  decide

end Alias

end LW.SV
