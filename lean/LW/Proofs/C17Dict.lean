/-
  LW.Proofs.C17Dict — Python dictionaries keyed by State.  `PD.get?` is the lookup of
  LW.Proofs.AssocList; `PD.set` overwrites the first hit only, which on a duplicate-free dictionary is
  the write `Assoc.put` of the other pools, and every dictionary of the model is a run of
  assignments from the empty one (`foldl_set_eq_put`).  Key order, `dict(pairs)`.
-/
import Mathlib.Data.List.Basic
import Mathlib.Data.List.Nodup
import LW.Model.Result
import LW.Proofs.AssocList

namespace LW.Res

namespace PD
variable {β : Type}

theorem get?_nil (k : St) : PD.get? ([] : PD β) k = none := rfl

theorem keys_cons (p : St × β) (d : PD β) : keys (p :: d) = p.1 :: keys d := rfl

theorem keys_append (d d' : PD β) : keys (d ++ d') = keys d ++ keys d' := List.map_append

theorem get?_cons (k k' : St) (v : β) (d : PD β) :
    PD.get? ((k', v) :: d) k = if k = k' then some v else PD.get? d k := by
  simp only [get?, List.lookup_cons]
  by_cases h : k = k'
  · simp [h]
  · have : (k == k') = false := by simpa using h
    simp [this, h]

theorem get?_eq_find (d : PD β) (k : St) : d.get? k = (d.find? (·.1 == k)).map (·.2) := by
  induction d with
  | nil => rfl
  | cons p d ih =>
    rw [get?_cons (v := p.2), Assoc.find_cons, ← ih]
    exact if_congr eq_comm rfl rfl

theorem mem_keys_iff_get? (d : PD β) (k : St) : k ∈ d.keys ↔ (d.get? k).isSome := by
  rw [Option.isSome_iff_ne_none, Ne, get?_eq_find, Assoc.find_eq_none_iff, not_not]
  rfl

theorem get?_eq_none_of_not_mem (d : PD β) (k : St) (h : k ∉ d.keys) : d.get? k = none :=
  (get?_eq_find d k).trans ((Assoc.find_eq_none_iff d k).mpr h)

theorem get?_of_mem (d : PD β) (hn : d.keys.Nodup) {k : St} {v : β} (h : (k, v) ∈ d) : d.get? k = some v :=
  (get?_eq_find d k).trans (Assoc.find_of_mem hn h)

theorem eq_map_keys [Zero β] (d : PD β) (hn : d.keys.Nodup) :
    d = d.keys.map fun k => (k, (d.get? k).getD 0) := by
  rw [keys, List.map_map]
  refine (List.map_id d).symm.trans (List.map_congr_left fun p hp => ?_)
  rw [Function.comp_apply, get?_of_mem d hn (k := p.1) (v := p.2) hp]
  rfl

theorem get?_put (d : PD β) (k k₂ : St) (v : β) :
    PD.get? (Assoc.put d k v) k₂ = if k₂ = k then some v else d.get? k₂ := by
  rw [get?_eq_find, get?_eq_find]
  split
  · rename_i h
    exact h ▸ Assoc.find_put_eq d k v
  · exact Assoc.find_put_ne d k k₂ v ‹_›

theorem keys_upd (d : PD β) (k : St) (f : St × β → β) (v : β) :
    PD.keys (Assoc.upd d k f v) = if k ∈ d.keys then d.keys else d.keys ++ [k] :=
  Assoc.keys_upd d k f v

/-- on a duplicate-free dictionary the first hit is the only one: the update of the other pools is
the assignment of the value computed from the entry found -/
theorem upd_eq_set (d : PD β) (hn : d.keys.Nodup) (k : St) (f : St × β → β) (v : β) :
    Assoc.upd d k f v = d.set k (match d.get? k with | some w => f (k, w) | none => v) := by
  induction d with
  | nil => rfl
  | cons p d ih =>
    obtain ⟨hp, hn⟩ := List.nodup_cons.mp hn
    rw [get?_cons (v := p.2), set]
    by_cases hk : p.1 = k
    · have hd : d.map (fun x => if x.1 == k then (k, f x) else x) = d :=
        (List.map_congr_left fun x hx => if_neg fun e =>
          hp (List.mem_map.mpr ⟨x, hx, ((beq_iff_eq (α := St)).mp e).trans hk.symm⟩)).trans (List.map_id d)
      have hb : (p.1 == k) = true := (beq_iff_eq (α := St)).mpr hk
      rw [if_pos hk.symm, if_pos hk, Assoc.upd, List.any_cons, hb, Bool.true_or, if_pos rfl, List.map_cons, hd,
        if_pos hb]
      subst hk
      rfl
    · have hb : (p.1 == k) = false := beq_eq_false_iff_ne.mpr hk
      rw [if_neg (Ne.symm hk), if_neg hk, ← ih hn, Assoc.upd, Assoc.upd, List.any_cons, hb, Bool.false_or,
        List.map_cons, if_neg (Bool.eq_false_iff.mp hb)]
      split <;> rfl

theorem set_eq_put (d : PD β) (hn : d.keys.Nodup) (k : St) (v : β) : d.set k v = Assoc.put d k v := by
  refine Eq.trans ?_ (upd_eq_set d hn k (fun _ => v) v).symm
  cases d.get? k <;> rfl

theorem foldl_set_eq_put {α : Type} (κ : α → St) (ν : PD β → α → β) (ps : List α) {d0 : PD β}
    (h0 : d0.keys.Nodup) :
    ps.foldl (fun m p => m.set (κ p) (ν m p)) d0 = ps.foldl (fun m p => Assoc.put m (κ p) (ν m p)) d0 := by
  induction ps generalizing d0 with
  | nil => rfl
  | cons p ps ih =>
    rw [List.foldl_cons, List.foldl_cons, set_eq_put d0 h0]
    exact ih (Assoc.nodup_keys_upd d0 _ _ _ h0)

theorem ofPairs_eq (ps : List (St × β)) : ofPairs ps = ps.foldl (fun d p => Assoc.put d p.1 p.2) [] :=
  foldl_set_eq_put (fun p : St × β => p.1) (fun _ p => p.2) ps List.nodup_nil

theorem get?_foldl_put_not_mem {α : Type} (κ : α → St) (ν : PD β → α → β) (ps : List α) (d0 : PD β) (k : St)
    (h : k ∉ ps.map κ) : PD.get? (ps.foldl (fun m p => Assoc.put m (κ p) (ν m p)) d0) k = d0.get? k := by
  induction ps generalizing d0 with
  | nil => rfl
  | cons p ps ih =>
    simp only [List.map_cons, List.mem_cons, not_or] at h
    simp only [List.foldl_cons]
    rw [ih _ h.2, get?_put, if_neg h.1]

end PD

theorem mem_dedup (l : List St) (x : St) : x ∈ dedup l ↔ x ∈ l := by
  induction l with
  | nil => simp [dedup]
  | cons y ys ih =>
    simp only [dedup, List.mem_cons, List.mem_filter, ih, decide_eq_true_eq]
    constructor
    · rintro (h | ⟨h, _⟩)
      · exact Or.inl h
      · exact Or.inr h
    · rintro (h | h)
      · exact Or.inl h
      · by_cases e : x = y
        · exact Or.inl e
        · exact Or.inr ⟨h, e⟩

theorem dedup_filter (P : St → Bool) : ∀ (l : List St), (dedup l).filter P = dedup (l.filter P)
  | [] => rfl
  | x :: xs => by
    by_cases hx : P x = true
    · rw [dedup, List.filter_cons_of_pos hx, List.filter_cons_of_pos hx, dedup, List.filter_filter,
        ← dedup_filter P xs, List.filter_filter]
      exact congrArg _ (List.filter_congr fun a _ => Bool.and_comm ..)
    · rw [dedup, List.filter_cons_of_neg hx, List.filter_cons_of_neg hx, List.filter_filter,
        ← dedup_filter P xs]
      refine List.filter_congr fun a _ => ?_
      by_cases ha : P a = true
      · rw [ha, Bool.true_and]
        exact decide_eq_true fun (e : a = x) => hx (e ▸ ha)
      · rw [Bool.not_eq_true] at ha
        rw [ha, Bool.false_and]

theorem dedup_eq_nil (l : List St) : dedup l = [] ↔ l = [] := by
  cases l with
  | nil => exact ⟨fun _ => rfl, fun _ => rfl⟩
  | cons x xs => exact ⟨fun h => (nomatch h), fun h => (nomatch h)⟩

theorem nodup_dedup (l : List St) : (dedup l).Nodup := by
  induction l with
  | nil => simp [dedup]
  | cons y ys ih =>
    simp only [dedup, List.nodup_cons, List.mem_filter, decide_eq_true_eq, not_and, not_not]
    exact ⟨fun _ => trivial, ih.filter _⟩

theorem dedup_of_nodup (l : List St) (h : l.Nodup) : dedup l = l := by
  induction l with
  | nil => rfl
  | cons y ys ih =>
    simp only [List.nodup_cons] at h
    simp only [dedup, ih h.2, List.cons.injEq, true_and]
    rw [List.filter_eq_self]
    intro a ha
    simp only [decide_eq_true_eq]
    intro e
    exact h.1 (e ▸ ha)

namespace PD
variable {β : Type}

theorem keys_foldl_upd {α : Type} (κ : α → St) (φ : PD β → α → St × β → β) (ν : PD β → α → β) (ps : List α)
    (d0 : PD β) :
    PD.keys (ps.foldl (fun m p => Assoc.upd m (κ p) (φ m p) (ν m p)) d0)
      = d0.keys ++ dedup ((ps.map κ).filter fun k => decide (k ∉ d0.keys)) := by
  induction ps generalizing d0 with
  | nil => exact (List.append_nil _).symm
  | cons p ps ih =>
    rw [List.foldl_cons, ih, keys_upd, List.map_cons]
    by_cases hk : κ p ∈ d0.keys
    · rw [if_pos hk, List.filter_cons_of_neg (by simpa using hk)]
    · rw [if_neg hk, List.filter_cons_of_pos (by simpa using hk), dedup, dedup_filter, List.filter_filter,
        List.append_assoc]
      refine congrArg (fun l => d0.keys ++ κ p :: dedup l) (List.filter_congr fun x _ => ?_)
      simp only [List.mem_append, List.mem_singleton, not_or, Bool.decide_and, ne_eq, decide_not,
        Bool.and_comm]

theorem keys_ofPairs (ps : List (St × β)) : (ofPairs ps).keys = dedup (ps.map (·.1)) :=
  (congrArg keys (ofPairs_eq ps)).trans <|
    (keys_foldl_upd (fun p : St × β => p.1) (fun _ p _ => p.2) (fun _ p => p.2) ps []).trans
      (congrArg dedup (List.filter_eq_self.mpr fun _ _ => rfl))

theorem nodup_keys_ofPairs (ps : List (St × β)) : (ofPairs ps).keys.Nodup := by
  rw [keys_ofPairs]; exact nodup_dedup _

/-- `dict(zip(ks, vs))[ks[i]] = vs[i]` when no later key repeats `ks[i]` (later value wins) -/
theorem get?_foldl_zip_last : ∀ (ks : List St) (vs : List β) (d0 : PD β) (i : Nat)
    (hi : i < ks.length) (hv : i < vs.length),
    (∀ i' (h' : i' < ks.length), i < i' → ks[i'] ≠ ks[i]) →
    PD.get? ((ks.zip vs).foldl (fun d p => Assoc.put d p.1 p.2) d0) ks[i] = some vs[i]
  | [], _, _, _, hi, _, _ => absurd hi (Nat.not_lt_zero _)
  | _ :: _, [], _, _, _, hv, _ => absurd hv (Nat.not_lt_zero _)
  | k :: ks, v :: vs, d0, 0, _, _, hlast => by
    rw [List.zip_cons_cons, List.foldl_cons, get?_foldl_put_not_mem (fun p : St × β => p.1) (fun _ p => p.2)]
    · exact (get?_put ..).trans (if_pos rfl)
    · intro hmem
      obtain ⟨p, hp, hpk⟩ := List.mem_map.mp hmem
      obtain ⟨j, hj, hjk⟩ := List.getElem_of_mem (List.of_mem_zip hp).1
      exact hlast (j + 1) (Nat.succ_lt_succ hj) (Nat.succ_pos j) (hjk.trans hpk)
  | k :: ks, v :: vs, d0, i + 1, hi, hv, hlast => by
    rw [List.zip_cons_cons, List.foldl_cons]
    exact get?_foldl_zip_last ks vs _ i (Nat.lt_of_succ_lt_succ hi) (Nat.lt_of_succ_lt_succ hv)
      fun i' h' hlt => hlast (i' + 1) (Nat.succ_lt_succ h') (Nat.succ_lt_succ hlt)

theorem get?_ofPairs_zip_last (ks : List St) (vs : List β) (i : Nat) (hi : i < ks.length) (hv : i < vs.length)
    (hlast : ∀ i' (h' : i' < ks.length), i < i' → ks[i'] ≠ ks[i]) :
    (ofPairs (ks.zip vs)).get? ks[i] = some vs[i] :=
  ofPairs_eq (ks.zip vs) ▸ get?_foldl_zip_last ks vs [] i hi hv hlast

theorem ofPairs_of_nodup (ps : List (St × β)) (hn : (ps.map (·.1)).Nodup) : ofPairs ps = ps :=
  (ofPairs_eq ps).trans (Assoc.foldl_put_fresh ps [] hn fun _ _ => List.not_mem_nil)

theorem get?_map_vals {γ : Type} (φ : β → γ) (d : PD β) (k : St) :
    PD.get? (d.map fun p => (p.1, φ p.2)) k = (d.get? k).map φ := by
  rw [get?_eq_find, get?_eq_find]
  exact Assoc.find_map_vals φ d k

theorem get?_map_pair (ks : List St) (w : St → β) (k : St) :
    PD.get? (ks.map fun g => (g, w g)) k = if k ∈ ks then some (w k) else none :=
  (get?_eq_find _ k).trans (Assoc.find_map_pair ks w k)

theorem mem_ofPairs (ps : List (St × β)) (q : St × β) (hq : q ∈ ofPairs ps) : q ∈ ps :=
  (Assoc.mem_foldl_put (ofPairs_eq ps ▸ hq)).resolve_left List.not_mem_nil

end PD

end LW.Res
