/-
  Transport of the kernel-decided amplitude tables from the exact towers to any field containing
  constants that satisfy the defining equations (in particular ℂ).  A map `φ` that preserves the bare
  operations and for which the tower's zero test and semantic equality are sound (`Sound`; built level
  by level by `phi6` on ℤ[1/6] and `quadPhi`, adjoining a square root) carries matrices entrywise
  (`MRel`) and commutes with the permanent-based amplitude; so `closedTable` of a tower matrix whose
  image is the gate's `U_full` gives the gate's table over the field (`HasTable.of_closed`).
  Only `phi6` needs a field: `MRel`, `map_permAmp`, `map_closedAmp` and `HasTable.of_closed` are over
  any commutative ring, which is how LW/Proofs/C13Tower.lean and C12InstEval.lean use them.
-/
import Mathlib.Tactic.Ring
import Mathlib.Tactic.FieldSimp
import Mathlib.Tactic.LinearCombination
import Mathlib.Algebra.Field.Basic
import LW.Proofs.CompMat
import LW.Proofs.C13Struct
import LW.Proofs.C13Eval
import LW.Proofs.C13


namespace LW.Gates

open LW.QF

structure THom {T R : Type} [Add T] [Mul T] [Neg T] [Zero T] [One T] [Ring R] (φ : T → R) : Prop where
  map_zero : φ 0 = 0
  map_one : φ 1 = 1
  map_add : ∀ x y, φ (x + y) = φ x + φ y
  map_mul : ∀ x y, φ (x * y) = φ x * φ y
  map_neg : ∀ x, φ (-x) = -φ x

def ZSound {T R : Type} [ZTest T] [Zero R] (φ : T → R) : Prop := ∀ x, ZTest.isZero x = true → φ x = 0
def ESound {T R : Type} [Eqv T] (φ : T → R) : Prop := ∀ x y, Eqv.eqv x y = true → φ x = φ y

structure Sound {T R : Type} [Add T] [Mul T] [Neg T] [Zero T] [One T] [ZTest T] [Eqv T] [Ring R]
    (φ : T → R) : Prop where
  hom : THom φ
  zero : ZSound φ
  eqv : ESound φ

section S6
variable (R : Type) [Field R]

def phi6 (x : S6) : R := (x.n : R) / 6 ^ x.e

variable {R}

theorem S6.add_def (x y : S6) : x + y =
    if x.n == 0 then y else if y.n == 0 then x
    else ⟨x.n * S6.pow6 (max x.e y.e - x.e) + y.n * S6.pow6 (max x.e y.e - y.e), max x.e y.e⟩ := rfl
theorem S6.mul_def (x y : S6) : x * y =
    if x.n == 0 || y.n == 0 then ⟨0, 0⟩ else ⟨x.n * y.n, x.e + y.e⟩ := rfl
theorem S6.neg_def (x : S6) : -x = ⟨-x.n, x.e⟩ := rfl

theorem cast_pow6 (k : Nat) : ((S6.pow6 k : Int) : R) = 6 ^ k := by simp [S6.pow6]

theorem mul_pow_sub_div {c : R} (hc : c ≠ 0) (n : R) {e E : Nat} (h : e ≤ E) :
    n * c ^ (E - e) / c ^ E = n / c ^ e := by
  obtain ⟨k, rfl⟩ := Nat.exists_eq_add_of_le h
  rw [Nat.add_sub_cancel_left, pow_add]
  exact mul_div_mul_right _ _ (pow_ne_zero _ hc)

theorem phi6_hom (h6 : (6 : R) ≠ 0) : THom (phi6 R) where
  map_zero := by show phi6 R ⟨0, 0⟩ = 0; simp [phi6]
  map_one := by show phi6 R ⟨1, 0⟩ = 1; simp [phi6]
  map_neg := by intro x; rw [S6.neg_def]; simp [phi6, neg_div]
  map_mul := by
    intro x y
    rw [S6.mul_def]
    by_cases hx : x.n = 0
    · simp [hx, phi6]
    · by_cases hy : y.n = 0
      · simp [hy, phi6]
      · have hcond : (x.n == 0 || y.n == 0) = false := by simp [hx, hy]
        rw [hcond]
        simp only [Bool.false_eq_true, if_false, phi6, Int.cast_mul, pow_add]
        field_simp
  map_add := by
    intro x y
    rw [S6.add_def]
    by_cases hx : x.n = 0
    · simp [hx, phi6]
    · by_cases hy : y.n = 0
      · simp [hx, hy, phi6]
      · have hxb : (x.n == 0) = false := by simpa using hx
        have hyb : (y.n == 0) = false := by simpa using hy
        rw [hxb, hyb]
        simp only [Bool.false_eq_true, if_false, phi6, Int.cast_add, Int.cast_mul, cast_pow6]
        rw [add_div, mul_pow_sub_div h6 _ (le_max_left ..), mul_pow_sub_div h6 _ (le_max_right ..)]

theorem phi6_zsound : ZSound (phi6 R) := by
  intro x hx
  have : x.n = 0 := by simpa [ZTest.isZero] using hx
  simp [phi6, this]

theorem phi6_esound (h6 : (6 : R) ≠ 0) : ESound (phi6 R) := by
  intro x y h
  have h' : x.n * S6.pow6 y.e = y.n * S6.pow6 x.e := by simpa [Eqv.eqv] using h
  have h'' : (x.n : R) * 6 ^ y.e = y.n * 6 ^ x.e := by
    have := congrArg (fun z : Int => (z : R)) h'
    simpa [cast_pow6] using this
  simp only [phi6]
  rw [div_eq_div_iff (pow_ne_zero _ h6) (pow_ne_zero _ h6)]
  exact h''

theorem phi6_sound (h6 : (6 : R) ≠ 0) : Sound (phi6 R) := ⟨phi6_hom h6, phi6_zsound, phi6_esound h6⟩

end S6

section QuadHom
variable {K R : Type} [CommRing R] {d : K}

/-- `a + b√d ↦ φ a + r·φ b` where `r² = φ d` -/
def quadPhi (φ : K → R) (r : R) (x : Quad K d) : R := φ x.a + r * φ x.b

theorem Quad.mul_def [Add K] [Mul K] [Zero K] [ZTest K] (x y : Quad K d) : x * y = Quad.mul x y := rfl

theorem quadPhi_mk (φ : K → R) (r : R) (a b : K) : quadPhi (d := d) φ r ⟨a, b⟩ = φ a + r * φ b := rfl
theorem quadPhi_lift [Zero K] (φ : K → R) (r : R) (h0 : φ 0 = 0) (x : K) :
    quadPhi (d := d) φ r (Quad.lift x) = φ x := by
  rw [Quad.lift, quadPhi_mk, h0, mul_zero, add_zero]
theorem quadPhi_root [Zero K] [One K] (φ : K → R) (r : R) (h0 : φ 0 = 0) (h1 : φ 1 = 1) :
    quadPhi (d := d) φ r Quad.root = r := by
  rw [Quad.root, quadPhi_mk, h0, h1, mul_one, zero_add]

theorem quadPhi_zsound [ZTest K] (φ : K → R) (r : R) (hz : ZSound φ) : ZSound (quadPhi (d := d) φ r) := by
  intro x hx
  have h : ZTest.isZero x.a = true ∧ ZTest.isZero x.b = true := by
    simpa [ZTest.isZero] using hx
  simp [quadPhi, hz _ h.1, hz _ h.2]

theorem quadPhi_esound [Eqv K] (φ : K → R) (r : R) (he : ESound φ) : ESound (quadPhi (d := d) φ r) := by
  intro x y h
  have h' : Eqv.eqv x.a y.a = true ∧ Eqv.eqv x.b y.b = true := by
    simpa [Eqv.eqv] using h
  simp [quadPhi, he _ _ h'.1, he _ _ h'.2]

variable [Add K] [Mul K] [Neg K] [Zero K] [One K] [ZTest K]

theorem quadPhi_hom (φ : K → R) (r : R) (hφ : THom φ) (hz : ZSound φ) (hr : r * r = φ d) :
    THom (quadPhi (d := d) φ r) where
  map_zero := by show φ (0 : K) + r * φ (0 : K) = 0; simp [hφ.map_zero]
  map_one := by show φ (1 : K) + r * φ (0 : K) = 1; simp [hφ.map_zero, hφ.map_one]
  map_neg := by
    intro x
    show φ (-x.a) + r * φ (-x.b) = -(φ x.a + r * φ x.b)
    rw [hφ.map_neg, hφ.map_neg]; ring
  map_add := by
    intro x y
    show φ (x.a + y.a) + r * φ (x.b + y.b) = (φ x.a + r * φ x.b) + (φ y.a + r * φ y.b)
    rw [hφ.map_add, hφ.map_add]; ring
  map_mul := by
    intro x y
    rw [Quad.mul_def]
    unfold Quad.mul quadPhi
    split_ifs with h1 h2 h3
    · have hx : φ x.b = 0 := hz _ (by simp only [Bool.and_eq_true] at h1; exact h1.1)
      have hy : φ y.b = 0 := hz _ (by simp only [Bool.and_eq_true] at h1; exact h1.2)
      simp only [hφ.map_mul, hφ.map_zero, hx, hy]; ring
    · have hx : φ x.b = 0 := hz _ h2
      simp only [hφ.map_mul, hx]; ring
    · have hy : φ y.b = 0 := hz _ h3
      simp only [hφ.map_mul, hy]; ring
    · simp only [hφ.map_mul, hφ.map_add]
      linear_combination (φ x.b * φ y.b) * hr.symm

theorem Sound.quad [Eqv K] {φ : K → R} (h : Sound φ) {r : R} (hr : r * r = φ d) :
    Sound (quadPhi (d := d) φ r) :=
  ⟨quadPhi_hom φ r h.hom h.zero hr, quadPhi_zsound φ r h.zero, quadPhi_esound φ r h.eqv⟩

end QuadHom

theorem Sound.comp {T C C' : Type} [Add T] [Mul T] [Neg T] [Zero T] [One T] [ZTest T] [Eqv T]
    [Ring C] [Ring C'] {ψ : T → C} (h : Sound ψ) (f : C →+* C') : Sound fun x => f (ψ x) where
  hom := ⟨by rw [h.hom.map_zero, map_zero], by rw [h.hom.map_one, map_one],
    fun x y => by rw [h.hom.map_add, map_add], fun x y => by rw [h.hom.map_mul, map_mul],
    fun x => by rw [h.hom.map_neg, map_neg]⟩
  zero := fun x hx => (congrArg f (h.zero x hx)).trans (map_zero f)
  eqv := fun x y hxy => congrArg f (h.eqv x y hxy)

section MRel
variable {T R : Type} [Add T] [Mul T] [Neg T] [Zero T] [One T] [CommRing R]

def MRel (φ : T → R) (A : M T) (B : M R) : Prop := A.n = B.n ∧ ∀ r k, φ (A.get r k) = B.get r k

variable {φ : T → R}

theorem MRel.ofFn (hφ : THom φ) (n : Nat) (f : Nat → Nat → T) (g : Nat → Nat → R)
    (h : ∀ r k, r < n → k < n → φ (f r k) = g r k) : MRel φ (M.ofFn n f) (M.ofFn n g) := by
  refine ⟨rfl, fun r k => ?_⟩
  rw [M.get_ofFn', M.get_ofFn']
  split_ifs with hc
  · exact h r k hc.1 hc.2
  · exact hφ.map_zero

theorem map_sumN (hφ : THom φ) (n : Nat) (f : Nat → T) (g : Nat → R) (h : ∀ k, φ (f k) = g k) :
    φ (M.sumN n f) = M.sumN n g := by
  induction n with
  | zero => exact hφ.map_zero
  | succ n ih => simp only [M.sumN]; rw [hφ.map_add, ih, h]

theorem MRel.mul (hφ : THom φ) {A A' : M T} {B B' : M R} (h1 : MRel φ A B) (h2 : MRel φ A' B') :
    MRel φ (A.mul A') (B.mul B') := by
  unfold M.mul
  rw [h1.1]
  apply MRel.ofFn hφ
  intro r k _ _
  apply map_sumN hφ
  intro j
  rw [hφ.map_mul, h1.2, h2.2]

theorem MRel.one (hφ : THom φ) (n : Nat) : MRel φ (M.one n : M T) (M.one n : M R) := by
  apply MRel.ofFn hφ
  intro r k _ _
  rw [apply_ite φ, hφ.map_one, hφ.map_zero]

theorem MRel.transpose (hφ : THom φ) {A : M T} {B : M R} (h : MRel φ A B) :
    MRel φ A.transpose B.transpose := by
  unfold M.transpose
  rw [h.1]
  apply MRel.ofFn hφ
  intro r k _ _
  exact h.2 k r

theorem MRel.permMat (hφ : THom φ) (σ : Dict) (n : Nat) :
    MRel φ (permMat σ n : M T) (permMat σ n : M R) := by
  apply MRel.ofFn hφ
  intro r k _ _
  rw [apply_ite φ, hφ.map_one, hφ.map_zero]

theorem MRel.embedBlock (hφ : THom φ) (n m : Nat) {u : M T} {v : M R} (h : MRel φ u v) :
    MRel φ (embedBlock n m u) (embedBlock n m v) := by
  unfold LW.embedBlock
  rw [h.1]
  apply MRel.ofFn hφ
  intro r k _ _
  simp only [apply_ite φ, h.2, hφ.map_one, hφ.map_zero]

theorem map_permN (hφ : THom φ) : ∀ (n : Nat) (A : Nat → Nat → T) (B : Nat → Nat → R),
    (∀ r c, φ (A r c) = B r c) → φ (permN n A) = permN n B := by
  intro n
  induction n with
  | zero => intro A B _; exact hφ.map_one
  | succ n ih =>
    intro A B h
    simp only [permN]
    apply map_sumN hφ
    intro j
    rw [hφ.map_mul, h, ih _ _ (fun r c => h _ _)]

theorem map_permAmp (hφ : THom φ) (U : Nat → Nat → T) (V : Nat → Nat → R) (h : ∀ r c, φ (U r c) = V r c)
    (n : Nat) (hin hout : Dict) (ins outs : List Nat) :
    φ (permAmp U n hin hout ins outs) = permAmp V n hin hout ins outs := by
  unfold permAmp permAmpFull
  simp only
  split_ifs
  · exact map_permN hφ _ _ _ (fun r c => h _ _)
  · exact hφ.map_zero

theorem map_scaleBy (hφ : THom φ) (k : T) (g : Int) : φ (scaleBy k g) = scaleBy (φ k) g := by
  unfold scaleBy
  rw [apply_ite φ, apply_ite φ, hφ.map_zero, hφ.map_neg]

end MRel

section Ring
variable {R : Type} [CommRing R]

theorem permC_eq (n : Nat) (A : Nat → Nat → R) : permC n A = permN n A := by
  unfold permC
  split
  · simp only [perm2, permN, M.sumN, skip, Nat.reduceLT, Nat.lt_irrefl, ↓reduceIte, zero_add, mul_one]
  · simp only [perm3, perm2, permN, M.sumN, skip, Nat.reduceLT, Nat.reduceAdd, Nat.lt_irrefl,
      ↓reduceIte, zero_add, mul_one]
  · simp only [perm4, perm2, permN, M.sumN, skip, Nat.reduceLT, Nat.reduceAdd, Nat.lt_irrefl,
      ↓reduceIte, zero_add, mul_one]
    ring
  · rfl

theorem gateCirc_Ufull_one (i : R) {n : Nat} (her : Dict) (u : M R) (hu : u.IsOfFn) (hn : u.n = n)
    (r c : Nat) : ((gateCirc n her [.unitary 0 u]).Ufull i).get r c = u.get r c := by
  show ((embedBlock n 0 u).mul (M.one n)).get r c = _
  by_cases h : r < n ∧ c < n
  · rw [M.get_mul_one (n := n) (embedBlock n 0 u) rfl h.1 h.2, get_embedBlock _ _ h.1 h.2,
      if_pos (by omega)]
    rfl
  · rw [M.get_of_not_lt (M.isOfFn_mul _ _) h, M.get_of_not_lt hu (by rw [hn]; exact h)]

end Ring

section Closed
variable {T R : Type} [Add T] [Mul T] [Neg T] [Zero T] [One T] [CommRing R] {φ : T → R}

theorem map_permC (hφ : THom φ) (n : Nat) (A : Nat → Nat → T) (B : Nat → Nat → R)
    (h : ∀ r c, φ (A r c) = B r c) : φ (permC n A) = permC n B := by
  unfold permC
  split
  · simp only [perm2, hφ.map_add, hφ.map_mul, h]
  · simp only [perm3, perm2, hφ.map_add, hφ.map_mul, h]
  · simp only [perm4, perm2, hφ.map_add, hφ.map_mul, h]
  · exact map_permN hφ _ _ _ h

theorem map_closedAmp (hφ : THom φ) {U : Nat → Nat → T} {V : Nat → Nat → R}
    (h : ∀ r c, φ (U r c) = V r c) (n : Nat) (hin hout : Dict) (ins outs : List Nat) :
    φ (closedAmp U n hin hout ins outs) = permAmp V n hin hout ins outs := by
  unfold closedAmp permAmp permAmpFull
  simp only
  split_ifs
  · exact (map_permC hφ _ _ _ fun r c => h _ _).trans (permC_eq _ _)
  · exact hφ.map_zero

omit [Add T] [Mul T] [Neg T] [One T] in
theorem MRel.ufull_one (j : R) {n : Nat} (her : Dict) {uT : M T} {u : M R}
    (h : MRel φ uT u) (hu : u.IsOfFn) (hn : u.n = n) :
    MRel φ uT ((gateCirc n her [.unitary 0 u]).Ufull j) :=
  ⟨h.1.trans hn, fun r c => by rw [gateCirc_Ufull_one j her u hu hn, h.2]⟩

/-- **The one way from a kernel decision to a field table.**  `U` is a matrix over a tower whose
image under `φ` is `U_full` of the gate over `R`; `closedTable` of `U` gives the table of the
gate. -/
theorem HasTable.of_closed [Eqv T] (hφ : THom φ) (he : ESound φ) (j : R) {n : Nat} (her : Dict)
    {qs : List (Prim R)} {U : M T} (hU : MRel φ U ((gateCirc n her qs).Ufull j)) (hn : U.n = n)
    (nq : Nat) (k : T) (G : List Bool → List Bool → Int) (lf : Bool)
    (h : closedTable U her nq k G lf = true) :
    HasTable Eq j (.ok (gateCirc n her qs)) nq (φ k) G lf := by
  subst hn
  exact hasTable_ok_iff.mpr <| (tableB_spec h).mono fun ins outs g hg =>
    ((map_closedAmp hφ hU.2 U.n her her ins outs).symm.trans (he _ _ hg)).trans (map_scaleBy hφ k g)

/-- the gate is one block `u` on all its modes -/
theorem HasTable.of_closed_one [Eqv T] (hφ : THom φ) (he : ESound φ) (j : R) (n : Nat) (her : Dict)
    {uT : M T} {u : M R} (h : MRel φ uT u) (hu : u.IsOfFn) (hn : u.n = n) {nq : Nat} {k : T}
    {G : List Bool → List Bool → Int} {lf : Bool} (ht : closedTable uT her nq k G lf = true) :
    HasTable Eq j (.ok (gateCirc n her [.unitary 0 u])) nq (φ k) G lf :=
  HasTable.of_closed hφ he j her (h.ufull_one j her hu hn) (h.1.trans hn) nq k G lf ht

end Closed

end LW.Gates
