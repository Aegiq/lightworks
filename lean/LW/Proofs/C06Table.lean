/-
  LW.Proofs.C06Table — the single-photon outcome table of the imperfect source: sums to one,
  non-negative on the documented ranges, photon-number statistics and g2; the `Real.sqrt` root
  computed by `purity_to_prob` is the two-photon weight `x` with `2x/(1+x)² = 1 - purity`.
-/
import Mathlib.Algebra.Order.Field.Basic
import Mathlib.Analysis.Real.Sqrt
import Mathlib.Tactic.Ring
import Mathlib.Tactic.Linarith
import Mathlib.Tactic.LinearCombination
import LW.Model.Source

namespace LW.Proofs.C06

open LW.Src

section Ring
variable {Q : Type} [CommRing Q]

theorem table_sums_to_one (P : Params Q) :
    c0 P + c1 P + c1d P + c1dp P + c12d P + c1d2d P = 1 := by
  simp only [c0, c1, c1d, c1dp, c12d, c1d2d, p1, pd]
  ring

theorem c0_eq (P : Params Q) : c0 P = (1 - P.nu) * (1 - P.nu * P.p2) := by
  simp only [c0, p1]; ring

theorem keep_eq (P : Params Q) : p1 P + (1 - P.nu) * P.p2 = 1 - P.nu * P.p2 := by
  simp only [p1]; ring

end Ring

/-- probability that one emitter delivers exactly one photon -/
def pn1 {Q : Type} [Add Q] [Mul Q] [Sub Q] [Zero Q] [One Q] (P : Params Q) : Q :=
  c1 P + c1d P + c1dp P
/-- probability that one emitter delivers two photons -/
def pn2 {Q : Type} [Add Q] [Mul Q] [Sub Q] [Zero Q] [One Q] (P : Params Q) : Q :=
  c12d P + c1d2d P
/-- second-order correlation `⟨n(n-1)⟩ / ⟨n⟩²` of the emitted photon-number statistics -/
def g2 {Q : Type} [Add Q] [Mul Q] [Sub Q] [Div Q] [Zero Q] [One Q] (P : Params Q) : Q :=
  (1 + 1) * pn2 P / ((pn1 P + (1 + 1) * pn2 P) * (pn1 P + (1 + 1) * pn2 P))

section Ordered
variable {Q : Type} [Field Q] [LinearOrder Q] [IsStrictOrderedRing Q]

theorem table_nonneg (P : Params Q) (hν0 : 0 ≤ P.nu) (hν1 : P.nu ≤ 1) (hx0 : 0 ≤ P.p2)
    (hx1 : P.p2 ≤ 1) (hq0 : 0 ≤ P.pi) (hq1 : P.pi ≤ 1) :
    0 ≤ c0 P ∧ 0 ≤ c1 P ∧ 0 ≤ c1d P ∧ 0 ≤ c1dp P ∧ 0 ≤ c12d P ∧ 0 ≤ c1d2d P := by
  have h1ν : 0 ≤ 1 - P.nu := sub_nonneg.2 hν1
  have h1q : 0 ≤ 1 - P.pi := sub_nonneg.2 hq1
  have hνx : P.nu * P.p2 ≤ 1 := by
    calc P.nu * P.p2 ≤ 1 * 1 := mul_le_mul hν1 hx1 hx0 zero_le_one
      _ = 1 := one_mul 1
  have hk : 0 ≤ 1 - P.nu * P.p2 := sub_nonneg.2 hνx
  refine ⟨?_, ?_, ?_, ?_, ?_, ?_⟩
  · rw [c0_eq]; exact mul_nonneg h1ν hk
  · simp only [c1]; rw [keep_eq]; exact mul_nonneg (mul_nonneg hq0 hν0) hk
  · simp only [c1d, pd]; rw [keep_eq]; exact mul_nonneg (mul_nonneg h1q hν0) hk
  · simp only [c1dp]; exact mul_nonneg (mul_nonneg hν0 h1ν) hx0
  · simp only [c12d]; exact mul_nonneg (mul_nonneg (mul_nonneg hν0 hν0) hq0) hx0
  · simp only [c1d2d, pd]; exact mul_nonneg (mul_nonneg (mul_nonneg hν0 hν0) h1q) hx0

theorem g2_table (P : Params Q) (hν : P.nu ≠ 0) :
    g2 P = (1 + 1) * P.p2 / ((1 + P.p2) * (1 + P.p2)) := by
  have h1 : pn1 P + (1 + 1) * pn2 P = P.nu * (1 + P.p2) := by
    simp only [pn1, pn2, c1, c1d, c1dp, c12d, c1d2d, p1, pd]; ring
  have h2 : pn2 P = P.nu * P.nu * P.p2 := by
    simp only [pn2, c12d, c1d2d, pd]; ring
  unfold g2
  rw [h1, h2, mul_mul_mul_comm P.nu _ P.nu, ← mul_assoc (1 + 1), mul_comm (1 + 1) (P.nu * P.nu),
    mul_assoc (P.nu * P.nu), mul_div_mul_left _ _ (mul_ne_zero hν hν)]

end Ordered

/-- `purity_to_prob` (for purity > 1/2; `(b² - 4) ** 0.5` is the real square root) -/
noncomputable def purityToProb (purity : ℝ) : ℝ :=
  if purity < 1 then
    let g := 1 - purity
    let b := 2 * (1 - 1 / g)
    1 - (-b - Real.sqrt (b ^ 2 - 4)) / 2
  else 1

/-- the two-photon weight the code derives from the purity -/
noncomputable def twoPhotonWeight (purity : ℝ) : ℝ := 1 - purityToProb purity

theorem twoPhotonWeight_one : twoPhotonWeight 1 = 0 := by
  simp [twoPhotonWeight, purityToProb]

theorem twoPhotonWeight_spec (purity : ℝ) (h0 : 1 / 2 < purity) (h1 : purity < 1) :
    0 < twoPhotonWeight purity ∧ twoPhotonWeight purity < 1 ∧
      2 * twoPhotonWeight purity =
        (1 - purity) * ((1 + twoPhotonWeight purity) * (1 + twoPhotonWeight purity)) := by
  have hg0 : 0 < 1 - purity := sub_pos.2 h1
  set g := 1 - purity with hg
  set b := 2 * (1 - 1 / g) with hb
  have hx : twoPhotonWeight purity = (-b - Real.sqrt (b ^ 2 - 4)) / 2 := by
    simp only [twoPhotonWeight, purityToProb, if_pos h1]
    ring
  have hginv : 2 < 1 / g := by
    rw [lt_div_iff₀ hg0]; linarith
  have hb2 : 0 < -b - 2 := by rw [hb]; linarith
  have hb0 : 0 < -b := lt_trans hb2 (sub_lt_self _ two_pos)
  have hdisc : 0 < b ^ 2 - 4 := by
    have : b ^ 2 - 4 = (-b - 2) * (-b + 2) := by ring
    rw [this]
    exact mul_pos hb2 (add_pos hb0 two_pos)
  set r := Real.sqrt (b ^ 2 - 4) with hr
  have hrr : r * r = b ^ 2 - 4 := Real.mul_self_sqrt hdisc.le
  have hrb : r < -b := (Real.sqrt_lt' hb0).2 (by rw [neg_sq]; exact sub_lt_self _ (by norm_num))
  have hrb2 : -b - 2 < r := (Real.lt_sqrt hb2.le).2 (by
    have : (-b - 2) ^ 2 = b ^ 2 - 4 - 4 * (-b - 2) := by ring
    rw [this]
    exact sub_lt_self _ (mul_pos (by norm_num) hb2))
  have hgb : g * (2 - b) = 2 := by
    have : g * (2 - b) = 2 * (g * (1 / g)) := by rw [hb]; ring
    rw [this, mul_one_div_cancel hg0.ne', mul_one]
  rw [hx]
  refine ⟨half_pos (sub_pos.2 hrb), (div_lt_one two_pos).2 (sub_lt_comm.1 hrb2), ?_⟩
  -- `x = (-b - r) / 2` is a root of `x² + b x + 1`, so `(1 + x)² = x (2 - b)`; and `g (2 - b) = 2`
  have hroot : (-b - r) / 2 * ((-b - r) / 2) + b * ((-b - r) / 2) + 1 = 0 := by
    linear_combination (1 / 4) * hrr
  linear_combination (-((-b - r) / 2)) * hgb - g * hroot

theorem g2_eq_one_sub_purity (purity nu q thr : ℝ) (h0 : 1 / 2 < purity) (h1 : purity ≤ 1)
    (hν : nu ≠ 0) :
    g2 (⟨nu, twoPhotonWeight purity, q, thr⟩ : Params ℝ) = 1 - purity := by
  rcases lt_or_eq_of_le h1 with hlt | heq
  · obtain ⟨hx0, _, hspec⟩ := twoPhotonWeight_spec purity h0 hlt
    have hne : 1 + twoPhotonWeight purity ≠ 0 := by linarith
    rw [g2_table _ hν]
    show (1 + 1) * twoPhotonWeight purity /
      ((1 + twoPhotonWeight purity) * (1 + twoPhotonWeight purity)) = 1 - purity
    rw [div_eq_iff (mul_ne_zero hne hne)]
    linarith
  · subst heq
    rw [g2_table _ hν]
    simp [twoPhotonWeight_one]

end LW.Proofs.C06
