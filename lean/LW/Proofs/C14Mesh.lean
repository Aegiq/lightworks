/-
  LW.Proofs.C14Mesh — the mesh half: `mapSpec` as a list of leaves, whose ordered product (default
  error model) is `U` for whatever valid settings realise the flipped matrix; and `Reck.map` through
  the Circuit construction API, where on a circuit without ancillas an accepted call only appends
  leaves (`Appends`, closed under sequencing and `foldlM`), followed by the herald loop.
-/
import LW.Proofs.C14Cell
import LW.Proofs.C01
import LW.Proofs.C01Api

open Matrix

namespace LW.Proofs.C14

open LW.Reck LW.Proofs.C01Aux

variable {K : Type} [CommRing K] [StarRing K]

def leafMat (i : K) (n : Nat) (p : Prim K) : Matrix (Fin n) (Fin n) K := (p.specMat i n).toMatN n

omit [StarRing K] in
theorem toMatN_orderedProd (i : K) (n : Nat) (ps : List (Prim K)) :
    (orderedProd i n ps).toMatN n = revProd (leafMat i n) ps := by
  unfold orderedProd
  rw [toMatN_foldl_mul _ (specMat_n i n), M.toMatN_one, Matrix.mul_one]
  rfl

/-- the leaves one unit cell appends; `++` is nested to the right here and in `mapPrims` because that is
the shape the `Appends.bind` chains of `mapCell_appends` and `build_appends` produce: the lists agree
as written, without re-bracketing -/
def cellPrims (em : EM K) (n : Nat) (x : Cell K) (a j : Nat) : List (Prim K) :=
  [.barrier [n - j - 2, n - j - 2 + 1]] ++ ([.ps (n - j - 2 + 1) (x.p * em.offPhi a j)] ++
    (Circ.bsPrims (n - j - 2) (n - j - 2 + 1) (em.bs1 a j) .rx none ++
      ([.ps (n - j - 2) (x.w * x.w * em.offTheta a j)] ++
        Circ.bsPrims (n - j - 2) (n - j - 2 + 1) (em.bs2 a j) .rx (em.loss a j))))

def mapPrims (em : EM K) (n : Nat) (cs : List ((Nat × Nat) × Cell K)) (ends : List K) :
    List (Prim K) :=
  (cs.flatMap fun e => cellPrims em n e.2 e.1.1 e.1.2) ++ ([.barrier (List.range n)] ++
    (List.range n).map fun k => .ps (n - k - 1) (ends.getD k 1 * em.offEnd k))

omit [StarRing K] in
theorem cellSpec_eq (em : EM K) (n : Nat) (x : Cell K) (a j : Nat) :
    cellSpec em n x a j = (cellPrims em n x a j).map Comp.prim := by
  unfold cellSpec cellPrims
  rcases em.loss a j with _ | ⟨la, lb⟩ <;> rfl

omit [StarRing K] in
theorem mapSpec_eq (em : EM K) (n : Nat) (cs : List ((Nat × Nat) × Cell K)) (ends : List K) :
    mapSpec em n cs ends = (mapPrims em n cs ends).map Comp.prim := by
  simp only [mapSpec, mapPrims, List.map_append, List.map_flatMap, ← cellSpec_eq, List.map_cons,
    List.map_nil, List.append_assoc, List.map_map, Function.comp_def]

omit [CommRing K] [StarRing K] in
theorem flattenSpec_map_prim (ps : List (Prim K)) : flattenSpec (ps.map Comp.prim) = ps := by
  simp [flattenSpec, List.flatMap_map, Comp.toPrims]

theorem revProd_cellPrims {n j : Nat} (hj : j + 1 < n) {i h : K} (hi : IsImagUnit i)
    (hh : 2 * (h * h) = 1) {x : Cell K} (hx : CellOk i x) (a : Nat) :
    revProd (leafMat i n) (cellPrims (EM.ideal h) n x a j) = Rev ((bsMatrix i n j (j + 1) x).toMatN n) := by
  have hm1 : n - j - 2 < n := by omega
  have hm2 : n - j - 2 + 1 < n := by omega
  have hne : n - j - 2 ≠ n - j - 2 + 1 := by omega
  have hneF := fin_ne_succ hm1 hm2
  show revProd (leafMat i n) [.barrier [n - j - 2, n - j - 2 + 1], .ps (n - j - 2 + 1) (x.p * 1),
    .bs (n - j - 2) (n - j - 2 + 1) h h .rx, .ps (n - j - 2) (x.w * x.w * 1),
    .bs (n - j - 2) (n - j - 2 + 1) h h .rx] = _
  simp only [revProd, leafMat, List.reverse_cons, List.reverse_nil, List.nil_append,
    List.cons_append, List.map_cons, List.map_nil, List.prod_cons, List.prod_nil, Prim.specMat,
    Prim.mat, mul_one]
  rw [toMatN_embed2 hm1 hm2 hne, toMatN_embed1_left hm1 hm2 hne, toMatN_embed1_right hm1 hm2 hne,
    M.toMatN_one, Matrix.mul_one, E2_mul hneF, E2_mul hneF, E2_mul hneF]
  have hB : (!![h, i * h; i * h, h] : Matrix (Fin 2) (Fin 2) K) = Bblk i h := rfl
  simp only [← Matrix.mul_assoc]
  rw [hB, unit_cell_2x2 hi hh hx, ← E2_swap (Ne.symm hneF), toMatN_bsMatrix hj, Rev_E2]
  · congr 1; (apply Fin.ext; simp [Fin.rev]; omega)
  · exact fin_ne_succ _ _

theorem unit_cell_identity {n j : Nat} (hj : j + 1 < n) {i h : K} (hi : IsImagUnit i)
    (hh : 2 * (h * h) = 1) {x : Cell K} (hx : CellOk i x) (a : Nat) (r k : Nat) (hr : r < n)
    (hk : k < n) :
    (orderedProd i n (flattenSpec (cellSpec (EM.ideal h) n x a j))).get r k =
      (bsMatrix i n j (j + 1) x).get (n - 1 - r) (n - 1 - k) := by
  have h1 := revProd_cellPrims hj hi hh hx a
  rw [← toMatN_orderedProd, ← flattenSpec_map_prim (cellPrims _ _ _ _ _), ← cellSpec_eq] at h1
  have h2 := congrFun (congrFun h1 ⟨r, hr⟩) ⟨k, hk⟩
  simp only [M.toMatN, Rev, Matrix.submatrix_apply, Fin.val_rev] at h2
  rw [h2, show n - 1 - r = n - (r + 1) by omega, show n - 1 - k = n - (k + 1) by omega]

theorem revProd_cells {n : Nat} {i h : K} (hi : IsImagUnit i) (hh : 2 * (h * h) = 1)
    (cs : List ((Nat × Nat) × Cell K)) (hcs : ∀ e ∈ cs, e.1.2 + 1 < n ∧ CellOk i e.2) :
    revProd (leafMat i n) (cs.flatMap fun e => cellPrims (EM.ideal h) n e.2 e.1.1 e.1.2) =
      Rev (revProd (cellMat i n) cs) := by
  induction cs with
  | nil => exact Rev_one.symm
  | cons e rest ih =>
    have he := hcs e List.mem_cons_self
    rw [List.flatMap_cons, revProd_append, ih (fun e' he' => hcs e' (List.mem_cons_of_mem _ he')),
      revProd_cellPrims he.1 hi hh he.2, revProd_cons, Rev_mul]
    rfl

omit [StarRing K] in
theorem toMatN_embed1_diag (n m : Nat) (p : K) :
    (embed1 n m p).toMatN n = Matrix.diagonal fun r : Fin n => if r.val = m then p else 1 := by
  ext r k
  simp only [M.toMatN, get_embed1 _ _ r.2 k.2, Matrix.diagonal_apply, Fin.ext_iff]

omit [StarRing K] in
theorem prod_diagonal {n : Nat} {ι : Type} (l : List ι) (d : ι → Fin n → K) :
    (l.map fun k => Matrix.diagonal (d k)).prod = Matrix.diagonal fun r => (l.map fun k => d k r).prod := by
  induction l with
  | nil => simp
  | cons k rest ih =>
    rw [List.map_cons, List.prod_cons, ih, Matrix.diagonal_mul_diagonal]
    simp

omit [StarRing K] in
theorem prod_select (n : Nat) (e : Nat → K) {r : Nat} (hr : r < n) :
    ((List.range n).map fun k => if r = n - k - 1 then e k else 1).prod = e (n - 1 - r) := by
  rw [← List.prod_toFinset _ List.nodup_range, List.toFinset_range,
    Finset.prod_congr rfl (g := fun k => if n - 1 - r = k then e k else 1) fun k hk => by
      have := Finset.mem_range.mp hk
      exact if_congr ⟨by omega, by omega⟩ rfl rfl,
    Finset.prod_ite_eq, if_pos (Finset.mem_range.mpr (by omega))]

omit [StarRing K] in
theorem revProd_ends (i : K) (n : Nat) (e : Nat → K) :
    revProd (leafMat i n) ((List.range n).map fun k => Prim.ps (n - k - 1) (e k)) =
      Rev (Matrix.diagonal fun r : Fin n => e r.val) := by
  unfold revProd
  rw [← List.map_reverse, List.map_map]
  have : (leafMat i n ∘ fun k => Prim.ps (n - k - 1) (e k)) =
      fun k => Matrix.diagonal fun r : Fin n => if r.val = n - k - 1 then e k else 1 := by
    funext k
    simp [leafMat, Prim.specMat, Prim.mat, toMatN_embed1_diag]
  rw [this, prod_diagonal]
  ext r k
  simp only [Rev, Matrix.submatrix_apply, Matrix.diagonal_apply, Fin.rev_inj]
  by_cases hrk : r = k
  · subst hrk
    simp only [if_true]
    rw [List.map_reverse, List.prod_reverse, prod_select n e r.2, Fin.val_rev]
    congr 1
    omega
  · simp [hrk]

theorem Realises.revProd_mapPrims {n : Nat} {i h : K} (hi : IsImagUnit i) (hh : 2 * (h * h) = 1)
    {cs : List ((Nat × Nat) × Cell K)} {ends : List K} {V : M K} (hV : V.n = n)
    (hR : Realises i n cs ends ((flip V).toMatN n)) :
    revProd (leafMat i n) (mapPrims (EM.ideal h) n cs ends) = V.toMatN n := by
  have hb : revProd (leafMat i n) [Prim.barrier (List.range n)] = 1 := by
    simp [revProd, leafMat, Prim.specMat, Prim.mat, M.toMatN_one]
  unfold mapPrims
  rw [revProd_append, revProd_append, revProd_cells hi hh cs hR.cells, hb, Matrix.mul_one]
  simp only [EM.ideal, mul_one]
  rw [revProd_ends i n (fun k => ends.getD k 1), ← Rev_mul, ← toMatN_synth, hR.synth,
    toMatN_flip V hV, Rev_Rev]

end LW.Proofs.C14

-- the calls of the construction API are stated for a bare type of scalars
namespace LW.Proofs.C14

open LW.Reck

variable {K : Type}

theorem modeInRange_plain {c : Circ K} (h : c.internal = []) {m : Nat} (hm : m < c.n) :
    c.modeInRange (c.mapMode (m : Int)) = .ok m := by
  rw [Circ.mapMode_nil h]
  exact Circ.modeInRange_natCast hm

/-- on a circuit with `n` modes and no ancillas the call `f` succeeds and only appends the leaves `ps` -/
def Appends (n : Nat) (f : Circ K → Except Err (Circ K)) (ps : List (Prim K)) : Prop :=
  ∀ c : Circ K, c.n = n → c.internal = [] → f c = .ok (c.addPrims ps)

theorem Appends.bind_eq {n : Nat} {f : Circ K → Except Err (Circ K)} {ps : List (Prim K)}
    (hf : Appends n f ps) {c : Circ K} (hn : c.n = n) (hint : c.internal = [])
    (k : Circ K → Except Err (Circ K)) : (f c >>= k) = k (c.addPrims ps) := by
  rw [hf c hn hint]; rfl

theorem Appends.bind {n : Nat} {f g : Circ K → Except Err (Circ K)} {ps qs : List (Prim K)}
    (hf : Appends n f ps) (hg : Appends n g qs) : Appends n (fun c => f c >>= g) (ps ++ qs) :=
  fun c hn hint => (hf.bind_eq hn hint g).trans
    ((hg (c.addPrims ps) hn hint).trans (congrArg Except.ok (Circ.addPrims_addPrims c ps qs)))

theorem Appends.foldlM {n : Nat} {α : Type} {step : Circ K → α → Except Err (Circ K)}
    {out : α → List (Prim K)} (l : List α) (h : ∀ x ∈ l, Appends n (step · x) (out x)) :
    Appends n (fun c => l.foldlM step c) (l.flatMap out) := by
  induction l with
  | nil => intro c _ _; simp [Circ.addPrims, pure, Except.pure]
  | cons x rest ih =>
    intro c hn hint
    show List.foldlM step c (x :: rest) = _
    rw [List.foldlM_cons, List.flatMap_cons]
    exact (h x List.mem_cons_self).bind (ih fun y hy => h y (List.mem_cons_of_mem _ hy)) c hn hint

theorem Appends.ps {n m : Nat} (hm : m < n) (p : K) :
    Appends n (fun c : Circ K => c.ps (m : Int) p none) [.ps m p] :=
  fun _ hn hint => Circ.ps_eq_ok (modeInRange_plain hint (hn ▸ hm)) p none

theorem Appends.bs {n m1 m2 : Nat} (h1 : m1 < n) (h2 : m2 < n) (hne : m1 ≠ m2) (cs : K × K)
    (cv : Conv) (l : Option (K × K)) :
    Appends n (fun c : Circ K => c.bs (m1 : Int) (m2 : Int) cs cv l) (Circ.bsPrims m1 m2 cs cv l) :=
  fun _ hn hint => Circ.bs_eq_ok (modeInRange_plain hint (hn ▸ h1))
    (modeInRange_plain hint (hn ▸ h2)) hne cs cv l

theorem Appends.barrier {n : Nat} (ms : List Nat) (hms : ∀ m ∈ ms, m < n) :
    Appends n (fun c : Circ K => c.barrier (some (ms.map Int.ofNat))) [.barrier ms] := by
  intro c hn hint
  have e : (ms.map Int.ofNat).mapM (fun m => c.modeInRange (c.mapMode m)) = .ok ms := by
    rw [List.mapM_map, Except.mapM_ok_of_forall (f := (fun m => c.modeInRange (c.mapMode m)) ∘ Int.ofNat)
      (g := id) ms fun m hm => modeInRange_plain hint (hn ▸ hms m hm), List.map_id]
  show c.barrier _ = _
  rw [Circ.barrier_eq, Option.getD_some, e]
  rfl

theorem Appends.barrier_none {n : Nat} :
    Appends n (fun c : Circ K => c.barrier none) [.barrier (List.range n)] := by
  intro c hn hint
  have := Appends.barrier (K := K) (List.range n) (fun m hm => List.mem_range.mp hm) c hn hint
  unfold Circ.barrier at this ⊢
  simp only [hint, hn, List.length_nil, Nat.sub_zero] at this ⊢
  exact this

section
variable [CommRing K]

/-- for a cell whose drawn reflectivities and loss are in range (the flags of `EMOk.flags`, LW.Proofs.C14ReckMap) -/
theorem mapCell_appends (em : EM K) {n : Nat} (pm : List (Key × Cell K)) {a j : Nat}
    (hem : em.refl1Ok a j = true ∧ em.refl2Ok a j = true ∧ em.lossOk a j = true)
    (hj : j + 1 < n) {x : Cell K} (hl : lookup pm (j + 2 * a, j) = .ok x) :
    Appends n (mapCell em n pm · (a, j)) (cellPrims em n x a j) := by
  have e1 : (n : Int) - (j : Int) - 2 = ((n - j - 2 : Nat) : Int) := by omega
  obtain ⟨f1, f2, f3⟩ := hem
  have h1 : n - j - 2 < n := by omega
  have h2 : n - j - 2 + 1 < n := by omega
  have hne : n - j - 2 ≠ n - j - 2 + 1 := Nat.ne_of_lt (Nat.lt_succ_self _)
  have hb := Appends.barrier (K := K) (n := n) [n - j - 2, n - j - 2 + 1] (by
    intro m hm
    rcases List.mem_cons.mp hm with rfl | hm
    · exact h1
    · exact List.mem_singleton.mp hm ▸ h2)
  intro c hn hint
  refine Eq.trans ?_ ((hb.bind ((Appends.ps h2 (x.p * em.offPhi a j)).bind
    ((Appends.bs h1 h2 hne (em.bs1 a j) .rx none).bind
      ((Appends.ps h1 (x.w * x.w * em.offTheta a j)).bind
        (Appends.bs h1 h2 hne (em.bs2 a j) .rx (em.loss a j)))))) c hn hint)
  -- with the look-up and the flags resolved, `mapCell` is this chain of calls
  unfold mapCell
  simp only [hl, e1, f1, f2, f3]
  rfl

theorem mapEnd_appends (em : EM K) {n : Nat} (ends : List K) (hlen : ends.length = n) {k : Nat}
    (hk : k < n) :
    Appends n (mapEnd em n ends · k) [.ps (n - k - 1) (ends.getD k 1 * em.offEnd k)] := by
  have e1 : (n : Int) - (k : Int) - 1 = ((n - k - 1 : Nat) : Int) := by omega
  have hg : ends[k]? = some (ends.getD k 1) := by
    rw [List.getD_eq_getElem?_getD, List.getElem?_eq_getElem (hlen ▸ hk)]; rfl
  intro c hn hint
  unfold mapEnd
  rw [hg, e1]
  exact Appends.ps (by omega) _ c hn hint

/-- everything `Reck.map` does before the heralds -/
theorem build_appends (em : EM K)
    (hem : ∀ a j, em.refl1Ok a j = true ∧ em.refl2Ok a j = true ∧ em.lossOk a j = true) {n : Nat}
    (pm : List (Key × Cell K))
    (cs : List ((Nat × Nat) × Cell K)) (ends : List K) (hlen : ends.length = n)
    (hcs : ∀ e ∈ cs, e.1.2 + 1 < n ∧ lookup pm (keyed e).1 = .ok e.2) :
    Appends n (fun c => (cs.map Prod.fst).foldlM (mapCell em n pm) c >>= fun c =>
        c.barrier none >>= fun c => (List.range n).foldlM (mapEnd em n ends) c)
      (mapPrims em n cs ends) := by
  have hc : Appends n (fun c => (cs.map Prod.fst).foldlM (mapCell em n pm) c)
      (cs.flatMap fun e => cellPrims em n e.2 e.1.1 e.1.2) := fun c hn hint =>
    (List.foldlM_map ..).trans (Appends.foldlM cs
      (fun e he => mapCell_appends em pm (hem _ _) (hcs e he).1 (hcs e he).2) c hn hint)
  unfold mapPrims
  rw [List.map_eq_flatMap (l := List.range n)]
  exact hc.bind (Appends.barrier_none.bind (Appends.foldlM (List.range n) fun _ hk =>
    mapEnd_appends em ends hlen (List.mem_range.mp hk)))

end

/-- assumed of the herald dictionaries `Reck.map` reads, as the dictionaries of a circuit satisfy it
(no lemma derives it from a circuit): paired in declaration order with equal photon numbers, distinct
modes inside the circuit -/
structure HeraldsOk (n : Nat) (inHer outHer : Dict) : Prop where
  len : inHer.length = outHer.length
  counts : ∀ io ∈ inHer.zip outHer, io.1.2 = io.2.2
  in_nodup : inHer.keys.Nodup
  out_nodup : outHer.keys.Nodup
  in_lt : ∀ k ∈ inHer.keys, k < n
  out_lt : ∀ k ∈ outHer.keys, k < n

theorem herald_eq_ok {c : Circ K} (hint : c.internal = []) {a b : Nat} (ha : a < c.n) (hb : b < c.n)
    (hain : a ∉ c.inHer.keys) (hbout : b ∉ c.outHer.keys) (k : Nat) :
    c.herald k (a : Int) (b : Int) =
      .ok { c with inHer := c.inHer ++ [(a, k)], outHer := c.outHer ++ [(b, k)],
                   extIn := c.extIn.set a k, extOut := c.extOut.set b k } := by
  rw [← C02.set_of_not_mem hain, ← C02.set_of_not_mem hbout]
  exact Circ.herald_ok.mpr ⟨a, modeInRange_plain hint ha, b, modeInRange_plain hint hb,
    fun h => hain (Proofs.C02.contains_iff.mp h), fun h => hbout (Proofs.C02.contains_iff.mp h), rfl⟩

theorem foldlM_mapHerald {n : Nat} (li lo : Dict) (c : Circ K) (hn : c.n = n)
    (hint : c.internal = []) (hlen : li.length = lo.length)
    (hcount : ∀ io ∈ li.zip lo, io.1.2 = io.2.2)
    (hin : (c.inHer.keys ++ li.keys).Nodup) (hout : (c.outHer.keys ++ lo.keys).Nodup)
    (hil : ∀ k ∈ li.keys, k < n) (hol : ∀ k ∈ lo.keys, k < n) :
    ∃ c', (li.zip lo).foldlM mapHerald c = .ok c' ∧ c'.n = n ∧ c'.spec = c.spec ∧
      c'.internal = [] ∧ c'.inHer = c.inHer ++ li ∧ c'.outHer = c.outHer ++ lo := by
  induction li generalizing lo c with
  | nil =>
    cases lo with
    | nil => exact ⟨c, rfl, hn, rfl, hint, (List.append_nil _).symm, (List.append_nil _).symm⟩
    | cons _ _ => cases hlen
  | cons a li ih =>
    cases lo with
    | nil => cases hlen
    | cons b lo =>
      have hc : a.2 = b.2 := hcount (a, b) List.mem_cons_self
      have ha : a.1 < c.n := hn ▸ hil a.1 List.mem_cons_self
      have hb : b.1 < c.n := hn ▸ hol b.1 List.mem_cons_self
      have hain : a.1 ∉ c.inHer.keys := fun hmem =>
        (List.nodup_append.mp hin).2.2 _ hmem _ List.mem_cons_self rfl
      have hbout : b.1 ∉ c.outHer.keys := fun hmem =>
        (List.nodup_append.mp hout).2.2 _ hmem _ List.mem_cons_self rfl
      have hmh : mapHerald c (a, b) = c.herald a.2 (a.1 : Int) (b.1 : Int) :=
        if_neg (by rw [hc]; exact fun h => absurd rfl (bne_iff_ne.mp h))
      obtain ⟨c', h1, h2, h3, h4, h5, h6⟩ := ih lo
        { c with inHer := c.inHer ++ [(a.1, a.2)], outHer := c.outHer ++ [(b.1, a.2)],
                 extIn := c.extIn.set a.1 a.2, extOut := c.extOut.set b.1 a.2 }
        hn hint (Nat.succ.inj hlen) (fun io hio => hcount io (List.mem_cons_of_mem _ hio))
        (by rw [Dict.keys, List.map_append, List.append_assoc]; exact hin)
        (by rw [Dict.keys, List.map_append, List.append_assoc]; exact hout)
        (fun k hk => hil k (List.mem_cons_of_mem _ hk))
        (fun k hk => hol k (List.mem_cons_of_mem _ hk))
      refine ⟨c', ?_, h2, h3, h4, h5.trans (List.append_assoc ..), h6.trans ?_⟩
      · rw [List.zip_cons_cons, List.foldlM_cons, hmh, herald_eq_ok hint ha hb hain hbout]
        exact h1
      · rw [hc]
        exact List.append_assoc ..

end LW.Proofs.C14
