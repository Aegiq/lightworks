/-
  LW.Proofs.FockOcc — the pure-Mathlib combinatorics of Fock space: occupations of index
  functions, the fibre-sum lemma (summing over the orbit of an index function counts every function
  of its occupation `∏ occ!` times), the permanent of a photon-indexed sub-matrix as such a sum, and
  Cauchy–Binet for permanents in its division-free form.
-/
import Mathlib.GroupTheory.Perm.DomMulAct
import Mathlib.Algebra.BigOperators.Ring.Finset
import Mathlib.Algebra.Star.BigOperators
import Mathlib.Logic.Equiv.Fintype
import Mathlib.LinearAlgebra.Matrix.Permanent

open Equiv Finset

namespace LW.Proofs.FockIso

-- the statements keep the instance arguments of their sections also where a proof does not use them
set_option linter.unusedSectionVars false

section Fibre

variable {α ι : Type*} [Fintype α] [DecidableEq α] [Fintype ι] [DecidableEq ι]

def occ (f : α → ι) (z : ι) : ℕ := Fintype.card {a // f a = z}

theorem exists_perm_of_occ_eq (f g : α → ι) (h : occ f = occ g) : ∃ τ : Perm α, g ∘ τ = f := by
  classical
  have e : ∀ z, {a // f a = z} ≃ {a // g a = z} := fun z =>
    Fintype.equivOfCardEq (by simpa [occ] using congrFun h z)
  refine ⟨(Equiv.sigmaFiberEquiv f).symm.trans
    ((Equiv.sigmaCongrRight e).trans (Equiv.sigmaFiberEquiv g)), ?_⟩
  funext a
  simp only [Function.comp_apply, Equiv.trans_apply]
  have := ((e (f a)) ⟨a, rfl⟩).2
  simpa [Equiv.sigmaFiberEquiv, Equiv.sigmaCongrRight] using this

theorem occ_comp_perm (g : α → ι) (τ : Perm α) : occ (g ∘ τ) = occ g := by
  funext z
  unfold occ
  apply Fintype.card_congr
  exact
    { toFun := fun a => ⟨τ a.1, a.2⟩
      invFun := fun a => ⟨τ.symm a.1, by simpa using a.2⟩
      left_inv := fun a => by simp
      right_inv := fun a => by simp }

theorem card_perm_comp_eq (g f : α → ι) :
    Fintype.card {τ : Perm α // g ∘ τ = f} =
      if occ f = occ g then ∏ z, (occ g z).factorial else 0 := by
  classical
  split_ifs with h
  · obtain ⟨τ0, hτ0⟩ := exists_perm_of_occ_eq f g h
    show _ = ∏ z, (Fintype.card {a // g a = z}).factorial
    rw [← DomMulAct.stabilizer_card g]
    apply Fintype.card_congr
    exact
      { toFun := fun τ => ⟨τ.1 * τ0⁻¹, by
          have := τ.2
          funext a
          have h2 : f (τ0⁻¹ a) = g a := by
            have := congrFun hτ0 (τ0⁻¹ a); simpa using this.symm
          have h3 := congrFun τ.2 (τ0⁻¹ a)
          simp only [Function.comp_apply, Perm.coe_mul] at *
          rw [h3, h2]⟩
        invFun := fun σ => ⟨σ.1 * τ0, by
          funext a
          have h3 := congrFun σ.2 (τ0 a)
          have h2 := congrFun hτ0 a
          simp only [Function.comp_apply, Perm.coe_mul] at *
          rw [h3, h2]⟩
        left_inv := fun τ => by ext; simp
        right_inv := fun σ => by ext; simp }
  · rw [Fintype.card_eq_zero_iff]
    constructor
    rintro ⟨τ, hτ⟩
    exact h (by rw [← hτ, occ_comp_perm])

theorem fibre_sum {R : Type*} [CommSemiring R] (g : α → ι) (F : (α → ι) → R) :
    ∑ τ : Perm α, F (g ∘ τ) =
      (∏ z, (occ g z).factorial : ℕ) •
        ∑ f ∈ univ.filter (fun f : α → ι => occ f = occ g), F f := by
  classical
  have : ∑ τ : Perm α, F (g ∘ τ) =
      ∑ f : α → ι, (Fintype.card {τ : Perm α // g ∘ τ = f}) • F f := by
    rw [← Finset.sum_fiberwise (s := univ) (g := fun τ : Perm α => g ∘ (τ : α → α))
      (f := fun τ => F (g ∘ τ))]
    apply Finset.sum_congr rfl
    intro f _
    rw [Finset.sum_congr rfl (g := fun _ => F f), Finset.sum_const, Fintype.card_subtype]
    intro τ hτ
    simp only [Finset.mem_filter] at hτ
    rw [hτ.2]
  rw [this, ← Finset.sum_nsmul, Finset.sum_filter]
  apply Finset.sum_congr rfl
  intro f _
  rw [card_perm_comp_eq]
  split_ifs <;> simp

theorem sum_occ (f : α → ι) : ∑ z, occ f z = Fintype.card α := by
  unfold occ
  rw [← Fintype.card_sigma]
  exact Fintype.card_congr (Equiv.sigmaFiberEquiv f)

end Fibre

section Core

variable {n N : Type*} [Fintype n] [DecidableEq n] [Fintype N] [DecidableEq N]
variable {K : Type*}

def rowProd [CommMonoid K] (U : Matrix N N K) (y f : n → N) : K := ∏ k, U (f k) (y k)

theorem permanent_submatrix [CommSemiring K] (U : Matrix N N K) (f y : n → N) :
    (U.submatrix f y).permanent = ∑ σ : Perm n, rowProd U y (f ∘ σ) := rfl

theorem permanent_eq_fibre [CommSemiring K] (U : Matrix N N K) (f y : n → N) :
    (U.submatrix f y).permanent =
      (∏ z, (occ f z).factorial : ℕ) •
        ∑ f' ∈ univ.filter (fun f' : n → N => occ f' = occ f), rowProd U y f' := by
  rw [permanent_submatrix, fibre_sum]

end Core

/-! Cauchy–Binet in matrix form, for any finite index types and any commutative semiring. The
amplitudes of the development go through its polynomial form (LW.Proofs.FockFunctor) instead. -/

section Pure

variable {n N : Type*} [Fintype n] [DecidableEq n] [Fintype N] [DecidableEq N]
variable {R : Type*} [CommSemiring R]

theorem permanent_mul_expand_aux (A : Matrix n N R) (B : Matrix N n R) :
    (A * B).permanent =
      ∑ f : n → N, (∏ k, A k (f k)) * (Matrix.of fun r c => B (f r) c).permanent := by
  classical
  simp only [Matrix.permanent, Matrix.mul_apply, Matrix.of_apply, Finset.mul_sum]
  rw [Finset.sum_comm (γ := n → N)]
  refine Finset.sum_congr rfl fun σ _ => ?_
  -- expand the product of sums over all `f`, then substitute `f ∘ σ⁻¹` for `f`
  rw [Finset.prod_univ_sum, Fintype.piFinset_univ,
    ← (Equiv.arrowCongr σ.symm (Equiv.refl N)).sum_comp]
  refine Finset.sum_congr rfl fun f _ => ?_
  rw [Finset.prod_mul_distrib, ← Equiv.prod_comp σ (fun k => A k (f k))]
  rfl

theorem permanent_mul_expand (U V : Matrix N N R) (x y : n → N) :
    ((U * V).submatrix x y).permanent =
      ∑ f : n → N, (∏ k, U (x k) (f k)) * (V.submatrix f y).permanent := by
  rw [Matrix.submatrix_mul U V x id y Function.bijective_id, permanent_mul_expand_aux]
  rfl

theorem permanent_submatrix_congr_occ (V : Matrix N N R) (y : n → N) {f g : n → N}
    (h : occ f = occ g) : (V.submatrix f y).permanent = (V.submatrix g y).permanent := by
  rw [permanent_eq_fibre, permanent_eq_fibre, h]

/-- division-free Cauchy–Binet: summing over all intermediate index functions over-counts by
`n!` -/
theorem sum_permanent_mul_permanent (U V : Matrix N N R) (x y : n → N) :
    ∑ f : n → N, (U.submatrix x f).permanent * (V.submatrix f y).permanent =
      (Fintype.card n).factorial • ((U * V).submatrix x y).permanent := by
  have h : ∀ σ : Perm n, ∑ f : n → N, (∏ k, U (x k) (f (σ k))) * (V.submatrix f y).permanent =
      ((U * V).submatrix x y).permanent := by
    intro σ
    rw [permanent_mul_expand]
    refine Fintype.sum_equiv (Equiv.arrowCongr σ.symm (Equiv.refl N)) _ _ fun f => ?_
    have e : (Equiv.arrowCongr σ.symm (Equiv.refl N)) f = f ∘ σ := by
      funext k; simp [Equiv.arrowCongr_apply]
    rw [e, permanent_submatrix_congr_occ V y (occ_comp_perm f σ)]
    rfl
  have h2 : ∀ f : n → N, (U.submatrix x f).permanent =
      ∑ σ : Perm n, ∏ k, U (x k) (f (σ k)) := by
    intro f
    rw [← Matrix.permanent_transpose]
    simp [Matrix.permanent]
  simp_rw [h2, Finset.sum_mul]
  rw [Finset.sum_comm]
  simp_rw [h]
  rw [Finset.sum_const, Finset.card_univ, Fintype.card_perm]

end Pure

section Star

variable {n N : Type*} [Fintype n] [DecidableEq n]
variable {K : Type*} [CommRing K] [StarRing K]

theorem permanent_star_submatrix (U : Matrix N N K) (f y : n → N) :
    ((star U).submatrix y f).permanent = star (U.submatrix f y).permanent := by
  rw [← Matrix.permanent_transpose]
  simp only [Matrix.permanent, star_sum, star_prod, Matrix.transpose_apply, Matrix.submatrix_apply,
    Matrix.star_apply]

end Star

end LW.Proofs.FockIso
