/-
  LW.Proofs.C15Complex — the concrete instance of `process_born` over ℂ used as non-vacuity example.
-/
import Mathlib.Analysis.Real.Sqrt
import Mathlib.Data.Complex.Basic
import LW.Proofs.C15Pure

namespace LW.Tomo

theorem consts_complex : Consts (Complex.I) (((Real.sqrt 2)⁻¹ : ℝ) : ℂ) where
  i_sq := Complex.I_mul_I
  i_star := Complex.conj_I
  h_star := Complex.conj_ofReal _
  h_sq := by
    rw [← Complex.ofReal_mul, ← Complex.ofReal_add, ← mul_inv,
      Real.mul_self_sqrt (by norm_num : (0 : ℝ) ≤ 2)]
    norm_num

end LW.Tomo

/- LW/Properties/C15 cites `example_instance` as `LW.Proofs.C15.example_instance`. -/
namespace LW.Proofs.C15

open LW.Tomo

noncomputable section
open Classical

theorem example_instance :
    process Complex.I 1 [[Pauli.Y], [Pauli.Z], [Pauli.X]]
        ([[Pauli.Y], [Pauli.Z], [Pauli.X]].map
          (bornTable Complex.I (((Real.sqrt 2)⁻¹ : ℝ) : ℂ) 1 (mat2 1 Complex.I (-Complex.I) 3)))
      = .ok (normalised 1 (mat2 1 Complex.I (-Complex.I) 3)) := by
  apply process_born consts_complex (by norm_num) 1 (by norm_num)
  · unfold trN
    simp [Finset.sum_range_succ]
    norm_num
  · decide
  · exact List.forall₂_map_right_iff.mpr (List.forall₂_same.mpr fun _ _ => List.Perm.refl _)

end

end LW.Proofs.C15
