/-
  LW.Proofs.C02AddSub — C02: the circuit `add` actually inserts (`pick`, with the swap returning its
  heralds) and what insertion of an empty mode keeps true of it (`SubInv`).
-/
import LW.Proofs.C02Swaps
import LW.Proofs.C02AddDefs
namespace LW.Proofs.C02
variable {K : Type} [Zero K] [One K]

/-- What the pass-through loop keeps true of the circuit being inserted (`st.sub` is its bookkeeping,
`st.spec` its components, which `add` carries separately): it has `h` input heralds on distinct modes,
and heralds and components stay inside its `st.sub.n` modes. -/
structure SubInv (h : Nat) (st : Circ.AddSt K) : Prop where
  nodup : st.sub.inHer.keys.Nodup
  len : st.sub.inHer.length = h
  lt : ∀ k ∈ st.sub.inHer.keys, k < st.sub.n
  modes : ∀ comp ∈ st.spec, ∀ m ∈ comp.modes, m < st.sub.n

omit [Zero K] [One K] in
theorem unpackGroups_WF (c : Circ K) (h : c.WF) : c.unpackGroups.WF :=
  ⟨h.inNodup, h.outNodup, h.inLt, h.outLt, h.lenEq, List.nodup_nil,
    (fun a ha => by cases ha), modes_unpackSpec_lt _ _ h.modesLt⟩

omit [Zero K] [One K] in
theorem pick_props (sub : Circ K) (g : Bool) :
    (pick sub g).1.n = sub.n ∧ (pick sub g).1.inHer = sub.inHer ∧ (pick sub g).1.outHer = sub.outHer := by
  unfold pick
  simp only
  split <;> exact ⟨rfl, rfl, rfl⟩

omit [Zero K] [One K] in
theorem flattenSpec_pick (sub : Circ K) (g : Bool) :
    flattenSpec (pick sub g).1.spec = flattenSpec sub.spec := by
  unfold pick
  simp only
  split
  · exact flattenSpec_unpackSpec sub.spec
  · rfl

omit [Zero K] [One K] in
theorem pick_WF (sub : Circ K) (g : Bool) (hwfs : sub.WF) : (pick sub g).1.WF := by
  unfold pick
  simp only
  split
  · exact unpackGroups_WF sub hwfs
  · exact hwfs

omit [Zero K] [One K] in
theorem pick_forall {Q : Comp K → Prop} (hleaf : ∀ c, Q c → ∀ p ∈ c.toPrims, Q (.prim p))
    (sub : Circ K) (g : Bool) (h : ∀ c ∈ sub.spec, Q c) : ∀ c ∈ (pick sub g).1.spec, Q c := by
  unfold pick
  simp only
  split
  · intro c hc
    obtain ⟨p, rfl, c0, hc0, hp⟩ := mem_unpackSpec hc
    exact hleaf c0 (h c0 hc0) p hp
  · exact h

omit [Zero K] [One K] in
theorem zipHer (c : Circ K) (hwf : c.WF) :
    Dict.keys (c.outHer.keys.zip c.inHer.keys) = c.outHer.keys ∧
    Dict.vals (c.outHer.keys.zip c.inHer.keys) = c.inHer.keys := by
  have hlen : c.outHer.keys.length = c.inHer.keys.length := by
    rw [Dict.keys, Dict.keys, List.length_map, List.length_map, hwf.lenEq]
  exact ⟨Dict.keys_zip hlen, Dict.vals_zip hlen⟩

omit [Zero K] [One K] in
/-- the `provisional_swaps` dictionary of `Circuit.add` -/
theorem prov_eq (c : Circ K) (hwf : c.WF) :
    Dict.ofPairs (c.outHer.keys.zip c.inHer.keys) = c.outHer.keys.zip c.inHer.keys :=
  ofPairs_of_nodup (show (Dict.keys _).Nodup by rw [(zipHer c hwf).1]; exact hwf.outNodup)

omit [Zero K] [One K] in
theorem synthSwaps_zipHer_lt (c : Circ K) (hwf : c.WF) :
    ∀ m ∈ (Prim.swaps (Circ.synthSwaps c.n (c.outHer.keys.zip c.inHer.keys)) : Prim K).modes, m < c.n := by
  obtain ⟨hk, hv⟩ := zipHer c hwf
  have := synthSwaps_lt c.n (c.outHer.keys.zip c.inHer.keys) (by rw [hk]; exact hwf.outNodup)
    (by rw [hk]; exact hwf.outLt) (by rw [hv]; exact hwf.inLt)
  exact fun m hm => (List.mem_append.mp hm).elim (this.1 m) (this.2 m)

omit [Zero K] [One K] in
theorem swapSpec_forall {Q : Comp K → Prop} (c : Circ K) (hwf : c.WF)
    (hsw : Q (.prim (.swaps (Circ.synthSwaps c.n (c.outHer.keys.zip c.inHer.keys)))))
    (h : ∀ x ∈ c.spec, Q x) : ∀ x ∈ swapSpec c, Q x := by
  unfold swapSpec
  simp only
  rw [prov_eq c hwf]
  split
  · intro x hx
    rcases List.mem_append.mp hx with hx | hx
    · exact h x hx
    · rw [List.mem_singleton.mp hx]
      exact hsw
  · exact h

omit [Zero K] [One K] in
theorem swapSpec_plain (c : Circ K) (hin : c.inHer = []) (hout : c.outHer = []) : swapSpec c = c.spec := by
  simp [swapSpec, hin, hout, Dict.keys, Dict.ofPairs, Circ.synthSwaps, synthGo_nil, Dict.vals]

omit [Zero K] [One K] in
theorem SubInv.init (sub : Circ K) (hsub : sub.WF) (g : Bool) :
    SubInv sub.inHer.length ⟨(pick sub g).1, swapSpec (pick sub g).1⟩ :=
  have hwf := pick_WF sub g hsub
  ⟨hwf.inNodup, congrArg List.length (pick_props sub g).2.1, hwf.inLt,
    swapSpec_forall _ hwf (synthSwaps_zipHer_lt _ hwf) hwf.modesLt⟩

end LW.Proofs.C02
