/-
  LW.Proofs.C02Modes — relabelling by `bump` (ModeRank): key renaming of dictionaries, the modes and the
  leaves of components under `addEmptyMode` and `shift`.  The dotted names here (`Dict.mapKeys`, `Prim.mem_modes_…`,
  `Comp.mem_modes`, …) are `LW.Proofs.C02.Dict.…` etc., not the model's `LW.Dict.…`: dot notation (`d.mapKeys f`) does
  not find them, and they are cited as `Dict.mapKeys f d`, `Comp.mem_modes …` under `open LW.Proofs.C02`.
-/
import LW.Proofs.C02Basic
import LW.Proofs.RewriteShape

namespace LW.Proofs.C02
variable {K : Type}

theorem keys_map_pair (σ : Dict) (f g : Nat → Nat) :
    Dict.keys (σ.map fun p => (f p.1, g p.2)) = (Dict.keys σ).map f := by
  simp [Dict.keys, Function.comp_def]

theorem vals_map_pair (σ : Dict) (f g : Nat → Nat) :
    Dict.vals (σ.map fun p => (f p.1, g p.2)) = (Dict.vals σ).map g := by
  simp [Dict.vals, Function.comp_def]

def Dict.mapKeys (f : Nat → Nat) (d : Dict) : Dict := d.map fun p => (f p.1, p.2)

theorem keys_mapKeys (f : Nat → Nat) (d : Dict) : (Dict.mapKeys f d).keys = d.keys.map f :=
  keys_map_pair d f id

theorem length_mapKeys (f : Nat → Nat) (d : Dict) : (Dict.mapKeys f d).length = d.length := by
  simp [Dict.mapKeys]

theorem get?_mapKeys {f : Nat → Nat} (hf : ∀ a b, f a = f b → a = b) (d : Dict) (k : Nat) :
    (Dict.mapKeys f d).get? (f k) = d.get? k := by
  induction d with
  | nil => rfl
  | cons p d ih =>
    show Dict.get? ((f p.1, p.2) :: Dict.mapKeys f d) (f k) = _
    rw [get?_cons, get?_cons, ih]
    by_cases e : p.1 = k
    · simp [e]
    · have : ¬ f p.1 = f k := fun h => e (hf _ _ h)
      simp [e, this]

theorem mapKeys_mapKeys (f g : Nat → Nat) (d : Dict) :
    Dict.mapKeys g (Dict.mapKeys f d) = Dict.mapKeys (g ∘ f) d := by
  simp [Dict.mapKeys]

theorem bumpDict_of_nodup {mode : Nat} {d : Dict} (h : d.keys.Nodup) :
    bumpDict mode d = Dict.mapKeys (bump mode) d := by
  unfold bumpDict Dict.mapKeys
  apply ofPairs_of_nodup
  show (Dict.mapKeys (bump mode) d).keys.Nodup
  rw [keys_mapKeys]
  exact nodup_map_of_inj (fun a b => bump_inj) h

/-- a dictionary after `_add_empty_mode` at the positions `ks`, first to last -/
def insDict (ks : List Nat) (d : Dict) : Dict := ks.foldl (fun d k => bumpDict k d) d

theorem insDict_of_nodup {d : Dict} (h : d.keys.Nodup) (ks : List Nat) :
    insDict ks d = Dict.mapKeys (C02Sem.bumps ks) d := by
  induction ks generalizing d with
  | nil => exact (List.map_id' d).symm
  | cons k ks ih =>
    show insDict ks (bumpDict k d) = _
    rw [bumpDict_of_nodup h,
      ih (by rw [keys_mapKeys]; exact nodup_map_of_inj (fun a b => bump_inj) h), mapKeys_mapKeys]
    rfl

theorem Comp.mem_modes {c : Comp K} {m : Nat} : m ∈ c.modes ↔ ∃ p ∈ c.toPrims, m ∈ p.modes := by
  cases c <;> simp [Comp.toPrims, Comp.modes]

section
variable [Zero K] [One K]

/-- the second alternative is the inserted mode itself, inside a unitary block that straddles it -/
theorem Prim.mem_modes_addEmptyMode (t : Nat) (p : Prim K) :
    ∀ m ∈ (p.addEmptyMode t).modes, (∃ m0 ∈ p.modes, m = bump t m0) ∨
      (m = t ∧ ∃ a ∈ p.modes, ∃ b ∈ p.modes, a < t ∧ t ≤ b) := by
  intro m hm
  cases p with
  | bs m1 m2 c s cv =>
    simp only [Prim.addEmptyMode, Prim.modes, List.mem_cons, List.not_mem_nil, or_false] at hm ⊢
    rcases hm with rfl | rfl
    · exact Or.inl ⟨m1, Or.inl rfl, rfl⟩
    · exact Or.inl ⟨m2, Or.inr rfl, rfl⟩
  | ps m0 q => exact Or.inl ⟨m0, List.mem_singleton.mpr rfl, List.mem_singleton.mp hm⟩
  | loss m0 x y => exact Or.inl ⟨m0, List.mem_singleton.mpr rfl, List.mem_singleton.mp hm⟩
  | barrier ms =>
    obtain ⟨x, hx, rfl⟩ := List.mem_map.mp hm
    exact Or.inl ⟨x, hx, rfl⟩
  | swaps σ =>
    left
    rcases List.mem_append.mp hm with hm | hm
    · obtain ⟨q, hq, rfl⟩ := List.mem_map.mp (mem_keys_ofPairs.mp hm)
      obtain ⟨q', hq', rfl⟩ := List.mem_map.mp hq
      exact ⟨q'.1, List.mem_append_left _ (List.mem_map.mpr ⟨q', hq', rfl⟩), rfl⟩
    · obtain ⟨q, hq, rfl⟩ := List.mem_map.mp (mem_vals_ofPairs hm)
      obtain ⟨q', hq', rfl⟩ := List.mem_map.mp hq
      exact ⟨q'.2, List.mem_append_right _ (List.mem_map.mpr ⟨q', hq', rfl⟩), rfl⟩
  | unitary m0 u =>
    have old : ∀ r, r < u.n → r + m0 ∈ (Prim.unitary m0 u).modes := fun r hr =>
      List.mem_map.mpr ⟨r, List.mem_range.mpr hr, rfl⟩
    simp only [Prim.addEmptyMode] at hm
    split at hm
    · rename_i hc
      obtain ⟨r, hr, rfl⟩ := List.mem_map.mp hm
      have hr : r < u.n + 1 := List.mem_range.mp hr
      -- the block starts below `t`, so its start does not move
      have hb : bump t m0 = m0 := bump_of_lt (Nat.lt_of_le_of_lt (le_bump t m0) hc.1)
      rw [hb] at hc ⊢
      rcases Nat.lt_trichotomy (r + m0) t with h | h | h
      · exact Or.inl ⟨r + m0, old r (by omega), (bump_of_lt h).symm⟩
      · exact Or.inr ⟨h, 0 + m0, old 0 (by omega), u.n - 1 + m0, old _ (by omega), by omega, by omega⟩
      · refine Or.inl ⟨r - 1 + m0, old _ (by omega), ?_⟩
        rw [bump_of_ge (by omega)]; omega
    · rename_i hc
      obtain ⟨r, hr, rfl⟩ := List.mem_map.mp hm
      have hr : r < u.n := List.mem_range.mp hr
      refine Or.inl ⟨r + m0, old r hr, ?_⟩
      -- the block lies on one side of `t`
      rcases Nat.lt_or_ge m0 t with h | h
      · rw [bump_of_lt h] at hc ⊢
        rw [bump_of_lt (by omega)]
      · rw [bump_of_ge h, bump_of_ge (by omega)]; omega

theorem Prim.modes_addEmptyMode_lt (mode n : Nat) (p : Prim K) (h : ∀ m ∈ p.modes, m < n) :
    ∀ m ∈ (p.addEmptyMode mode).modes, m < n + 1 := by
  intro m hm
  rcases Prim.mem_modes_addEmptyMode mode p m hm with ⟨m0, h0, rfl⟩ | ⟨rfl, _, _, y, hy, _, h2⟩
  · exact bump_lt_succ (h m0 h0)
  · have := h y hy; omega

theorem Comp.toPrims_addEmptyMode (t : Nat) (c : Comp K) :
    (c.addEmptyMode t).toPrims = c.toPrims.map (Prim.addEmptyMode t) := by
  cases c <;> rfl

theorem Comp.modes_addEmptyMode_lt (mode n : Nat) (c : Comp K) (h : ∀ m ∈ c.modes, m < n) :
    ∀ m ∈ (c.addEmptyMode mode).modes, m < n + 1 := by
  intro m hm
  obtain ⟨p, hp, hm⟩ := Comp.mem_modes.mp hm
  rw [Comp.toPrims_addEmptyMode] at hp
  obtain ⟨p0, hp0, rfl⟩ := List.mem_map.mp hp
  exact Prim.modes_addEmptyMode_lt mode n p0 (fun x hx => h x (Comp.mem_modes.mpr ⟨p0, hp0, hx⟩)) m hm

end

theorem Prim.mem_modes_shift (k : Nat) (p : Prim K) :
    ∀ m ∈ (p.shift k).modes, ∃ m0 ∈ p.modes, m = m0 + k := by
  intro m hm
  cases p with
  | bs m1 m2 c s cv =>
    simp only [Prim.shift, Prim.modes, List.mem_cons, List.not_mem_nil, or_false] at hm ⊢
    rcases hm with rfl | rfl
    · exact ⟨m1, Or.inl rfl, rfl⟩
    · exact ⟨m2, Or.inr rfl, rfl⟩
  | ps m0 q => exact ⟨m0, List.mem_singleton.mpr rfl, List.mem_singleton.mp hm⟩
  | loss m0 x y => exact ⟨m0, List.mem_singleton.mpr rfl, List.mem_singleton.mp hm⟩
  | barrier ms =>
    obtain ⟨x, hx, rfl⟩ := List.mem_map.mp hm
    exact ⟨x, hx, rfl⟩
  | swaps σ =>
    rcases List.mem_append.mp hm with hm | hm
    · obtain ⟨q, hq, rfl⟩ := List.mem_map.mp (mem_keys_ofPairs.mp hm)
      obtain ⟨q', hq', rfl⟩ := List.mem_map.mp hq
      exact ⟨q'.1, List.mem_append_left _ (List.mem_map.mpr ⟨q', hq', rfl⟩), rfl⟩
    · obtain ⟨q, hq, rfl⟩ := List.mem_map.mp (mem_vals_ofPairs hm)
      obtain ⟨q', hq', rfl⟩ := List.mem_map.mp hq
      exact ⟨q'.2, List.mem_append_right _ (List.mem_map.mpr ⟨q', hq', rfl⟩), rfl⟩
  | unitary m0 u =>
    obtain ⟨r, hr, rfl⟩ := List.mem_map.mp hm
    exact ⟨r + m0, List.mem_map.mpr ⟨r, hr, rfl⟩, by omega⟩

theorem Prim.modes_shift_lt (k n : Nat) (p : Prim K) (h : ∀ m ∈ p.modes, m < n) :
    ∀ m ∈ (p.shift k).modes, m < n + k := by
  intro m hm
  obtain ⟨m0, h0, rfl⟩ := Prim.mem_modes_shift k p m hm
  exact Nat.add_lt_add_right (h m0 h0) k

theorem Comp.toPrims_shift (k : Nat) (c : Comp K) :
    (c.shift k).toPrims = c.toPrims.map (Prim.shift k) := by
  cases c <;> rfl

theorem flattenSpec_addEmptyModeSpec [Zero K] [One K] (spec : List (Comp K)) (k : Nat) :
    flattenSpec (Circ.addEmptyModeSpec spec k) = (flattenSpec spec).map (Prim.addEmptyMode k) :=
  flattenSpec_map_of_toPrims _ _ (Comp.toPrims_addEmptyMode k) spec

theorem flattenSpec_shift (spec : List (Comp K)) (k : Nat) :
    flattenSpec (spec.map (Comp.shift k)) = (flattenSpec spec).map (Prim.shift k) :=
  flattenSpec_map_of_toPrims _ _ (Comp.toPrims_shift k) spec

theorem Comp.mem_modes_shift (k : Nat) (c : Comp K) :
    ∀ m ∈ (c.shift k).modes, ∃ m0 ∈ c.modes, m = m0 + k := by
  intro m hm
  obtain ⟨p, hp, hm⟩ := Comp.mem_modes.mp hm
  rw [Comp.toPrims_shift] at hp
  obtain ⟨p0, hp0, rfl⟩ := List.mem_map.mp hp
  obtain ⟨m0, h0, rfl⟩ := Prim.mem_modes_shift k p0 m hm
  exact ⟨m0, Comp.mem_modes.mpr ⟨p0, hp0, h0⟩, rfl⟩

theorem Comp.modes_shift_lt (k n : Nat) (c : Comp K) (h : ∀ m ∈ c.modes, m < n) :
    ∀ m ∈ (c.shift k).modes, m < n + k := by
  intro m hm
  obtain ⟨m0, h0, rfl⟩ := Comp.mem_modes_shift k c m hm
  exact Nat.add_lt_add_right (h m0 h0) k

theorem Comp.modes_shift_ge (k : Nat) (c : Comp K) : ∀ m ∈ (c.shift k).modes, k ≤ m := by
  intro m hm
  obtain ⟨m0, _, rfl⟩ := Comp.mem_modes_shift k c m hm
  exact Nat.le_add_left k m0

theorem modes_unpackSpec_lt (n : Nat) (spec : List (Comp K)) (h : ∀ c ∈ spec, ∀ m ∈ c.modes, m < n) :
    ∀ c ∈ unpackSpec spec, ∀ m ∈ c.modes, m < n := by
  intro c hc m hm
  obtain ⟨p, rfl, c0, hc0, hp⟩ := mem_unpackSpec hc
  exact h c0 hc0 m (Comp.mem_modes.mpr ⟨p, hp, hm⟩)

end LW.Proofs.C02
