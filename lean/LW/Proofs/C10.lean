/-
  LW.Proofs.C10 — where the three strands of C10 meet: the bounds invariant and rejected calls
  (C10World), histories under resolution (C10Heap), listing, frozen copies and validity (C10Circ):
  the seven statements that LW/Properties/C10.lean cites under the same names; its other eight
  theorems cite the lemma modules directly.
-/
import LW.Proofs.C10Heap
import LW.Proofs.C10Lit

namespace LW.Proofs.C10

variable {α K : Type}

section Bounds
variable [LinearOrder α] [Zero K] [One K]

theorem bounds_invariant (ν : Views α K) (ops : List (POp α K)) (w : World α K)
    (rs : List (Option Fail)) (h : World.run ν {} ops = some (w, rs)) :
    ∀ id p, w.store.get? id = some p →
      (∀ m, p.min = some m → ∃ x, p.value = .num x ∧ m ≤ x) ∧
      (∀ mx, p.max = some mx → ∃ x, p.value = .num x ∧ x ≤ mx) :=
  World.run_inBounds ν ops World.empty_inBounds h

theorem rejected_update_noop (ν : Views α K) (w w' : World α K) (op : POp α K) (e : Fail)
    (h : World.step ν w op = some (w', some e)) : w' = w :=
  World.failed_step_noop ν h

end Bounds

section Live
variable [Add K] [Mul K] [Neg K] [Zero K] [One K]

theorem U_reads_current_values (ν : Views α K) (i : K) (σ : Store α) (ops : List (CircOp (Sym α K)))
    (h h' : Heap (Sym α K)) (rs : List Outcome)
    (hr : heapRun h ops = some (h', rs)) :
    heapRun (Heap.mapK (Sym.eval ν σ) h) (ops.map (CircOp.map (Sym.eval ν σ))) =
        some (Heap.mapK (Sym.eval ν σ) h', rs) ∧
    ∀ cid c, Heap.get? h' cid = some c →
      Heap.get? (Heap.mapK (Sym.eval ν σ) h') cid = some (PCirc.resolve ν σ c) ∧
      (PCirc.fieldsValid ν σ c = true → PCirc.readU ν i σ c = .ok ((PCirc.resolve ν σ c).U i)) :=
  ⟨by rw [heapRun_mapK (Sym.fix01_eval ν σ) ops h, hr]; rfl,
   fun cid c hcid => ⟨by rw [Heap.get?_mapK, hcid]; rfl, fun hv => if_pos hv⟩⟩

end Live

section Listing
variable [Add K] [Mul K] [Neg K] [Zero K] [One K]

theorem all_params_nodup_complete (c : PCirc α K) :
    c.getAllParams.Nodup ∧
    ∀ id, id ∈ c.getAllParams ↔
      ∃ p ∈ primsOf c.spec, ∃ r, Sym.view r (.param id) ∈ p.syms :=
  ⟨PCirc.getAllParams_nodup c, fun id => by
    rw [PCirc.mem_getAllParams]
    constructor
    · rintro ⟨s, hs, hid⟩
      obtain ⟨p, hp, hsp⟩ := List.mem_flatMap.mp hs
      obtain ⟨r, rfl⟩ := Sym.mem_ids.mp hid
      exact ⟨p, hp, r, hsp⟩
    · rintro ⟨p, hp, r, hsp⟩
      exact ⟨_, List.mem_flatMap.mpr ⟨p, hp, hsp⟩, Sym.mem_ids.mpr ⟨r, rfl⟩⟩⟩

end Listing

section Frozen
variable [Add K] [Mul K] [Neg K] [Zero K] [One K]

theorem frozen_copy_constant (ν : Views α K) (i : K) (σ σ' : Store α) (c : PCirc α K) :
    (PCirc.freeze σ c).readU ν i σ' = c.readU ν i σ :=
  PCirc.freeze_readU ν i σ σ' c

theorem frozen_copy_has_no_params (σ : Store α) (c : PCirc α K) :
    (PCirc.freeze σ c).getAllParams = [] :=
  PCirc.freeze_params σ c

theorem invalid_value_is_compilation_error (ν : Views α K) (i : K) (σ : Store α) (c : PCirc α K) :
    (∀ e, c.readU ν i σ = .error e ↔ e = .compilation ∧ ∃ s ∈ Circ.syms c, s.valid ν σ = false) ∧
    (∀ r id, Sym.view r (.param id) ∈ Circ.syms c →
      ((∃ t, σ.val id = .other t) ∨ (∃ x, σ.val id = .num x ∧ r ≠ .expi ∧ ν.unit x = false)) →
      c.readU ν i σ = .error .compilation) ∧
    ((∀ s ∈ Circ.syms c, s.valid ν σ = true) ↔ c.readU ν i σ = .ok ((c.resolve ν σ).U i)) :=
  ⟨fun e => PCirc.readU_error_iff ν i σ c e,
   fun r id hm hb => PCirc.readU_invalid_param ν i σ c r id hm hb,
   PCirc.readU_ok_iff ν i σ c⟩

end Frozen

end LW.Proofs.C10
