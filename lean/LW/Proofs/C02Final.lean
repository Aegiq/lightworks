/-
  LW.Proofs.C02Final — C02: explicit form of the result of `add` and the invariant it satisfies.
-/
import LW.Proofs.C02AddShape
namespace LW.Proofs.C02
variable {K : Type} [Zero K] [One K]

theorem addFinal_eq (self : Circ K) (st : Circ.AddSt K) {h : Nat} (inv : SubInv h st) (mode : Nat)
    (grouped : Bool) {f : Nat → Nat}
    (ai : AncInv self mode (sortNat st.sub.inHer.keys)
      ((sortNat st.sub.inHer.keys).foldl (ancStep mode) self) f) :
    addFinal self st mode grouped =
      { n := ((sortNat st.sub.inHer.keys).foldl (ancStep mode) self).n,
        spec := ((sortNat st.sub.inHer.keys).foldl (ancStep mode) self).spec
          ++ addedComps st mode grouped,
        inHer := Dict.mapKeys f self.inHer ++ st.sub.inHer.map (fun p => (p.1 + mode, p.2)),
        outHer := Dict.mapKeys f self.outHer ++ st.sub.inHer.map (fun p => (p.1 + mode, p.2)),
        extIn := ((sortNat st.sub.inHer.keys).foldl (ancStep mode) self).extIn,
        extOut := ((sortNat st.sub.inHer.keys).foldl (ancStep mode) self).extOut,
        internal := self.internal.map f ++ (sortNat st.sub.inHer.keys).map (mode + ·) } := by
  have hnd : ((st.sub.inHer.map fun p => (p.1 + mode, p.2)).map (·.1)).Nodup := by
    show (Dict.mapKeys (· + mode) st.sub.inHer).keys.Nodup
    rw [keys_mapKeys]
    exact nodup_map_of_inj (fun a b h => by omega) inv.nodup
  have hfresh : ∀ (d : Dict), ∀ k ∈ (st.sub.inHer.map fun p => (p.1 + mode, p.2)).map (·.1),
      k ∉ (Dict.mapKeys f d).keys := by
    intro d k hk hk2
    simp only [List.map_map, List.mem_map, Function.comp] at hk
    obtain ⟨p, hp, rfl⟩ := hk
    rw [keys_mapKeys] at hk2
    simp only [List.mem_map] at hk2
    obtain ⟨a, -, ha⟩ := hk2
    have hpk : p.1 ∈ sortNat st.sub.inHer.keys := by
      rw [mem_sortNat]; simp only [Dict.keys, List.mem_map]; exact ⟨p, hp, rfl⟩
    exact ai.avoid a p.1 hpk (by omega)
  unfold addFinal
  simp only [herFold_eq]
  rw [ai.inHer, ai.outHer, foldl_set_fresh _ _ hnd (hfresh _), foldl_set_fresh _ _ hnd (hfresh _),
    ai.internal]

theorem addFinal_ancInv (self : Circ K) (hwf : self.WF) (st : Circ.AddSt K) {h : Nat}
    (inv : SubInv h st) (mode : Nat) :
    AncInv self mode (sortNat st.sub.inHer.keys)
      ((sortNat st.sub.inHer.keys).foldl (ancStep mode) self)
      (C02Sem.bumps ((sortNat st.sub.inHer.keys).map (mode + ·))) :=
  ancInv_fold hwf mode (strictSorted_sortNat inv.nodup)

/-- The old herald and ancilla modes move by the injective relabelling `f` of the new-ancilla loop, the
new ones are the `mode + m` that `f` avoids, so the two halves of each dictionary and of the ancilla
list are disjoint (`hfresh`); a lookup at an old mode finds the old entry (`hold`), one at a new mode
the entry of the added circuit (`hnew`).  `f` is abstract here: only the fields of `AncInv` are used. -/
theorem addFinal_props (self : Circ K) (hwf : self.WF) (st : Circ.AddSt K) (h : Nat) (inv : SubInv h st)
    (mode : Nat) (grouped : Bool) (hfit : mode + st.sub.n ≤ self.n + h) :
    (addFinal self st mode grouped).WF ∧
    (addFinal self st mode grouped).internal.length = self.internal.length + h ∧
    (addFinal self st mode grouped).ports = self.ports ∧
    (∀ a ∈ self.internal, ∃ a' ∈ (addFinal self st mode grouped).internal, a ≤ a' ∧
        (addFinal self st mode grouped).inHer.get? a' = self.inHer.get? a ∧
        (addFinal self st mode grouped).outHer.get? a' = self.outHer.get? a) := by
  have ai := addFinal_ancInv self hwf st inv mode
  rw [addFinal_eq self st inv mode grouped ai]
  generalize C02Sem.bumps ((sortNat st.sub.inHer.keys).map (mode + ·)) = f at ai ⊢
  generalize (sortNat st.sub.inHer.keys).foldl (ancStep mode) self = s1 at ai ⊢
  have hlenL : (sortNat st.sub.inHer.keys).length = h := by
    rw [length_sortNat]; simp [Dict.keys, inv.len]
  have hn : s1.n = self.n + h := by rw [ai.n_eq, hlenL]
  have hHkeys : (Dict.keys (st.sub.inHer.map fun p => (p.1 + mode, p.2))) = st.sub.inHer.keys.map (· + mode) :=
    keys_mapKeys (· + mode) st.sub.inHer
  have hfresh : ∀ a, ∀ m ∈ st.sub.inHer.keys, f a ≠ m + mode := by
    intro a m hm hh
    exact ai.avoid a m (mem_sortNat.mpr hm) (by omega)
  have hnodup : ∀ d : Dict, d.keys.Nodup →
      (Dict.keys (Dict.mapKeys f d ++ st.sub.inHer.map fun p => (p.1 + mode, p.2))).Nodup := by
    intro d hd
    rw [keys_append, keys_mapKeys, hHkeys, List.nodup_append]
    refine ⟨?_, ?_, ?_⟩
    · exact nodup_map_of_inj ai.inj hd
    · exact nodup_map_of_inj (fun a b h => by omega) inv.nodup
    · intro a ha b hb
      simp only [List.mem_map] at ha hb
      obtain ⟨x, -, rfl⟩ := ha
      obtain ⟨y, hy, rfl⟩ := hb
      exact hfresh x y hy
  have hlt : ∀ d : Dict, (∀ k ∈ d.keys, k < self.n) →
      ∀ k ∈ (Dict.keys (Dict.mapKeys f d ++ st.sub.inHer.map fun p => (p.1 + mode, p.2))), k < s1.n := by
    intro d hd k hk
    rw [keys_append] at hk
    rcases List.mem_append.mp hk with hk | hk
    · rw [keys_mapKeys] at hk
      simp only [List.mem_map] at hk
      obtain ⟨a, ha, rfl⟩ := hk
      have := hd a ha; have := ai.le' a; omega
    · rw [hHkeys] at hk
      simp only [List.mem_map] at hk
      obtain ⟨a, ha, rfl⟩ := hk
      have := inv.lt a ha; omega
  have hold : ∀ (d : Dict) a, (d.get? a).isSome →
      Dict.get? (Dict.mapKeys f d ++ st.sub.inHer.map fun p => (p.1 + mode, p.2)) (f a) = d.get? a := by
    intro d a hs
    rw [get?_append, get?_mapKeys ai.inj]
    cases hg : d.get? a with
    | none => rw [hg] at hs; simp at hs
    | some v => rfl
  have hnew : ∀ (d : Dict) m, m ∈ st.sub.inHer.keys →
      Dict.get? (Dict.mapKeys f d ++ st.sub.inHer.map fun p => (p.1 + mode, p.2)) (mode + m) =
        Dict.get? (st.sub.inHer.map fun p => (p.1 + mode, p.2)) (mode + m) := by
    intro d m hm
    rw [get?_append]
    have : Dict.get? (Dict.mapKeys f d) (mode + m) = none := by
      rw [get?_eq_none_iff, keys_mapKeys]
      intro hh
      simp only [List.mem_map] at hh
      obtain ⟨a, -, ha⟩ := hh
      exact hfresh a m hm (by omega)
    rw [this]; rfl
  refine ⟨⟨?_, ?_, ?_, ?_, ?_, ?_, ?_, ?_⟩, ?_, ?_, ?_⟩
  · exact hnodup _ hwf.inNodup
  · exact hnodup _ hwf.outNodup
  · exact hlt _ hwf.inLt
  · exact hlt _ hwf.outLt
  · show List.length (_ ++ _) = List.length (_ ++ _)
    simp [length_mapKeys, hwf.lenEq]
  · show (self.internal.map f ++ (sortNat st.sub.inHer.keys).map (mode + ·)).Nodup
    rw [List.nodup_append]
    refine ⟨nodup_map_of_inj ai.inj hwf.intNodup, ?_, ?_⟩
    · exact nodup_map_of_inj (fun a b h => by omega) (nodup_sortNat inv.nodup)
    · intro a ha b hb
      simp only [List.mem_map] at ha hb
      obtain ⟨x, -, rfl⟩ := ha
      obtain ⟨y, hy, rfl⟩ := hb
      exact ai.avoid x y hy
  · intro a ha
    have ha' : a ∈ self.internal.map f ++ (sortNat st.sub.inHer.keys).map (mode + ·) := ha
    rcases List.mem_append.mp ha' with ha' | ha'
    · simp only [List.mem_map] at ha'
      obtain ⟨x, hx, rfl⟩ := ha'
      obtain ⟨h1, h2⟩ := hwf.intHer x hx
      show (Dict.get? (_ ++ _) (f x)).isSome ∧ Dict.get? (_ ++ _) (f x) = Dict.get? (_ ++ _) (f x)
      rw [hold _ x h1, hold _ x (h2 ▸ h1)]
      exact ⟨h1, h2⟩
    · simp only [List.mem_map] at ha'
      obtain ⟨y, hy, rfl⟩ := ha'
      have hy' := mem_sortNat.mp hy
      show (Dict.get? (_ ++ _) (mode + y)).isSome ∧ Dict.get? (_ ++ _) (mode + y) = Dict.get? (_ ++ _) (mode + y)
      rw [hnew _ y hy', hnew _ y hy']
      refine ⟨?_, rfl⟩
      rw [get?_isSome_iff]
      simp only [Dict.keys, List.map_map, List.mem_map, Function.comp] at hy' ⊢
      obtain ⟨p, hp, rfl⟩ := hy'
      exact ⟨p, hp, by omega⟩
  · intro comp hc m hm
    have hc' : comp ∈ s1.spec ++ addedComps st mode grouped := hc
    show m < s1.n
    rcases List.mem_append.mp hc' with hc' | hc'
    · exact ai.modes comp hc' m hm
    · have := (addedComps_modes st inv mode grouped comp hc' m hm).2
      omega
  · show (self.internal.map f ++ (sortNat st.sub.inHer.keys).map (mode + ·)).length = _
    simp [hlenL]
  · show s1.n - (self.internal.map f ++ (sortNat st.sub.inHer.keys).map (mode + ·)).length = self.n - self.internal.length
    simp only [List.length_append, List.length_map, hlenL, hn]; omega
  · intro a ha
    obtain ⟨h1, h2⟩ := hwf.intHer a ha
    refine ⟨f a, ?_, ai.le a, ?_, ?_⟩
    · show f a ∈ self.internal.map f ++ _
      exact List.mem_append_left _ (List.mem_map_of_mem ha)
    · exact hold _ a h1
    · exact hold _ a (h2 ▸ h1)

theorem add_preserves_WF (self sub self' : Circ K) (hs : self.WF) (hsub : sub.WF)
    (m : Int) (g : Bool) (h : self.add sub m g = .ok self') :
    self'.WF ∧
    self'.internal.length = self.internal.length + sub.inHer.length ∧
    self'.ports = self.ports ∧
    (∀ a ∈ self.internal, ∃ a' ∈ self'.internal, a ≤ a' ∧ self'.inHer.get? a' = self.inHer.get? a
        ∧ self'.outHer.get? a' = self.outHer.get? a) := by
  obtain ⟨mode, ts, -, -, hfit, rfl⟩ := add_ok_ins h
  have inv := subInv_subIns hsub g ts
  have hle := inv.len_le
  rw [subIns_n] at hle
  exact addFinal_props self hs _ _ inv mode _ (by rw [subIns_n]; omega)

end LW.Proofs.C02
