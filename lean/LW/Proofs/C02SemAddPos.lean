/-
  LW.Proofs.C02SemAddPos — positions after `Circuit.add`: the new ancilla modes `ancModes`, where the
  parent's modes, its ancillas and the sub-circuit's free modes end up (the combinatorial core of the
  refinement; no matrices).
-/
import LW.Proofs.C02SemAddData
import LW.Proofs.Arrangement

open scoped BigOperators

namespace LW.Proofs.C02Sem

open LW LW.Proofs.C01Aux LW.Proofs.C02

variable {K : Type} [CommRing K] [StarRing K]

-- `AddData` is stated with `[CommRing K] [StarRing K]`; what speaks of it takes them along, used or not
set_option linter.unusedSectionVars false

theorem insOk_sorted (n : Nat) (l : List Nat) (hs : l.Pairwise (· < ·))
    (hlt : ∀ x ∈ l, x < n + l.length) : InsOk n l := by
  induction l generalizing n with
  | nil => trivial
  | cons k l ih =>
    have := head_add_length_le k l (n + (k :: l).length) hs hlt
    simp only [List.length_cons] at this
    refine ⟨by omega, ih (n + 1) hs.of_cons ?_⟩
    intro x hx
    have := hlt x (by simp [hx])
    simp only [List.length_cons] at this
    omega

/-- the modes of the result that hold the sub-circuit's heralded modes (its new ancillas), ascending:
heralded mode `k` of the sub-circuit sits at `bumps ts k` after the pass-through insertions `ts` and
at `mode + bumps ts k` in the result. This is the list `AddData` writes out in `flat`, `inHer`,
`outHer`, `internal`, and `C02.ancPos mode H` for the heralds `H` after the insertions. -/
abbrev ancModes (sub : Circ K) (mode : Nat) (ts : List Nat) : List Nat :=
  (sortNat (sub.inHer.keys.map (bumps ts))).map (mode + ·)

/-- where a mode of the parent sits in the result: the new ancilla modes are inserted around it -/
def parMap (sub : Circ K) (mode : Nat) (ts : List Nat) : Nat → Nat := bumps (ancModes sub mode ts)

theorem AddData.ancModes_spec {par sub res : Circ K} {m : Int} {g : Bool} {mode : Nat} {ts : List Nat}
    (d : AddData par sub res m g mode ts) (hwfs : sub.WF) :
    (ancModes sub mode ts).length = sub.inHer.length ∧ (ancModes sub mode ts).Pairwise (· < ·) ∧
    (∀ x ∈ ancModes sub mode ts, x < mode + (sub.n + ts.length)) ∧ InsOk par.n (ancModes sub mode ts) := by
  have hKlen : (ancModes sub mode ts).length = sub.inHer.length := by
    rw [List.length_map, length_sortNat, List.length_map, keys_length]
  have hknd : (sub.inHer.keys.map (bumps ts)).Nodup :=
    nodup_map_of_inj (fun a b => bumps_inj ts) hwfs.inNodup
  have hKs : (ancModes sub mode ts).Pairwise (· < ·) := by
    rw [List.pairwise_map]
    exact (strictSorted_sortNat hknd).imp (fun hab => by omega)
  have hKlt : ∀ x ∈ ancModes sub mode ts, x < mode + (sub.n + ts.length) := by
    intro x hx
    obtain ⟨k, hk, rfl⟩ := List.mem_map.mp hx
    rw [mem_sortNat] at hk
    obtain ⟨x0, hx0, rfl⟩ := List.mem_map.mp hk
    have h1 := bumps_of_ge sub.n ts d.ok sub.n (Nat.le_refl _)
    have h2 := bumps_strictMono ts (hwfs.inLt x0 hx0)
    omega
  refine ⟨hKlen, hKs, hKlt, insOk_sorted par.n _ hKs (fun x hx => ?_)⟩
  have := hKlt x hx
  have := d.fit
  rw [hKlen]; omega

/-- Where everything sits in the result of an accepted `add`, for the parent's relabelling
`f = parMap sub mode ts` (`addPos`) and the sub-circuit's relabelling `mode + bumps ts ·`.
`f_*`: `f` is increasing, the identity below `mode`, a shift by the number `h` of new ancillas from
`par.n` on (the loss indices), and its image on `[0, par.n)` is exactly the complement in
`[0, par.n + h)` of the new ancilla modes `mode + bumps ts k`, `k` a heralded mode of `sub`
(`f_not_new`, `f_surj`). `anc`/`pt`: an ancilla of the parent lands below the window
`[mode, mode + sub.n + |ts|)`, on a pass-through slot `mode + t` with `t ∈ ts`, or above the window,
and every slot is hit. `b_*`: `bumps ts` maps `[0, sub.n)` onto the positions of the window that are
not pass-through slots. -/
structure AddPos (par sub : Circ K) (mode : Nat) (ts : List Nat) (f : Nat → Nat) : Prop where
  f_mono : ∀ a b, a < b → f a < f b
  f_not_new : ∀ x k, k ∈ sub.inHer.keys → f x ≠ mode + bumps ts k
  f_surj : ∀ y, y < par.n + sub.inHer.length → (∀ k ∈ sub.inHer.keys, y ≠ mode + bumps ts k) →
    ∃ x, x < par.n ∧ f x = y
  f_low : ∀ x, x < mode → f x = x
  f_ge : ∀ x, x ≤ f x
  f_loss : ∀ x, par.n ≤ x → f x = x + sub.inHer.length
  f_lt : ∀ x, x < par.n → f x < par.n + sub.inHer.length
  anc : ∀ i ∈ par.internal, f i < mode ∨ (∃ t ∈ ts, f i = mode + t) ∨ mode + (sub.n + ts.length) ≤ f i
  pt : ∀ t ∈ ts, ∃ i ∈ par.internal, f i = mode + t
  fit : mode + (sub.n + ts.length) ≤ par.n + sub.inHer.length
  b_lt : ∀ x, x < sub.n → bumps ts x < sub.n + ts.length
  b_surj : ∀ w, w < sub.n + ts.length → w ∉ ts → ∃ x, x < sub.n ∧ bumps ts x = w

theorem AddPos.f_inj {par sub : Circ K} {mode : Nat} {ts : List Nat} {f : Nat → Nat}
    (pos : AddPos par sub mode ts f) {a b : Nat} (e : f a = f b) : a = b := by
  rcases Nat.lt_trichotomy a b with h | h | h
  · have := pos.f_mono a b h; omega
  · exact h
  · have := pos.f_mono b a h; omega

theorem addPos (par sub res : Circ K) (m : Int) (g : Bool) (mode : Nat) (ts : List Nat)
    (d : AddData par sub res m g mode ts) (hwfs : sub.WF) :
    AddPos par sub mode ts (parMap sub mode ts) := by
  unfold parMap C02Sem.ancModes
  set H'k := sub.inHer.keys.map (bumps ts) with hH'k
  set A := (sortNat H'k).map (mode + ·) with hA
  obtain ⟨hKlen, hKs, hKlt, hKok⟩ := d.ancModes_spec hwfs
  have hb_lt : ∀ x, x < sub.n → bumps ts x < sub.n + ts.length := by
    intro x hx
    have h1 := bumps_of_ge sub.n ts d.ok sub.n (Nat.le_refl _)
    have h2 := bumps_strictMono ts hx
    omega
  have hmemK : ∀ y, y ∈ A ↔ ∃ k ∈ sub.inHer.keys, y = mode + bumps ts k := by
    intro y
    rw [hA, List.mem_map]
    constructor
    · rintro ⟨w, hw, rfl⟩
      rw [mem_sortNat, hH'k, List.mem_map] at hw
      obtain ⟨k, hk, rfl⟩ := hw
      exact ⟨k, hk, rfl⟩
    · rintro ⟨k, hk, rfl⟩
      exact ⟨bumps ts k, by rw [mem_sortNat, hH'k]; exact List.mem_map.mpr ⟨k, hk, rfl⟩, rfl⟩
  have hKge : ∀ x ∈ A, mode ≤ x := by
    intro x hx
    obtain ⟨k, -, rfl⟩ := (hmemK x).mp hx
    omega
  have hcnt : ∀ t, cntLt A (mode + t) = cntLt H'k t := by
    intro t
    rw [hA, cntLt_map_add, cntLt_sortNat]
  have hloss : ∀ x, par.n ≤ x → bumps A x = x + sub.inHer.length := by
    intro x hx
    rw [bumps_of_ge par.n A hKok x hx, hKlen]
  -- the rank equation of an ancilla says where it sits in the result: on the pass-through slot `t`
  have hrank : ∀ i t, mode ≤ i → t ∈ ts → i - mode + cntLt H'k t = t → bumps A i = mode + t := by
    intro i t hi ht he
    apply bumps_eq_of_rank A hKs
    · intro hmem
      obtain ⟨k, -, e⟩ := (hmemK _).mp hmem
      have : t = bumps ts k := by omega
      exact bumps_not_mem ts d.sorted k (this ▸ ht)
    · rw [hcnt]; omega
  refine ⟨fun a b => bumps_strictMono A, ?_, ?_, ?_, le_bumps A, hloss, ?_, ?_, ?_, d.fit, hb_lt, ?_⟩
  · intro x k hk e
    exact bumps_not_mem A hKs x (e ▸ (hmemK _).mpr ⟨k, hk, rfl⟩)
  · intro y hy hne
    have hyK : y ∉ A := by
      intro hmem
      obtain ⟨k, hk, e⟩ := (hmemK y).mp hmem
      exact hne k hk e
    exact (bumps_range hKs (fun a ha => by have := hKlt a ha; have := d.fit; omega)).mp ⟨hKlen ▸ hy, hyK⟩
  · intro x hx
    exact bumps_of_lt A x (fun k hk => by have := hKge k hk; omega)
  · intro x hx
    have := hloss par.n (Nat.le_refl _)
    have := bumps_strictMono A hx
    omega
  · intro i hi
    rcases d.fwd i hi with h | ⟨h1, t, ht, h2⟩ | ⟨h1, h2⟩
    · left
      rw [bumps_of_lt A i (fun k hk => by have := hKge k hk; omega)]
      exact h
    · right; left
      exact ⟨t, ht, hrank i t h1 ht h2⟩
    · right; right
      have h2 : ((sub.n + ts.length : Nat) : Int) ≤ targetOf H'k ((i : Int) - (mode : Int)) := h2
      obtain ⟨-, b2, -⟩ := targetOf_bounds H'k ((i : Int) - (mode : Int))
      have hlen : H'k.length = sub.inHer.length := by rw [hH'k, List.length_map, keys_length]
      rw [hlen] at b2
      have hy : bumps A i = i + sub.inHer.length := by
        apply bumps_eq_of_rank A hKs
        · intro hmem
          have := hKlt _ hmem
          omega
        · rw [cntLt_all A _ (fun k hk => by have := hKlt k hk; omega), hKlen]
      rw [hy]
      omega
  · intro t ht
    obtain ⟨i, hi, h1, h2⟩ := d.bwd t ht
    exact ⟨i, hi, hrank i t h1 ht h2⟩
  · exact fun w hw hwt => (bumps_range d.sorted d.lt).mp ⟨hw, hwt⟩

theorem prefix_of_lower {A B : List Nat} (hA : A.Pairwise (· < ·)) (hB : B.Pairwise (· < ·))
    (hsub : ∀ a ∈ A, a ∈ B) (hdc : ∀ b ∈ B, (∃ a ∈ A, b ≤ a) → b ∈ A) : A <+: B := by
  induction A generalizing B with
  | nil => exact List.nil_prefix
  | cons a A ih =>
    cases B with
    | nil => cases hsub a (List.mem_cons_self)
    | cons b B =>
      have hab : a = b := by
        rcases List.mem_cons.mp (hsub a List.mem_cons_self) with e | h
        · exact e
        · have hba := List.rel_of_pairwise_cons hB h
          rcases List.mem_cons.mp (hdc b List.mem_cons_self ⟨a, List.mem_cons_self, by omega⟩) with e | h'
          · exact e.symm
          · have := List.rel_of_pairwise_cons hA h'; omega
      subst hab
      rw [List.cons_prefix_cons]
      refine ⟨rfl, ih hA.of_cons hB.of_cons ?_ ?_⟩
      · intro a' ha'
        rcases List.mem_cons.mp (hsub a' (List.mem_cons_of_mem _ ha')) with e | h
        · have := List.rel_of_pairwise_cons hA ha'; omega
        · exact h
      · intro b' hb' ⟨a', ha', hle⟩
        rcases List.mem_cons.mp (hdc b' (List.mem_cons_of_mem _ hb')
          ⟨a', List.mem_cons_of_mem _ ha', hle⟩) with e | h
        · have := List.rel_of_pairwise_cons hB hb'; omega
        · exact h

theorem mem_drop_sorted {P : List Nat} (hP : P.Pairwise (· < ·)) {m : Nat} (hm : m < P.length)
    (y : Nat) : y ∈ P.drop m ↔ y ∈ P ∧ P[m] ≤ y := by
  constructor
  · intro hy
    refine ⟨List.mem_of_mem_drop hy, ?_⟩
    obtain ⟨k, hk, rfl⟩ := List.mem_iff_getElem.mp hy
    rw [List.getElem_drop]
    by_cases h0 : k = 0
    · subst h0; exact Nat.le_refl _
    · rw [List.length_drop] at hk
      exact Nat.le_of_lt (List.pairwise_iff_getElem.mp hP m (m + k) hm (by omega) (by omega))
  · rintro ⟨hy, hle⟩
    obtain ⟨idx, hidx, rfl⟩ := List.mem_iff_getElem.mp hy
    have hmi : m ≤ idx := by
      by_contra hc
      have := List.pairwise_iff_getElem.mp hP idx m hidx hm (by omega)
      omega
    have : P[idx] = (P.drop m)[idx - m]'(by rw [List.length_drop]; omega) := by
      rw [List.getElem_drop]; congr 1; omega
    rw [this]
    exact List.getElem_mem _

/-- abstract form of the window lemma: two increasing enumerations of the same set agree -/
theorem window_aux (P FS : List Nat) (f b : Nat → Nat) (mode m : Nat) (hPs : P.Pairwise (· < ·))
    (hFSs : FS.Pairwise (· < ·)) (hm : m < P.length) (hmode : P[m] = mode)
    (hfmono : ∀ x y, x < y → f x < f y) (hbmono : ∀ x y, x < y → b x < b y)
    (hpre : ∀ x ∈ FS, ∃ y, y ∈ P ∧ mode ≤ y ∧ f y = mode + b x)
    (hdc : ∀ a ∈ P, mode ≤ a → (∃ x ∈ FS, f a ≤ mode + b x) → ∃ x ∈ FS, f a = mode + b x) :
    ∀ j (hj : j < FS.length), ∃ hmj : m + j < P.length, f P[m + j] = mode + b FS[j] := by
  have hmem := mem_drop_sorted hPs hm
  rw [hmode] at hmem
  have hpf : FS.map (fun x => mode + b x) <+: (P.drop m).map f := by
    apply prefix_of_lower
    · rw [List.pairwise_map]
      exact hFSs.imp (fun h => by have := hbmono _ _ h; omega)
    · rw [List.pairwise_map]
      exact (hPs.sublist (List.drop_sublist m P)).imp (fun h => hfmono _ _ h)
    · intro a ha
      obtain ⟨x, hx, rfl⟩ := List.mem_map.mp ha
      obtain ⟨y, hy, hmy, e⟩ := hpre x hx
      exact List.mem_map.mpr ⟨y, (hmem y).mpr ⟨hy, hmy⟩, e⟩
    · rintro v hv ⟨a, ha, hle⟩
      obtain ⟨y, hy, rfl⟩ := List.mem_map.mp hv
      obtain ⟨x, hx, rfl⟩ := List.mem_map.mp ha
      obtain ⟨hyP, hmy⟩ := (hmem y).mp hy
      obtain ⟨x', hx', e⟩ := hdc y hyP hmy ⟨x, hx, hle⟩
      exact List.mem_map.mpr ⟨x', hx', e.symm⟩
  intro j hj
  have hjA : j < (FS.map fun x => mode + b x).length := by rw [List.length_map]; exact hj
  have hjB : j < ((P.drop m).map f).length := Nat.lt_of_lt_of_le hjA hpf.length_le
  have hmj : m + j < P.length := by
    rw [List.length_map, List.length_drop] at hjB; omega
  have e := hpf.getElem hjA
  rw [List.getElem_map, List.getElem_map, List.getElem_drop] at e
  exact ⟨hmj, e.symm⟩

/-- The window: the parent's ports from the `m`-th on (the one at `mode`) land, under `f`, on the
sub-circuit's free modes in order, `f (ports[m + j]) = mode + bumps ts (free[j])`. `Ctx.arr_wire`
(C02SemAdd) rests on it. -/
theorem window (par sub : Circ K) (mode : Nat) (ts : List Nat)
    (f : Nat → Nat) (pos : AddPos par sub mode ts f) (hts : ts.Pairwise (· < ·)) (m : Nat)
    (hm : m < par.portModes.length) (hmode : par.portModes[m] = mode) (j : Nat)
    (hj : j < (freeOf sub.n sub.inHer.keys).length) :
    ∃ hmj : m + j < par.portModes.length,
      f (par.portModes[m + j]) = mode + bumps ts ((freeOf sub.n sub.inHer.keys)[j]) := by
  have hfinj : ∀ a b, f a = f b → a = b := fun a b e => pos.f_inj e
  apply window_aux par.portModes (freeOf sub.n sub.inHer.keys) f (bumps ts) mode m
    (portModes_sorted par) (freeOf_sorted _ _) hm hmode pos.f_mono (fun x y => bumps_strictMono ts)
  · -- every shifted free mode is the image of a port above `mode`
    intro x hx
    obtain ⟨hxn, hxk⟩ := mem_freeOf.mp hx
    have hbx := pos.b_lt x hxn
    obtain ⟨y, hy, e⟩ := pos.f_surj (mode + bumps ts x) (by have := pos.fit; omega) (by
      intro k hk e2
      have : bumps ts x = bumps ts k := by omega
      exact hxk (bumps_inj ts this ▸ hk))
    refine ⟨y, ?_, ?_, e⟩
    · rw [mem_portModes]
      refine ⟨hy, ?_⟩
      intro hyi
      rcases pos.anc y hyi with h | ⟨t, ht, h⟩ | h
      · omega
      · have : bumps ts x = t := by omega
        exact bumps_not_mem ts hts x (this ▸ ht)
      · omega
    · by_contra hc
      have := pos.f_low y (by omega)
      omega
  · -- every port in the window is a shifted free mode
    intro a ha hma ⟨x0, hx0, hle⟩
    have hb0 := pos.b_lt x0 (mem_freeOf.mp hx0).1
    have hge := pos.f_ge a
    have hwt : f a - mode ∉ ts := by
      intro ht
      obtain ⟨i, hi, e⟩ := pos.pt _ ht
      have : f i = f a := by omega
      have := hfinj _ _ this
      subst this
      exact ((mem_portModes par).mp ha).2 hi
    obtain ⟨x, hx, e⟩ := pos.b_surj (f a - mode) (by omega) hwt
    refine ⟨x, ?_, by omega⟩
    rw [mem_freeOf]
    refine ⟨hx, ?_⟩
    intro hk
    exact pos.f_not_new a x hk (by omega)

end LW.Proofs.C02Sem
