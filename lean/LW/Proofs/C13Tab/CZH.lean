/- kernel decision of the amplitude table of `CZ_Heralded` (`closedTable`, LW/Proofs/C13Eval.lean) -/
import LW.Proofs.C13Eval
import LW.Proofs.C13Struct

namespace LW.Gates

theorem tab_CZH : closedTable (czhClosed cCZH) herCZH 2 kCZH namedCZ true = true := by decide +kernel

end LW.Gates
