/-
  C12 — Qiskit conversion preserves the circuit's unitary, or refuses.

  Only the property theorems and their non-vacuity examples live here; helper lemmas are in
  LW/Proofs/C12.lean (decision logic) and LW/Proofs/C12*.lean (amplitude-level clause).  The
  model (LW.Model.QConvert) mirrors qiskit_convert.py: `toAdjacent` is
  `convert_two_qubits_to_adjacent`, `psAnalyze true` is `post_selection_analyzer` with the repaired
  rule (F2; `psAnalyze false` is the rule of the pinned code), `convert` is
  `QiskitConverter.convert`.  All statements are for every instruction list (any length, any
  qubits, any number of qubits).

  What is proved:
  * the decision logic — adjacency swaps, safety of the post-selection analysis in the per-qubit
    photon-number semantics, the refusal paths;
  * the amplitude-level clause `convert_correct` (= `convert_correct_statement`): for every field
    with valid gate constants, all rotation parameters, either mode and every accepted instruction
    list on distinct in-range qubits, the circuit assembled from the library's gates maps each
    dual-rail basis input to accepted outputs whose amplitudes are one common non-zero scalar times
    the ideal action of the instruction list, and 0 outside the qubit subspace.  Proof
    (LW/Proofs/C12Correct.lean): the Fock functor in polynomial form (substitution homomorphisms of
    `MvPolynomial ℕ R`, characteristic-free, multiplicative by construction), a refinement of
    `Circuit.add` without unitarity hypotheses, the C13 amplitude tables per gate,
    `ps_analysis_safe` for the post-selection rules, and a forward induction over the instruction
    list.
  Two concrete test vectors of that clause, decided by the kernel, are in LW/Properties/C12Inst.lean.
  The agreement of `idealRun` with `qiskit.quantum_info.Operator` (little-endian) is what the
  harness checks on every run (harness/props/c12.py, `oracle:`); it is not a Lean statement.
-/
import LW.Proofs.C12
import LW.Model.QConvertSem
import LW.Proofs.C12Correct

namespace LW.C12

open LW.QC LW.Gates LW.QF

/-- `convert_two_qubits_to_adjacent`, for any two distinct qubits: the returned qubits are
adjacent, in the same order as the arguments, inside their span; the swaps move the two argument
qubits exactly onto them, stay inside the span, and applying them a second time (as the converter
does after the gate) restores every qubit. -/
theorem adjacent_swaps_conjugate (q0 q1 : Nat) (h : q0 ≠ q1) :
    ((toAdjacent q0 q1).1 + 1 = (toAdjacent q0 q1).2.1 ∨ (toAdjacent q0 q1).2.1 + 1 = (toAdjacent q0 q1).1) ∧
    (q0 < q1 ↔ (toAdjacent q0 q1).1 < (toAdjacent q0 q1).2.1) ∧
    min q0 q1 ≤ min (toAdjacent q0 q1).1 (toAdjacent q0 q1).2.1 ∧
    max (toAdjacent q0 q1).1 (toAdjacent q0 q1).2.1 ≤ max q0 q1 ∧
    applySwaps (toAdjacent q0 q1).2.2 q0 = (toAdjacent q0 q1).1 ∧
    applySwaps (toAdjacent q0 q1).2.2 q1 = (toAdjacent q0 q1).2.1 ∧
    (∀ q, applySwaps (toAdjacent q0 q1).2.2 (applySwaps (toAdjacent q0 q1).2.2 q) = q) ∧
    (∀ p ∈ (toAdjacent q0 q1).2.2, min q0 q1 ≤ min p.1 p.2 ∧ max p.1 p.2 ≤ max q0 q1) := by
  rcases Nat.lt_or_gt_of_ne h with hlt | hgt
  · obtain ⟨l, h1, h2, e, _⟩ := toAdjacent_lt q0 q1 hlt
    rw [e]
    refine ⟨Or.inl rfl, ⟨fun _ => Nat.lt_succ_self l, fun _ => hlt⟩,
      (by omega : min q0 q1 ≤ min l (l + 1)), (by omega : max l (l + 1) ≤ max q0 q1),
      applySwaps_swapsFor_lo q0 q1 l h2, applySwaps_swapsFor_hi q0 q1 l h1 h2,
      applySwaps_swapsFor_invol q0 q1 l h1 h2, ?_⟩
    intro p hp
    rcases mem_swapsFor.mp hp with ⟨_, rfl⟩ | ⟨_, rfl⟩ <;> exact ⟨by omega, by omega⟩
  · obtain ⟨l, h1, h2, _, e⟩ := toAdjacent_lt q1 q0 hgt
    rw [e]
    refine ⟨Or.inr rfl, ⟨fun hh => absurd hh (Nat.lt_asymm hgt), fun hh => absurd hh (by simp)⟩,
      (by omega : min q0 q1 ≤ min (l + 1) l), (by omega : max (l + 1) l ≤ max q0 q1),
      applySwaps_swapsFor_hi q1 q0 l h1 h2, applySwaps_swapsFor_lo q1 q0 l h2,
      applySwaps_swapsFor_invol q1 q0 l h1 h2, ?_⟩
    intro p hp
    rcases mem_swapsFor.mp hp with ⟨_, rfl⟩ | ⟨_, rfl⟩ <;> exact ⟨by omega, by omega⟩

example : toAdjacent 5 0 = (3, 2, [(0, 2), (5, 3)]) := by decide

/-- **Safety of the (repaired) post-selection analysis.**  Run the instruction list with the
analyser's flags from one photon per qubit, in the semantics where a post-selected gate may
redistribute photons among its qubits arbitrarily and a heralded gate is only known to map
all-ones to all-ones.  If at the end every qubit that carries a post-selection rule holds one
photon, then after *every* instruction every qubit held exactly one photon. -/
theorem ps_analysis_safe (nq : Nat) (gs : List Instr) (c0 : Config) (tr : List Config)
    (hwf : ∀ g ∈ gs, ∀ q ∈ g.qubits, q < nq) (h0 : AllOne nq c0)
    (hrun : Run gs (psAnalyze true gs).1 c0 tr)
    (hfin : ∀ q ∈ (psAnalyze true gs).2, finalOf c0 tr q = 1) :
    ∀ c ∈ tr, AllOne nq c :=
  QC.ps_analysis_safe nq gs c0 tr hwf h0 hrun hfin

/-- the hypotheses are met by a run through two post-selected `cx` -/
example : ∃ tr, Run [⟨"cx", [0, 1]⟩, ⟨"cx", [1, 2]⟩] (psAnalyze true [⟨"cx", [0, 1]⟩, ⟨"cx", [1, 2]⟩]).1
    (fun _ => 1) tr ∧ (psAnalyze true [⟨"cx", [0, 1]⟩, ⟨"cx", [1, 2]⟩]).1 = [true, true] := by
  refine ⟨[fun _ => 1, fun _ => 1], ?_, by decide⟩
  have : (psAnalyze true [⟨"cx", [0, 1]⟩, ⟨"cx", [1, 2]⟩]).1 = [true, true] := by decide
  rw [this]
  refine Run.cons _ _ _ _ _ _ _ ?_ (Run.cons _ _ _ _ _ _ _ ?_ (Run.nil _)) <;>
    (unfold stepRel redistributes; simp)

/-- F2: under the rule of the pinned code `ccx(0,1,2); cx(0,1)` is converted with both gates
post-selected … -/
theorem F2_pinned_converts :
    (psAnalyze false [⟨"ccx", [0, 1, 2]⟩, ⟨"cx", [0, 1]⟩]).1 = [true, true] := by decide

/-- … although with those flags there is a run from one photon per qubit to one photon per qubit
through the configuration (2, 0, 1): the conclusion of `ps_analysis_safe` fails for the pinned
rule. -/
theorem F2_pinned_unsafe :
    ∃ (c0 c1 c2 : Config), AllOne 3 c0 ∧ AllOne 3 c2 ∧ ¬ AllOne 3 c1 ∧
      Run [⟨"ccx", [0, 1, 2]⟩, ⟨"cx", [0, 1]⟩]
        (psAnalyze false [⟨"ccx", [0, 1, 2]⟩, ⟨"cx", [0, 1]⟩]).1 c0 [c1, c2] := by
  refine ⟨fun _ => 1, fun q => if q = 0 then 2 else if q = 1 then 0 else 1, fun _ => 1,
    fun _ _ => rfl, fun _ _ => rfl, ?_, ?_⟩
  · intro h; have := h 0 (by omega); simp at this
  · rw [F2_pinned_converts]
    refine Run.cons _ _ _ _ _ _ _ ?_ (Run.cons _ _ _ _ _ _ _ ?_ (Run.nil _))
    · unfold stepRel redistributes
      simp only [List.length_cons, List.length_nil]
      refine ⟨⟨?_, by decide⟩, by simp⟩
      intro q hq
      simp only [List.mem_cons, List.not_mem_nil, or_false, not_or] at hq
      simp [hq.1, hq.2.1]
    · unfold stepRel redistributes
      simp only [List.length_cons, List.length_nil]
      refine ⟨⟨?_, by decide⟩, by simp⟩
      intro q hq
      simp only [List.mem_cons, List.not_mem_nil, or_false, not_or] at hq
      simp [hq.1, hq.2]

/-- the repaired analyser makes the converter refuse that circuit -/
theorem F2_fixed_refuses :
    (convert true true 3 [⟨"ccx", [0, 1, 2]⟩, ⟨"cx", [0, 1]⟩]).toOption.isNone = true := by decide

/-- **The converter returns a circuit only if every instruction is placeable**: each gate is a
supported one on 1–3 qubits, and every three-qubit gate is `ccx`/`ccz` on three adjacent qubits
with post-selection allowed and that gate flagged post-selectable by the analyser.  In every
other case `convert` returns an error. -/
theorem refuses_otherwise (aps fixed : Bool) (nq : Nat) (gs : List Instr) (o : ConvOut)
    (h : convert aps fixed nq gs = .ok o) :
    ∀ k g, gs[k]? = some g →
      allowed.contains g.name = true ∧ 1 ≤ g.qubits.length ∧ g.qubits.length ≤ 3 ∧
      (g.qubits.length = 3 →
        aps = true ∧ (psAnalyze fixed gs).1.getD k false = true ∧ (g.name = "ccx" ∨ g.name = "ccz") ∧
        ∃ q0 q1 q2, g.qubits = [q0, q1, q2] ∧ max q0 (max q1 q2) - min q0 (min q1 q2) = 2) := by
  intro k g hk
  obtain ⟨hfl, hpl, -⟩ := convert_ok aps fixed nq gs o h
  obtain ⟨pl, hp⟩ := placeAll_ok_each gs 0 o.flags o.plan hpl k g hk
  obtain ⟨a, hc⟩ := placeInstr_cases _ g _ pl hp
  have hlen : 1 ≤ g.qubits.length ∧ g.qubits.length ≤ 3 := by
    rcases hc with ⟨_, hq, _⟩ | ⟨_, _, hq, _⟩ | ⟨_, _, hq, _⟩ | ⟨_, _, _, hq, _⟩ <;> rw [hq] <;>
      exact ⟨by simp, by simp⟩
  refine ⟨a, hlen.1, hlen.2, fun h3 => ?_⟩
  obtain ⟨d1, d2, d3⟩ : o.flags.getD k false = true ∧ (g.name = "ccx" ∨ g.name = "ccz") ∧
      ∃ q0 q1 q2, g.qubits = [q0, q1, q2] ∧ max q0 (max q1 q2) - min q0 (min q1 q2) = 2 := by
    rcases hc with ⟨_, hq, _⟩ | ⟨_, _, hq, _⟩ | ⟨_, _, hq, _⟩ | ⟨q0, q1, q2, hq, hf, hs, hn, _⟩
    · rw [hq] at h3; cases h3
    · rw [hq] at h3; cases h3
    · rw [hq] at h3; cases h3
    · exact ⟨hf, hn, q0, q1, q2, hq, hs⟩
  rw [hfl] at d1
  cases aps with
  | false =>
    exfalso
    simp only [Bool.false_eq_true, if_false] at d1
    have hlt : k < gs.length := by
      by_contra hc
      rw [List.getElem?_eq_none (by omega)] at hk; simp at hk
    simp [List.getD_eq_getElem?_getD, hlt] at d1
  | true => exact ⟨rfl, by simpa using d1, d2, d3⟩

example : (convert true true 3 [⟨"h", [0]⟩, ⟨"cx", [2, 0]⟩, ⟨"ccz", [0, 1, 2]⟩]).toOption.isSome = true := by
  decide

/-- heralded-only mode refuses every circuit that contains a three-qubit gate -/
theorem heralded_only_refuses_three (fixed : Bool) (nq : Nat) (gs : List Instr) (g : Instr)
    (hg : g ∈ gs) (h3 : g.qubits.length = 3) : ∃ e, convert false fixed nq gs = .error e := by
  cases h : convert false fixed nq gs with
  | error e => exact ⟨e, rfl⟩
  | ok o =>
    exfalso
    obtain ⟨k, hk⟩ := List.getElem?_of_mem hg
    have := (refuses_otherwise false fixed nq gs o h k g hk).2.2.2 h3
    simp at this

/-! ### the amplitude-level clause

The full property: for every field `R` with valid gate constants, every rotation parameters and
every instruction list on distinct in-range qubits that the converter accepts (either mode), the
converted circuit assembled from the library's gates maps each dual-rail basis input to accepted
outputs (heralds of the circuit + the returned post-selection rules) whose amplitudes are one
common non-zero scalar times the ideal action of the instruction list, and 0 outside the qubit
subspace.  `idealRun` is the textbook action of the instructions on basis amplitudes (first bit =
qubit 0); its agreement with `qiskit.quantum_info.Operator` (little-endian) is what the harness
checks.

The statement is a `def`; `convert_correct` below proves it as written.  The scalar is the
product of the per-gate scalars (1 for single-qubit gates and SWAP,
−1/3 for post-selected `cx`/`cz`, 1/4 for heralded `cx`/`cz`, i/(6√2) for `ccx`/`ccz`). -/
def convert_correct_statement : Prop :=
  ∀ (R : Type) [Field R] (c : GC R), c.Valid →
  ∀ (par : Nat → R × R) (aps : Bool) (nq : Nat) (gs : List Instr) (o : ConvOut),
    (∀ g ∈ gs, g.qubits.Nodup ∧ ∀ q ∈ g.qubits, q < nq) →
    convert aps true nq gs = .ok o →
    ∃ circ, buildCirc c par nq o.plan = .ok circ ∧ circ.n - circ.inHer.length = 2 * nq ∧
      ∃ k : R, k ≠ 0 ∧
        ∀ ib ∈ bitStrings nq, ∀ out ∈ fockStates (2 * nq) nq, accepted o.psQubits out = true →
          gateAmp c.i circ (dualRail ib) out =
            if isDualRail out then k * idealRun c par 0 gs (delta ib) (unDualRail out) else 0

/-- **Amplitude-level correctness of the converter**, for every instruction list, either mode,
every field with valid gate constants (`convert_correct_statement` as written). -/
theorem convert_correct : convert_correct_statement := by
  intro R _ c hv par aps nq gs o hwf hconv
  obtain ⟨circ, hbuild, hports, hamp⟩ := LW.C12F.convert_correct_full c hv par aps nq gs o hwf hconv
  exact ⟨circ, hbuild, hports, _, LW.C12F.listK_ne_zero c hv gs o.flags, hamp⟩

/-- the hypotheses of `convert_correct` are met, e.g. by `h(0); cx(2,0); ccz(0,1,2)` on three
qubits with post-selection allowed -/
example : ∃ o, convert true true 3 [⟨"h", [0]⟩, ⟨"cx", [2, 0]⟩, ⟨"ccz", [0, 1, 2]⟩] = .ok o ∧
    ∀ g ∈ ([⟨"h", [0]⟩, ⟨"cx", [2, 0]⟩, ⟨"ccz", [0, 1, 2]⟩] : List Instr),
      g.qubits.Nodup ∧ ∀ q ∈ g.qubits, q < 3 := by
  have h : (convert true true 3 [⟨"h", [0]⟩, ⟨"cx", [2, 0]⟩, ⟨"ccz", [0, 1, 2]⟩]).toOption.isSome
      = true := by decide
  cases hc : convert true true 3 [⟨"h", [0]⟩, ⟨"cx", [2, 0]⟩, ⟨"ccz", [0, 1, 2]⟩] with
  | error e => rw [hc] at h; simp [Except.toOption] at h
  | ok o => exact ⟨o, rfl, by decide⟩

/-- the photon-number part of that clause on its own: under the hypotheses of the statement the
run of the accepted instruction list keeps one photon in every qubit after every instruction (so
every gate sees and produces dual-rail encoded states), for the analyser's flags — this is
`ps_analysis_safe` for a converted circuit. -/
theorem convert_correct_partial (aps : Bool) (nq : Nat) (gs : List Instr) (o : ConvOut)
    (hc : convert aps true nq gs = .ok o) (haps : aps = true)
    (hwf : ∀ g ∈ gs, ∀ q ∈ g.qubits, q < nq) (c0 : Config) (tr : List Config) (h0 : AllOne nq c0)
    (hrun : Run gs o.flags c0 tr) (hfin : ∀ q ∈ (psAnalyze true gs).2, finalOf c0 tr q = 1) :
    ∀ c ∈ tr, AllOne nq c := by
  have hf := (convert_ok aps true nq gs o hc).1
  rw [haps] at hf
  simp only [if_true] at hf
  rw [hf] at hrun
  exact QC.ps_analysis_safe nq gs c0 tr hwf h0 hrun hfin

end LW.C12
