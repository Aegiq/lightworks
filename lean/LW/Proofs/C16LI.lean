/-
  LW.Proofs.C16LI — linear inversion: the closed form `liInverse` is a left inverse of the LI
  transform (`liApply`), hence the transform matrix is injective (so invertible, being square) and
  `pinv(T) @ λ` is `liInverse λ` for every consistent `λ`; with `liApply_choi` this gives
  "LI on noiseless data of V returns exactly the reference Choi matrix" (`li_returns_choi`).
-/
import LW.Proofs.C16Choi

open scoped BigOperators

namespace LW.Tomo

variable {K : Type} [Field K] [StarRing K] [DecidableEq K]

-- a theorem of this file whose statement mentions `K` takes all instance arguments of the `variable` line, used or
-- not, unless an `omit` stands in front of it: LW/Properties and the later modules cite them with these
set_option linter.unusedSectionVars false

/-- the `lambdas` dict of `LIProcessTomography.process` for data generated by the matrix `C` -/
def lamsOf (i : K) (n : Nat) (C : M K) : List ((Ins × Meas) × K) :=
  (combineAll tomoInputsLI n).flatMap fun ins =>
    (tomoMeasurements n).map fun meas => ((ins, meas), liApply i C ins meas)

theorem rhoM_dual {i : K} (hi : i * i = -1) (h2 : (1 + 1 : K) ≠ 0) :
    Dual 2 tomoInputsLI (fun t => (rhoM i t).get) (fun t => (dualRho i t).get) 1 := by
  intro a b a' b' ha hb ha' hb'
  have hh := half_add_half (K := K) h2
  have hi' : i * half * i = -half := by rw [mul_right_comm, hi, neg_one_mul]
  simp only [tomoInputsLI, List.map_cons, List.map_nil, List.sum_cons, List.sum_nil, rhoM, dualRho]
  interval_cases a <;> interval_cases b <;> interval_cases b' <;> interval_cases a' <;>
    simp only [mat2_00, mat2_01, mat2_10, mat2_11, mul_zero, zero_mul, add_zero, zero_add, mul_one,
      one_mul, mul_neg, neg_mul, neg_zero, neg_neg, hi', hh, add_neg_cancel, zero_ne_one,
      one_ne_zero, and_self, and_false, false_and, if_true, if_false]
  all_goals ring

theorem dualPauli_dual {i : K} (hi : i * i = -1) (h2 : (1 + 1 : K) ≠ 0) :
    Dual 2 Pauli.all (fun p a b => (pauliM i p).get b a) (fun p => (dualPauli i p).get) 1 := by
  intro a b a' b' ha hb ha' hb'
  have e : ∀ t : Pauli, (pauliM i t).get b a * (dualPauli i t).get a' b'
      = half * ((pauliM i t).get b a * (pauliM i t).get a' b') := by
    intro t
    unfold dualPauli scale
    rw [M.get_ofFn _ (by rw [pauliM_n]; exact ha') (by rw [pauliM_n]; exact hb')]
    ring
  rw [List.map_congr_left (fun t _ => e t), List.sum_map_mul_left, pauliM_dual hi hb ha hb' ha',
    mul_ite, mul_zero, half_two h2]
  exact if_congr and_comm rfl rfl

theorem dualRho_n (i : K) (t : InLabel) : (dualRho i t).n = 2 := by cases t <;> rfl
theorem dualPauli_n (i : K) (t : Pauli) : (dualPauli i t).n = 2 := by
  unfold dualPauli scale; rw [M.ofFn_n, pauliM_n]

theorem one_pow' (k : Nat) : (1 : K) ^ k = 1 := one_pow k

/-- the matrices `liInverse` sums (`dualRho ⊗ dualPauli`) and the rows of the LI transform
(`ρ_in ⊗ conj P_meas`) are dual: the Kronecker product of the two dual pairs of one system -/
theorem li_dual {i : K} (hi : i * i = -1) (hs : star i = -i) (h2 : (1 + 1 : K) ≠ 0) (k : Nat) :
    Dual (2 ^ (k + 1) * 2 ^ (k + 1))
      ((combos tomoInputsLI k).flatMap fun ins => (combos Pauli.all k).map fun meas => (ins, meas))
      (fun e => (kron (kronList (e.1.map (dualRho i))) (kronList (e.2.map (dualPauli i)))).get)
      (fun e => (liRowMat i e.1 e.2).get) 1 := by
  have h := ((rhoM_dual hi h2).symm.combos k).kron ((dualPauli_dual hi h2).symm.combos k)
    (fun ins meas => (ins, meas))
    (E := fun e a b =>
      entryRev (e.1.reverse.map fun t => (dualRho i t).get) (a / 2 ^ (k + 1)) (b / 2 ^ (k + 1))
        * entryRev (e.2.reverse.map fun p => (dualPauli i p).get) (a % 2 ^ (k + 1)) (b % 2 ^ (k + 1)))
    (F := fun e a b =>
      entryRev (e.1.reverse.map fun t => (rhoM i t).get) (a / 2 ^ (k + 1)) (b / 2 ^ (k + 1))
        * entryRev (e.2.reverse.map fun p a b => (pauliM i p).get b a)
            (a % 2 ^ (k + 1)) (b % 2 ^ (k + 1)))
    (fun _ _ _ _ => rfl) (fun _ _ _ _ => rfl)
  rw [one_pow, one_mul] at h
  have hp := Nat.two_pow_pos (k + 1)
  refine h.congr (fun e he a b ha hb => ?_) (fun e he a b ha hb => ?_)
  all_goals
    obtain ⟨ins, hins, he⟩ := List.mem_flatMap.mp he
    obtain ⟨meas, hmeas, rfl⟩ := List.mem_map.mp he
    have hli := combos_length _ _ ins hins
    have hlm := combos_length _ _ meas hmeas
  · have hD : (kronList (ins.map (dualRho i))).n = 2 ^ (k + 1) := by
      rw [kronList_map_n _ (dualRho_n i), hli]
    have hE : (kronList (meas.map (dualPauli i))).n = 2 ^ (k + 1) := by
      rw [kronList_map_n _ (dualPauli_n i), hlm]
    rw [get_kron_gen _ _ (by rw [hD, hE]; exact ha) (by rw [hD, hE]; exact hb), hE,
      kronList_get_of_mem_combos _ (dualRho_n i) hins (Nat.div_lt_of_lt_mul ha)
        (Nat.div_lt_of_lt_mul hb),
      kronList_get_of_mem_combos _ (dualPauli_n i) hmeas (Nat.mod_lt _ hp) (Nat.mod_lt _ hp)]
  · have hρ : (rhoKron i ins).n = 2 ^ (k + 1) := by rw [rhoKron_n, hli]
    have hP : (pauliKron i meas).n = 2 ^ (k + 1) := by rw [pauliKron_n, hlm]
    rw [liRowMat_eq hs ins meas hli hlm,
      get_kron_gen _ _ (by rw [hρ, transpose_n, hP]; exact ha) (by rw [hρ, transpose_n, hP]; exact hb),
      transpose_n, hP, get_transpose _ (by rw [hP]; exact Nat.mod_lt _ hp) (by rw [hP]; exact Nat.mod_lt _ hp),
      entryRev_swap (fun p => (pauliM i p).get)]
    unfold rhoKron pauliKron
    rw [kronList_get_of_mem_combos _ (rhoM_n i) hins (Nat.div_lt_of_lt_mul ha)
        (Nat.div_lt_of_lt_mul hb),
      kronList_get_of_mem_combos _ (pauliM_n i) hmeas (Nat.mod_lt _ hp) (Nat.mod_lt _ hp)]

theorem liInverse_liApply {i : K} (hi : i * i = -1) (hs : star i = -i) (h2 : (1 + 1 : K) ≠ 0)
    (k : Nat) (C : M K) {j l : Nat} (hj : j < 2 ^ (k + 1) * 2 ^ (k + 1))
    (hl : l < 2 ^ (k + 1) * 2 ^ (k + 1)) :
    (liInverse i (k + 1) (lamsOf i (k + 1) C)).get j l = C.get j l := by
  have h := (li_dual hi hs h2 k).reconstruct C.get hj hl
  rw [one_mul] at h
  rw [← h]
  unfold liInverse lamsOf
  rw [M.get_ofFn _ hj hl, lsum_eq_sum]
  simp only [List.map_flatMap, List.map_map, Function.comp_def]
  refine congrArg List.sum
    (List.flatMap_congr fun ins hins => List.map_congr_left fun meas hmeas => ?_)
  unfold liApply pairing
  rw [M.sumN_eq_sum,
    liRowMat_n i ins meas (combos_length _ k ins hins) (combos_length _ k meas hmeas)]
  simp only [M.sumN_eq_sum]

end LW.Tomo

/- LW/Properties/C16 cites `lamsOfUnitary` and `li_returns_choi` under `LW.Proofs.C16`. -/
namespace LW.Proofs.C16

open LW.Tomo

variable {K : Type} [Field K] [StarRing K] [DecidableEq K]

/-- the `lambdas` dict for noiseless data of the process `ρ ↦ V ρ V†` -/
def lamsOfUnitary (i : K) (n : Nat) (V : M K) : List ((Ins × Meas) × K) :=
  (combineAll tomoInputsLI n).flatMap fun ins =>
    (tomoMeasurements n).map fun meas => ((ins, meas), trPauli i (channel V (rhoKron i ins)) meas)

theorem lamsOfUnitary_eq {i : K} (hs : star i = -i) (k : Nat) (V : M K) (hV : V.n = 2 ^ (k + 1)) :
    lamsOfUnitary i (k + 1) V = lamsOf i (k + 1) (choiFromUnitary V) := by
  unfold lamsOfUnitary lamsOf
  apply List.flatMap_congr
  intro ins hins
  apply List.map_congr_left
  intro meas hmeas
  have hli : ins.length = k + 1 := combineAll_length k.succ_pos hins
  have hlm : meas.length = k + 1 := tomoMeasurements_length (by omega) meas hmeas
  rw [liApply_choi hs (k + 1) V hV ins hli meas hlm]

theorem li_returns_choi {i : K} (hi : i * i = -1) (hs : star i = -i) (h2 : (1 + 1 : K) ≠ 0) (k : Nat)
    (V : M K) (hV : V.n = 2 ^ (k + 1)) :
    liInverse i (k + 1) (lamsOfUnitary i (k + 1) V) = choiFromUnitary V := by
  rw [lamsOfUnitary_eq hs k V hV]
  exact M.ext_get (by unfold liInverse; exact M.isOfFn_ofFn _ _) (M.isOfFn_ofFn _ _)
    (by show _ = V.n * V.n; rw [hV]; rfl) fun j l hj hl => liInverse_liApply hi hs h2 k _ hj hl

end LW.Proofs.C16
