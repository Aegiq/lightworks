/-
  LW.Proofs.C04Slos — the SLOS table read as a polynomial (`tabPoly`: the entry `(t, v)` is the term
  `v · x^t`) is the image of the input monomial under the substitution `homOf U`: one layer
  multiplies by the linear form of the photon's column (`tabPoly_slosLayer`). Its entries are
  therefore the coefficients `amp (homOf U)` (`slosGet_slosPhi`), which are the permanents divided
  by `t!`.
-/
import LW.Proofs.DistDefs
import LW.Proofs.C04Dist
import LW.Proofs.FockPoly
import LW.Proofs.FockBridge
import LW.Proofs.RangeSum

open Finset MvPolynomial

namespace LW.Proofs.C04b

open LW LW.Proofs.C04a LW.Proofs.C03
open LW.C12F (amp homOf colForm homOf_X_lt toFinsupp_inj)

variable {K : Type}

section Table
variable [AddCommMonoid K]

theorem slosGet_eq (d : List (FState × K)) (t : FState) :
    slosGet d t = (Src.KD.get? d t).getD 0 := rfl

theorem slosGet_of_not_mem (d : List (FState × K)) (t : FState) (h : t ∉ d.map (·.1)) :
    slosGet d t = 0 := by
  rw [slosGet_eq, C06.get?_eq_none_of_not_mem d t h]
  rfl

theorem slosGet_of_mem (d : List (FState × K)) (hd : (d.map (·.1)).Nodup) (x : FState × K)
    (hx : x ∈ d) : slosGet d x.1 = x.2 :=
  congrArg (·.getD 0) (Assoc.find_of_mem hd (k := x.1) (v := x.2) hx)

end Table

variable [CommRing K]

/-- the table read as the polynomial `Σ value · x^key` -/
noncomputable def tabPoly (d : List (FState × K)) : MvPolynomial ℕ K :=
  (d.map fun x => monomial x.1.toFinsupp x.2).sum

theorem coeff_tabPoly (d : List (FState × K)) (w : ℕ →₀ ℕ) :
    coeff w (tabPoly d) = C06.mix d fun t => if t.toFinsupp = w then 1 else 0 := by
  classical
  unfold tabPoly C06.mix
  induction d with
  | nil => simp
  | cons x d ih => rw [List.map_cons, List.sum_cons, coeff_add, ih, coeff_monomial, List.map_cons,
      List.sum_cons, mul_ite, mul_one, mul_zero]

theorem tabPoly_ofPairs (l : List (FState × K)) : tabPoly (Src.KD.ofPairs l) = tabPoly l := by
  ext w
  rw [coeff_tabPoly, coeff_tabPoly, C06.mix_ofPairs]

theorem slosGet_eq_coeff (d : List (FState × K)) (hd : (d.map (·.1)).Nodup) {N : ℕ}
    (hlen : ∀ x ∈ d, x.1.length = N) (t : FState) (ht : t.length = N) :
    slosGet d t = coeff t.toFinsupp (tabPoly d) := by
  rw [coeff_tabPoly]
  refine (C06.getD_eq_mix d hd t).trans (C06.mix_congr d _ _ fun x hx => ?_)
  exact if_congr ⟨fun h => h ▸ rfl, fun h => toFinsupp_inj ((hlen x hx).trans ht.symm) h⟩ rfl rfl

theorem toFinsupp_set_succ (t : List ℕ) {j : ℕ} (hj : j < t.length) :
    (t.set j (t.getD j 0 + 1)).toFinsupp = t.toFinsupp + Finsupp.single j 1 := by
  ext z
  rw [Finsupp.add_apply, List.toFinsupp_apply, List.toFinsupp_apply, Finsupp.single_apply]
  by_cases hz : j = z
  · subst hz
    simp [List.getD_eq_getElem?_getD, hj]
  · simp [List.getD_eq_getElem?_getD, List.getElem?_set_ne hz, hz]

/-- the photon entering in mode `i` leaves in mode `j` with amplitude `U[j,i]` -/
theorem tabPoly_slosLayer (U : M K) (i : ℕ) (d : List (FState × K))
    (hlen : ∀ x ∈ d, x.1.length = U.n) :
    tabPoly (slosLayer U i d) = colForm U.get U.n i * tabPoly d := by
  rw [slosLayer_eq_ofPairs, tabPoly_ofPairs, colForm, Finset.sum_mul, ← list_range_sum]
  unfold tabPoly
  rw [List.map_flatMap, List.flatMap_def, List.sum_flatten, List.map_map]
  congr 1
  apply List.map_congr_left
  intro j hj
  rw [Function.comp_apply, List.map_map, ← List.sum_map_mul_left]
  congr 1
  apply List.map_congr_left
  intro x hx
  rw [Function.comp_apply, toFinsupp_set_succ x.1 (by rw [hlen x hx]; exact List.mem_range.mp hj),
    C_mul_X_eq_monomial, monomial_mul, add_comm, mul_comm]

theorem slosLayer_nodup (U : M K) (i : ℕ) (d : List (FState × K)) :
    ((slosLayer U i d).map (·.1)).Nodup := by
  rw [slosLayer_eq_ofPairs]
  exact C06.ofPairs_keys_nodup _

theorem slosFold_nodup (U : M K) (l : List ℕ) :
    ((l.foldl (fun d i => slosLayer U i d) [(List.replicate U.n 0, 1)]).map (·.1)).Nodup := by
  induction l using List.reverseRecOn with
  | nil => exact List.nodup_singleton _
  | append_singleton l i _ =>
    rw [List.foldl_append]
    exact slosLayer_nodup _ _ _

theorem toFinsupp_replicate_zero (n : ℕ) : (List.replicate n 0).toFinsupp = 0 := by
  ext z
  rw [List.toFinsupp_apply, List.getD_eq_getElem?_getD, List.getElem?_replicate]
  split <;> rfl

theorem tabPoly_slosFold (U : M K) (l : List ℕ) (hl : ∀ m ∈ l, m < U.n) :
    tabPoly (l.foldl (fun d i => slosLayer U i d) [(List.replicate U.n 0, 1)]) =
      homOf U.get U.n (monomial ((l.map fun m => Finsupp.single m 1).sum) 1) := by
  induction l using List.reverseRecOn with
  | nil =>
    rw [List.foldl_nil, tabPoly, List.map_singleton, List.sum_singleton, toFinsupp_replicate_zero,
      List.map_nil, List.sum_nil]
    exact (map_one _).symm
  | append_singleton l i ih =>
    rw [List.map_append, List.sum_append, List.map_singleton, List.sum_singleton,
      monomial_add_single, pow_one, map_mul, ← ih fun m hm => hl m (List.mem_append_left _ hm),
      homOf_X_lt _ (hl i (List.mem_append_right _ (List.mem_singleton_self i))), mul_comm,
      List.foldl_append]
    exact tabPoly_slosLayer U i _ fun x hx =>
      (slos_fold_keys_vac U l x.1 (List.mem_map.2 ⟨x, hx, rfl⟩)).1

theorem slosPhi_nodup (U : M K) (s : FState) : ((slosPhi U s).map (·.1)).Nodup :=
  slosFold_nodup U (partitionIdx s)

theorem tabPoly_slosPhi (U : M K) (s : FState) (hs : s.length = U.n) :
    tabPoly (slosPhi U s) = homOf U.get U.n (monomial s.toFinsupp 1) := by
  rw [slosPhi, tabPoly_slosFold U _ fun m hm => by
      rw [partitionIdx_eq_idxs] at hm
      exact hs ▸ QF.mem_idxs_lt s m hm,
    partitionIdx_eq_idxs, ← C12F.toFinsupp_eq_sum_idxs]

theorem slosGet_slosPhi (U : M K) (s t : FState) (hs : s.length = U.n) (ht : t.length = U.n) :
    slosGet (slosPhi U s) t = amp (homOf U.get U.n) t.toFinsupp s.toFinsupp := by
  rw [slosGet_eq_coeff (slosPhi U s) (slosPhi_nodup U s)
    (fun x hx => (slosPhi_keys U s x.1 (List.mem_map.2 ⟨x, hx, rfl⟩)).1) t ht, tabPoly_slosPhi U s hs]
  rfl

end LW.Proofs.C04b
