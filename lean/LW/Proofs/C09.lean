/-
  LW.Proofs.C09 — circuit rewrites preserve the transformation.  Unpacking and conversion
  of non-adjacent beam splitters are compared leaf by leaf on `flattenSpec`.  Swap compression: a
  swap commutes with every component none of whose modes it moves, so the swaps the scan accepts can
  be moved in front of the entries it has passed (`MovesPast`) and merged there.  Conversion and
  commutation are both `foldl_relabel_perm` (C02SemRun): compiling components relabelled by a mode
  permutation, after its matrix, is its matrix after compiling the original ones.
-/
import LW.Proofs.C02SemRun
import LW.Proofs.CircInv
import LW.Proofs.GroupWf
import LW.Proofs.SwapDict
import LW.Proofs.RewriteShape

-- the lemmas keep the `[CommRing K] [StarRing K]` signature of LW/Properties/C09.lean throughout
set_option linter.unusedSectionVars false

namespace LW.Proofs.C09

open LW LW.Proofs.C02Sem

variable {K : Type} [CommRing K] [StarRing K]

theorem unpack_no_group (spec : List (Comp K)) :
    ∀ c ∈ unpackSpec spec, ∃ p, c = .prim p :=
  fun _ hc => (mem_unpackSpec hc).imp fun _ h => h.1

/-- `compile` from a given matrix instead of the identity (`compile_eq_run`) -/
def run (i : K) (U : M K) (spec : List (Comp K)) : M K := spec.foldl (compileComp i) U

theorem compile_eq_run (i : K) (n : Nat) (spec : List (Comp K)) :
    compile i n spec = run i (M.one n) spec := rfl

@[simp] theorem run_nil (i : K) (U : M K) : run i U [] = U := rfl
@[simp] theorem run_cons (i : K) (U : M K) (c : Comp K) (l : List (Comp K)) :
    run i U (c :: l) = run i (compileComp i U c) l := rfl
theorem run_append (i : K) (U : M K) (l1 l2 : List (Comp K)) :
    run i U (l1 ++ l2) = run i (run i U l1) l2 := by
  unfold run; rw [List.foldl_append]

theorem run_map_prim (i : K) (U : M K) (cs : List (Prim K)) :
    run i U (cs.map .prim) = cs.foldl (compilePrim i) U := by
  induction cs generalizing U with
  | nil => rfl
  | cons p cs ih => rw [List.map_cons, run_cons, ih]; rfl

theorem run_unpack (i : K) (U : M K) (spec : List (Comp K)) :
    run i U (unpackSpec spec) = run i U spec := by
  unfold run
  rw [C01Aux.foldl_compileComp_eq, C01Aux.foldl_compileComp_eq i spec, flattenSpec_unpackSpec]

theorem Prim.convertNonAdj_adjacent (p : Prim K) :
    ∀ q ∈ p.convertNonAdj, ∀ m1 m2 cc ss cv, q = Prim.bs m1 m2 cc ss cv →
      m1 + 1 = m2 ∨ m2 + 1 = m1 := by
  intro q hq m1 m2 cc ss cv e
  subst e
  rcases p.convertNonAdj_cases with h | ⟨a, b, c, s, v, rfl, h⟩
  · -- untouched: then `p` is this beam splitter and was adjacent already
    rw [h, List.mem_singleton] at hq
    subst hq
    by_contra hadj
    rw [Prim.convertNonAdj_bs_nonadj _ _ _ _ _ hadj] at h
    cases h
  · rw [Prim.convertNonAdj_bs_nonadj a b c s v h] at hq
    simp only [List.mem_cons, List.not_mem_nil, or_false] at hq
    rcases hq with hq | hq | hq
    · cases hq
    · injection hq with h1 h2
      by_cases hgt : a > b
      · simp only [hgt, if_true] at h1 h2; omega
      · simp only [hgt, if_false] at h1 h2; omega
    · cases hq

theorem combine_permMat (n : Nat) (σ τ : Dict) (hσ : SwapsOk n σ) (hτ : (Dict.keys τ).Nodup) :
    (permMat (combineSwapDicts σ τ) n : M K) = (permMat τ n).mul (permMat σ n) := by
  show permF (Dict.fn (combineSwapDicts σ τ)) n = (permF (Dict.fn τ) n).mul (permF (Dict.fn σ) n)
  rw [permF_mul_permF fun c => hσ.fn_lt (le_refl n)]
  exact congrArg (permF · n) (funext (fn_combine hσ hτ))

theorem compilePrim_swaps (i : K) (U : M K) (τ : Dict) :
    compilePrim i U (.swaps τ) = (permF (Dict.fn τ) U.n).mul U := rfl

theorem foldl_conj_bs (i : K) {n : Nat} {σ : Dict} (hσ : SwapsOk n σ) (U : M K) (hU : n ≤ U.n)
    (m1 m2 : Nat) (h1 : m1 < n) (h2 : m2 < n) (c s : K) (cv : Conv) :
    [Prim.swaps σ, .bs (Dict.fn σ m1) (Dict.fn σ m2) c s cv,
        .swaps (Dict.ofPairs (σ.map fun p => (p.2, p.1)))].foldl (compilePrim i) U
      = compilePrim i U (.bs m1 m2 c s cv) := by
  have hg := hσ.permBelow
  have hP : ∀ L, PInj (n + L) (n + L) (Dict.fn σ) fun r => some (Dict.fn _ r) :=
    fun L => hg.pinj (Nat.le_add_right n L)
  have := foldl_relabel_perm i hg [.bs m1 m2 c s cv] [.bs (Dict.fn σ m1) (Dict.fn σ m2) c s cv]
    (List.Forall₂.cons (matRel_bs hP h1 h2 c s cv) List.Forall₂.nil) U hU
  simp only [List.foldl_cons, List.foldl_nil] at this ⊢
  rw [compilePrim_swaps, compilePrim_swaps, this, M.mul_n, permF_n]
  exact permF_mul_cancel hg (by omega) (by cases cv <;> exact M.isOfFn_mul _ _)
    (by cases cv <;> rfl)

theorem foldl_convertNonAdj_prim (i : K) (n : Nat) (p : Prim K) (hp : p.Wf n) (U : M K)
    (hU : n ≤ U.n) : p.convertNonAdj.foldl (compilePrim i) U = compilePrim i U p := by
  rcases p.convertNonAdj_cases with h | ⟨m1, m2, c, s, cv, rfl, hadj⟩
  · rw [h]; rfl
  · obtain ⟨h1, h2, hne, _⟩ := hp
    rw [Prim.convertNonAdj_bs_conj c s cv hne hadj]
    exact foldl_conj_bs i (nonAdjSwaps_swapsOk n _ _ (by omega) (by omega)) U hU m1 m2 h1 h2 c s cv

theorem foldl_convertNonAdj_prims (i : K) (n : Nat) (cs : List (Prim K)) (hcs : ∀ p ∈ cs, p.Wf n)
    (U : M K) (hU : n ≤ U.n) :
    (cs.flatMap Prim.convertNonAdj).foldl (compilePrim i) U = cs.foldl (compilePrim i) U := by
  induction cs generalizing U with
  | nil => rfl
  | cons p cs ih =>
    rw [List.flatMap_cons, List.foldl_append, List.foldl_cons,
      foldl_convertNonAdj_prim i n p (hcs p List.mem_cons_self) U hU]
    exact ih (fun q hq => hcs q (List.mem_cons_of_mem _ hq)) _
      (le_trans hU (C01Aux.le_compilePrim_n i U p))

theorem run_convertNonAdj (i : K) (n : Nat) (spec : List (Comp K)) (h : SpecWf n spec) (U : M K)
    (hU : n ≤ U.n) : run i U (convertNonAdj spec) = run i U spec := by
  unfold run
  rw [C01Aux.foldl_compileComp_eq, C01Aux.foldl_compileComp_eq i spec, flattenSpec_convertNonAdj]
  exact foldl_convertNonAdj_prims i n _ (C01Aux.mem_flattenSpec_wf h) U hU

/-- modes a leaf component acts on non-trivially (for a swap: its keys) -/
def touch : Prim K → List Nat
  | .bs m1 m2 .. => [m1, m2]
  | .ps m _ => [m]
  | .loss m .. => [m]
  | .barrier _ => []
  | .swaps σ => Dict.keys σ
  | .unitary m u => (List.range u.n).map (· + m)

theorem fn_comm_of_fix {n m : Nat} {ρ : Dict} {t g : Nat → Nat} (hρ : SwapsOk m ρ)
    (h : PermBelow n t g) (hfix : ∀ x ∈ Dict.keys ρ, t x = x) (x : Nat) :
    Dict.fn ρ (t x) = t (Dict.fn ρ x) := by
  by_cases hx : x ∈ Dict.keys ρ
  · rw [hfix x hx, hfix _ (hρ.fn_mem_keys hx)]
  · have : t x ∉ Dict.keys ρ := fun hc => hx (h.inj (hfix _ hc) ▸ hc)
    rw [Dict.fn_of_not_mem this, Dict.fn_of_not_mem hx]

theorem matRel_fix (i : K) {n : Nat} {t g : Nat → Nat} (h : PermBelow n t g) (p : Prim K)
    (hp : p.Wf n) (hfix : ∀ m ∈ touch p, t m = m) : MatRel i (fun r => some (g r)) n n p p := by
  have hP : ∀ L, PInj (n + L) (n + L) t fun r => some (g r) := fun L => h.pinj (Nat.le_add_right n L)
  cases p with
  | bs m1 m2 c s cv =>
    have := matRel_bs (i := i) hP hp.1 hp.2.1 c s cv
    rwa [hfix m1 List.mem_cons_self, hfix m2 (List.mem_cons_of_mem _ List.mem_cons_self)] at this
  | ps m q =>
    have := matRel_ps (i := i) hP hp.1 q
    rwa [hfix m List.mem_cons_self] at this
  | loss m a b =>
    have := matRel_loss (i := i) hP hp.1 (fun L hL => h.fix _ (by omega)) a b
    rwa [hfix m List.mem_cons_self] at this
  | barrier ms => exact matRel_barrier hP ms ms
  | swaps ρ =>
    exact matRel_swaps hP (fun L x hx => hp.fn_lt (Nat.le_add_right n L) hx)
      (fun _ x _ => fn_comm_of_fix hp h hfix x) (fun _ _ _ e => nomatch e)
  | unitary m u =>
    exact matRel_unitary hP u hp.1 fun j hj =>
      hfix _ (List.mem_map.mpr ⟨j, List.mem_range.mpr hj, Nat.add_comm j m⟩)

theorem foldl_compilePrim_swaps_comm (i : K) (n : Nat) (τ : Dict) (hτ : PermOk n τ)
    (cs : List (Prim K)) (hcs : ∀ p ∈ cs, p.Wf n)
    (hd : ∀ p ∈ cs, ∀ m ∈ touch p, m ∉ Dict.keys τ) (U : M K) (hU : n ≤ U.n) :
    cs.foldl (compilePrim i) (compilePrim i U (.swaps τ))
      = compilePrim i (cs.foldl (compilePrim i) U) (.swaps τ) := by
  obtain ⟨g, hg⟩ := hτ.permBelow
  have hrel : List.Forall₂ (MatRel i (fun r => some (g r)) n n) cs cs :=
    List.forall₂_same.mpr fun p hp =>
      matRel_fix i hg p (hcs p hp) fun m hm => Dict.fn_of_not_mem (hd p hp m hm)
  rw [compilePrim_swaps, compilePrim_swaps, C01Aux.foldl_compilePrim_n]
  exact foldl_relabel_perm i hg cs cs hrel U hU

theorem compilePrim_swaps_comm (i : K) (n : Nat) (τ : Dict) (hτ : PermOk n τ) (p : Prim K)
    (hp : p.Wf n) (hd : ∀ m ∈ touch p, m ∉ Dict.keys τ) (U : M K) (hU : n ≤ U.n) :
    compilePrim i (compilePrim i U (.swaps τ)) p
      = compilePrim i (compilePrim i U p) (.swaps τ) :=
  foldl_compilePrim_swaps_comm i n τ hτ [p] (fun _ h => List.mem_singleton.mp h ▸ hp)
    (fun _ h => List.mem_singleton.mp h ▸ hd) U hU

theorem touch_subset_modes (p : Prim K) : ∀ m ∈ touch p, m ∈ p.modes := by
  intro m hm
  cases p with
  | swaps σ => exact List.mem_append_left _ hm
  | barrier ms => exact absurd hm List.not_mem_nil
  | _ => exact hm

theorem compileComp_swaps_comm (i : K) (n : Nat) (τ : Dict) (hτ : PermOk n τ) (c : Comp K)
    (hc : c.Wf n) (hg : c.GroupOk) (hns : ∀ ρ, c ≠ .prim (.swaps ρ))
    (hd : ∀ m ∈ c.blocked, m ∉ Dict.keys τ) (U : M K) (hU : n ≤ U.n) :
    compileComp i (compileComp i U (.prim (.swaps τ))) c
      = compileComp i (compileComp i U c) (.prim (.swaps τ)) := by
  cases c with
  | prim p =>
    cases p with
    | swaps ρ => exact absurd rfl (hns ρ)
    | barrier ms => rfl
    | bs m1 m2 c s cv => exact compilePrim_swaps_comm i n τ hτ (.bs m1 m2 c s cv) hc hd U hU
    | ps m q => exact compilePrim_swaps_comm i n τ hτ (.ps m q) hc hd U hU
    | loss m a b => exact compilePrim_swaps_comm i n τ hτ (.loss m a b) hc hd U hU
    | unitary m u => exact compilePrim_swaps_comm i n τ hτ (.unitary m u) hc hd U hU
  | group cs m1 m2 hin hout =>
    apply foldl_compilePrim_swaps_comm i n τ hτ cs hc _ U hU
    intro p hp m hm
    apply hd
    obtain ⟨h1, h2⟩ := hg p hp m (touch_subset_modes p m hm)
    simp only [Comp.blocked, List.mem_map, List.mem_range]
    exact ⟨m - m1, by omega, by omega⟩

/-- the components of `l` whose index is not in `skip` -/
def eff (l : List (Nat × Comp K)) (skip : List Nat) : List (Comp K) :=
  (l.filter fun p => !skip.contains p.1).map (·.2)

theorem eff_nil (skip : List Nat) : eff ([] : List (Nat × Comp K)) skip = [] := rfl

theorem eff_cons_skip (k : Nat) (c : Comp K) (l : List (Nat × Comp K)) (skip : List Nat)
    (h : k ∈ skip) : eff ((k, c) :: l) skip = eff l skip := by
  unfold eff
  rw [List.filter_cons]
  simp [h]

theorem eff_cons_keep (k : Nat) (c : Comp K) (l : List (Nat × Comp K)) (skip : List Nat)
    (h : k ∉ skip) : eff ((k, c) :: l) skip = c :: eff l skip := by
  unfold eff
  rw [List.filter_cons]
  simp [h]

theorem eff_skip_append (l : List (Nat × Comp K)) (skip : List Nat) (k : Nat)
    (h : k ∉ l.map (·.1)) : eff l (skip ++ [k]) = eff l skip := by
  unfold eff
  congr 1
  apply List.filter_congr
  intro p hp
  have : p.1 ≠ k := fun e => h (e ▸ List.mem_map.mpr ⟨p, hp, rfl⟩)
  simp [this]

theorem eff_no_skip (l : List (Nat × Comp K)) : eff l [] = l.map (·.2) := by
  unfold eff
  simp

theorem scan_nil (σ : Dict) (b s : List Nat) :
    compressScan ([] : List (Nat × Comp K)) σ b s = (σ, s) := rfl

theorem scan_cons_skip (k : Nat) (c : Comp K) (rest : List (Nat × Comp K)) (σ : Dict)
    (b s : List Nat) (h : k ∈ s) :
    compressScan ((k, c) :: rest) σ b s = compressScan rest σ b s := by
  rw [compressScan_cons, if_pos (List.contains_iff_mem.mpr h)]

theorem scan_cons_swap_blocked (k : Nat) (τ : Dict) (rest : List (Nat × Comp K)) (σ : Dict)
    (b s : List Nat) (h : k ∉ s) (hb : ∃ x ∈ Dict.keys τ, x ∈ b) :
    compressScan ((k, .prim (.swaps τ)) :: rest) σ b s
      = compressScan rest σ (b ++ Dict.keys τ) s := by
  rw [compressScan_cons, if_neg (mt List.contains_iff_mem.mp h)]
  exact if_pos (by simpa using hb)

theorem scan_cons_swap_free (k : Nat) (τ : Dict) (rest : List (Nat × Comp K)) (σ : Dict)
    (b s : List Nat) (h : k ∉ s) (hb : ∀ x ∈ Dict.keys τ, x ∉ b) :
    compressScan ((k, .prim (.swaps τ)) :: rest) σ b s
      = compressScan rest (combineSwapDicts σ τ) b (s ++ [k]) := by
  rw [compressScan_cons, if_neg (mt List.contains_iff_mem.mp h)]
  exact if_neg (by simpa using hb)

theorem scan_cons_other (k : Nat) (c : Comp K) (rest : List (Nat × Comp K)) (σ : Dict)
    (b s : List Nat) (h : k ∉ s) (hns : ∀ ρ, c ≠ .prim (.swaps ρ)) :
    compressScan ((k, c) :: rest) σ b s = compressScan rest σ (b ++ c.blocked) s := by
  rw [compressScan]
  · simp [h]
  · intro τ e
    exact hns τ e

theorem scan_skip_mono (rest : List (Nat × Comp K)) (σ : Dict) (b s : List Nat) (x : Nat)
    (hx : x ∈ s) : x ∈ (compressScan rest σ b s).2 := by
  fun_induction compressScan rest σ b s with
  | case1 => exact hx
  | case2 _ _ _ _ _ _ _ ih => exact ih hx
  | case3 _ _ _ _ _ _ _ _ ih => exact ih hx
  | case4 _ _ _ _ _ _ _ _ ih => exact ih (List.mem_append_left _ hx)
  | case5 _ _ _ _ _ _ _ _ ih => exact ih hx

theorem scan_skip_not_mem (rest : List (Nat × Comp K)) (σ : Dict) (b s : List Nat) (x : Nat)
    (hx : x ∉ s) (hr : x ∉ rest.map (·.1)) : x ∉ (compressScan rest σ b s).2 := by
  fun_induction compressScan rest σ b s with
  | case1 => exact hx
  | case2 _ _ _ _ _ _ _ ih => exact ih hx fun h => hr (List.mem_cons_of_mem _ h)
  | case3 _ _ _ _ _ _ _ _ ih => exact ih hx fun h => hr (List.mem_cons_of_mem _ h)
  | case4 k _ _ _ _ _ _ _ ih =>
    refine ih (fun h => ?_) fun h => hr (List.mem_cons_of_mem _ h)
    rcases List.mem_append.mp h with h | h
    · exact hx h
    · exact hr (List.mem_singleton.mp h ▸ List.mem_cons_self)
  | case5 _ _ _ _ _ _ _ _ ih => exact ih hx fun h => hr (List.mem_cons_of_mem _ h)

/-- every swap whose keys avoid `b` may be moved from behind `pre` to in front of it -/
def MovesPast (i : K) (n : Nat) (b : List Nat) (pre : List (Comp K)) : Prop :=
  ∀ τ, PermOk n τ → (∀ k ∈ Dict.keys τ, k ∉ b) → ∀ U : M K, n ≤ U.n →
    run i U (pre ++ [.prim (.swaps τ)]) = run i U (.prim (.swaps τ) :: pre)

theorem movesPast_nil (i : K) (n : Nat) : MovesPast i n [] ([] : List (Comp K)) :=
  fun _ _ _ _ _ => rfl

theorem MovesPast.extend {i : K} {n : Nat} {b : List Nat} {pre : List (Comp K)}
    (h : MovesPast i n b pre) (c : Comp K) (b' : List Nat)
    (hcomm : ∀ τ, PermOk n τ → (∀ k ∈ Dict.keys τ, k ∉ b') → ∀ U : M K, n ≤ U.n →
      compileComp i (compileComp i U (.prim (.swaps τ))) c
        = compileComp i (compileComp i U c) (.prim (.swaps τ))) :
    MovesPast i n (b ++ b') (pre ++ [c]) := by
  intro τ hτ hd U hU
  have hd1 : ∀ k ∈ Dict.keys τ, k ∉ b := fun k hk hb => hd k hk (List.mem_append_left _ hb)
  have hd2 : ∀ k ∈ Dict.keys τ, k ∉ b' := fun k hk hb => hd k hk (List.mem_append_right _ hb)
  have e1 := h τ hτ hd1 U hU
  have e2 := hcomm τ hτ hd2 (run i U pre) (le_trans hU (C01Aux.le_foldl_compileComp_n i pre U))
  simp only [run_append, run_cons, run_nil] at e1 e2 ⊢
  rw [← e2, e1]

theorem compileComp_combine (i : K) (n : Nat) (σ τ : Dict) (hσ : PermOk n σ) (hτ : PermOk n τ)
    (U : M K) (hU : n ≤ U.n) :
    compileComp i U (.prim (.swaps (combineSwapDicts σ τ)))
      = compileComp i (compileComp i U (.prim (.swaps σ))) (.prim (.swaps τ)) := by
  show (permMat (combineSwapDicts σ τ) U.n).mul U
      = (permMat τ U.n).mul ((permMat σ U.n).mul U)
  rw [combine_permMat U.n σ τ (hσ.swapsOk.mono hU) hτ.nodup, M.mul_assoc' _ _ _ (by rfl)]

/-- invariant of the scan, `pre` being the entries it has passed and left in place: the swap it
returns, followed by `pre` and by what it leaves of `rest`, runs like `σ` followed by `pre` and `rest` -/
theorem scan_correct (i : K) (n : Nat) (rest : List (Nat × Comp K)) (σ : Dict) (b s : List Nat) :
    ∀ pre : List (Comp K), PermOk n σ → (rest.map (·.1)).Nodup →
      (∀ p ∈ rest, p.2.Wf n ∧ p.2.GroupOk) → MovesPast i n b pre →
      ∀ U : M K, n ≤ U.n →
        run i U (.prim (.swaps (compressScan rest σ b s).1)
                  :: (pre ++ eff rest (compressScan rest σ b s).2))
          = run i U (.prim (.swaps σ) :: (pre ++ eff rest s)) := by
  fun_induction compressScan rest σ b s with
  | case1 => intro pre _ _ _ _ U _; rfl
  | case2 k c rest σ b s hk ih =>
    intro pre hσ hnd hwf hmp U hU
    have hk' : k ∈ s := by simpa using hk
    rw [eff_cons_skip k c rest _ (scan_skip_mono rest σ b s k hk'), eff_cons_skip k c rest s hk']
    exact ih pre hσ (List.nodup_cons.mp hnd).2 (fun p hp => hwf p (List.mem_cons_of_mem _ hp))
      hmp U hU
  | case3 k rest σ b s hk τ hb ih =>
    intro pre hσ hnd hwf hmp U hU
    have hk' : k ∉ s := by simpa using hk
    have hnd' := List.nodup_cons.mp hnd
    have hk2 := scan_skip_not_mem rest σ (b ++ Dict.keys τ) s k hk' hnd'.1
    rw [eff_cons_keep k _ rest _ hk2, eff_cons_keep k _ rest s hk']
    rw [List.append_cons pre _ (eff rest s), List.append_cons pre]
    refine ih (pre ++ [.prim (.swaps τ)]) hσ hnd'.2
      (fun p hp => hwf p (List.mem_cons_of_mem _ hp)) ?_ U hU
    apply hmp.extend
    intro τ' hτ' hd' V hV
    exact compilePrim_swaps_comm i n τ' hτ' (.swaps τ)
      (hwf (k, .prim (.swaps τ)) List.mem_cons_self).1 (fun m hm hm' => hd' m hm' hm) V hV
  | case4 k rest σ b s hk τ hb ih =>
    intro pre hσ hnd hwf hmp U hU
    have hk' : k ∉ s := by simpa using hk
    have hnd' := List.nodup_cons.mp hnd
    have hτ : PermOk n τ := SwapsOk.permOk (hwf (k, .prim (.swaps τ)) List.mem_cons_self).1
    have hfree : ∀ x ∈ Dict.keys τ, x ∉ b := by simpa using hb
    have hk2 : k ∈ (compressScan rest (combineSwapDicts σ τ) b (s ++ [k])).2 :=
      scan_skip_mono rest _ b _ k (List.mem_append_right _ (List.mem_singleton.mpr rfl))
    rw [eff_cons_skip k _ rest _ hk2, eff_cons_keep k _ rest s hk']
    rw [ih pre (hσ.combine hτ) hnd'.2 (fun p hp => hwf p (List.mem_cons_of_mem _ hp)) hmp U hU,
      eff_skip_append rest s k hnd'.1]
    have e1 := hmp τ hτ hfree (compileComp i U (.prim (.swaps σ)))
      (le_trans hU (C01Aux.le_compileComp_n i U _))
    simp only [run_append, run_cons, run_nil] at e1 ⊢
    rw [compileComp_combine i n σ τ hσ hτ U hU, ← e1]
  | case5 k rest σ b s hk c hns ih =>
    intro pre hσ hnd hwf hmp U hU
    have hk' : k ∉ s := by simpa using hk
    have hnd' := List.nodup_cons.mp hnd
    have hk2 := scan_skip_not_mem rest σ (b ++ c.blocked) s k hk' hnd'.1
    rw [eff_cons_keep k _ rest _ hk2, eff_cons_keep k _ rest s hk']
    rw [List.append_cons pre _ (eff rest s), List.append_cons pre]
    refine ih (pre ++ [c]) hσ hnd'.2 (fun p hp => hwf p (List.mem_cons_of_mem _ hp)) ?_ U hU
    apply hmp.extend
    intro τ' hτ' hd' V hV
    have hc := hwf (k, c) List.mem_cons_self
    exact compileComp_swaps_comm i n τ' hτ' c hc.1 hc.2 (fun ρ e => hns ρ e)
      (fun m hm hm' => hd' m hm' hm) V hV

theorem go_correct (i : K) (n : Nat) (l : List (Nat × Comp K)) (skip : List Nat) :
    (l.map (·.1)).Nodup → (∀ p ∈ l, p.2.Wf n ∧ p.2.GroupOk) → ∀ U : M K, n ≤ U.n →
      run i U (compressGo l skip) = run i U (eff l skip) := by
  fun_induction compressGo l skip with
  | case1 => intro _ _ U _; rfl
  | case2 k c rest skip hk ih =>
    intro hnd hwf U hU
    have hk' : k ∈ skip := by simpa using hk
    rw [eff_cons_skip k c rest skip hk']
    exact ih (List.nodup_cons.mp hnd).2 (fun p hp => hwf p (List.mem_cons_of_mem _ hp)) U hU
  | case3 k rest skip hk τ σ' skip' hscan ih =>
    intro hnd hwf U hU
    have hk' : k ∉ skip := by simpa using hk
    have hnd' := List.nodup_cons.mp hnd
    have hwf' : ∀ p ∈ rest, p.2.Wf n ∧ p.2.GroupOk := fun p hp => hwf p (List.mem_cons_of_mem _ hp)
    have hτ : PermOk n τ := SwapsOk.permOk (hwf (k, .prim (.swaps τ)) List.mem_cons_self).1
    have hsc := scan_correct i n rest τ [] skip [] hτ hnd'.2 hwf' (movesPast_nil i n) U hU
    rw [hscan] at hsc
    simp only [List.nil_append] at hsc
    rw [eff_cons_keep k _ rest skip hk', ← hsc, run_cons, run_cons]
    exact ih hnd'.2 hwf' _ (le_trans hU (C01Aux.le_compileComp_n i U _))
  | case4 k rest skip hk c hns ih =>
    intro hnd hwf U hU
    have hk' : k ∉ skip := by simpa using hk
    rw [eff_cons_keep k _ rest skip hk', run_cons, run_cons]
    exact ih (List.nodup_cons.mp hnd).2 (fun p hp => hwf p (List.mem_cons_of_mem _ hp)) _
      (le_trans hU (C01Aux.le_compileComp_n i U _))

/-- swap compression with `SpecWf` as its only hypothesis.  False
(`compress_compile_statement_false`): `SpecWf` does not confine a group's components to the group's
mode range; `compress_compile_partial` adds that hypothesis. -/
def compress_compile_statement : Prop :=
  ∀ {K : Type} [CommRing K] [StarRing K] (i : K) (n : Nat) (spec : List (Comp K)),
    SpecWf n spec → compile i n (compressSwaps spec) = compile i n spec

/-- swap compression leaves `U_full` unchanged, provided the components of every group act inside
the group's declared mode range `[m1, m2]` (the range `Comp.blocked` uses) -/
theorem compress_compile_partial (i : K) (n : Nat) (spec : List (Comp K)) (h : SpecWf n spec)
    (hg : SpecGroupOk spec) :
    compile i n (compressSwaps spec) = compile i n spec := by
  have hlen : (List.range spec.length).length = spec.length := List.length_range
  have h1 : ((List.range spec.length).zip spec).map (·.1) = List.range spec.length :=
    List.map_fst_zip (le_of_eq hlen)
  have h2 : ((List.range spec.length).zip spec).map (·.2) = spec :=
    List.map_snd_zip (le_of_eq hlen.symm)
  have key := go_correct i n ((List.range spec.length).zip spec) []
    (by rw [h1]; exact List.nodup_range)
    (fun p hp => by
      have : p.2 ∈ spec := (List.of_mem_zip (a := p.1) (b := p.2) hp).2
      exact ⟨h _ this, hg _ this⟩)
    (M.one n) (le_refl n)
  rw [eff_no_skip, h2] at key
  exact key

section Witness

private def sw01 : Dict := [(0, 1), (1, 0)]

/-- a group declared on modes 2…3 whose only component acts on mode 0: allowed by `SpecWf`,
invisible to `Comp.blocked` -/
def cexSpec : List (Comp Int) :=
  [.prim (.swaps sw01), .group [.ps 0 (-1)] 2 3 [] [], .prim (.swaps sw01)]

theorem cexSpec_wf : SpecWf 4 cexSpec := by
  intro c hc
  simp only [cexSpec, List.mem_cons, List.not_mem_nil, or_false] at hc
  rcases hc with rfl | rfl | rfl
  · exact (⟨by decide, by decide, by decide⟩ : SwapsOk 4 sw01)
  · intro p hp
    simp only [List.mem_singleton] at hp
    subst hp
    exact ⟨by decide, by decide⟩
  · exact (⟨by decide, by decide, by decide⟩ : SwapsOk 4 sw01)

theorem compress_compile_statement_false : ¬ compress_compile_statement := by
  intro h
  have e := congrArg (fun A => A.get 0 0) (h (0 : Int) 4 cexSpec cexSpec_wf)
  have h1 : (compile (0 : Int) 4 (compressSwaps cexSpec)).get 0 0 = -1 := by decide +kernel
  have h2 : (compile (0 : Int) 4 cexSpec).get 0 0 = 1 := by decide +kernel
  simp only [h1, h2] at e
  exact absurd e (by decide)

/-- non-vacuity: a spec with a non-adjacent beam splitter, a loss element, a well-placed group and
two swaps that get merged satisfies all hypotheses of the rewrite theorems -/
def okSpec : List (Comp Int) :=
  [.prim (.swaps sw01), .group [.ps 2 (-1), .bs 2 3 1 0 .h] 2 3 [] [], .prim (.loss 3 1 0),
   .prim (.bs 4 2 0 1 .rx), .prim (.swaps sw01)]

example : SpecWf 5 okSpec ∧ SpecGroupOk okSpec := by
  constructor
  · intro c hc
    simp only [okSpec, List.mem_cons, List.not_mem_nil, or_false] at hc
    rcases hc with rfl | rfl | rfl | rfl | rfl
    · exact (⟨by decide, by decide, by decide⟩ : SwapsOk 5 sw01)
    · intro p hp
      simp only [List.mem_cons, List.not_mem_nil, or_false] at hp
      rcases hp with rfl | rfl
      · exact ⟨by decide, by decide⟩
      · exact ⟨by decide, by decide, by decide, by decide, by decide, by decide⟩
    · exact ⟨by decide, by decide, by decide, by decide⟩
    · exact ⟨by decide, by decide, by decide, by decide, by decide, by decide⟩
    · exact (⟨by decide, by decide, by decide⟩ : SwapsOk 5 sw01)
  · intro c hc
    simp only [okSpec, List.mem_cons, List.not_mem_nil, or_false] at hc
    rcases hc with rfl | rfl | rfl | rfl | rfl
    · trivial
    · intro p hp
      simp only [List.mem_cons, List.not_mem_nil, or_false] at hp
      rcases hp with rfl | rfl <;> decide
    · trivial
    · trivial
    · trivial

/-- on this instance compression really merges swaps and conversion really rewrites -/
example : (compressSwaps okSpec).length = 4 ∧ (convertNonAdj okSpec).length = 7 := by
  constructor <;> decide +kernel

end Witness

end LW.Proofs.C09
