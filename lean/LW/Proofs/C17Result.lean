/-
  LW.Proofs.C17Result — SimulationResult / SamplingResult: what the constructors store, what the
  subscripts read, and the mapped result in closed form.
-/
import LW.Proofs.C17Accum
import LW.Proofs.ExceptLemmas

namespace LW.Res

theorem image_binary (k : MapKind) (inv : Bool) (s : St) :
    (k.fn inv s).s.length = s.s.length ∧ ∀ x ∈ (k.fn inv s).s, x = 0 ∨ x = 1 := by
  cases k <;> simp only [MapKind.fn, thr, par, List.length_map, List.mem_map, true_and] <;>
    rintro x ⟨y, _, rfl⟩
  · by_cases h : 1 ≤ y <;> cases inv <;> simp [h]
  · cases inv <;> simp <;> omega

theorem fn_of_binary (k : MapKind) (a : Bool) (s : St) (hs : ∀ x ∈ s.s, x = 0 ∨ x = 1) :
    k.fn a s = ⟨s.s.map fun x => if a then 1 - x else x⟩ := by
  cases k <;>
  · refine congrArg SV.State.mk (List.map_congr_left fun x hx => ?_)
    rcases hs x hx with rfl | rfl <;> cases a <;> rfl

/-- any mapping applied after any mapping: the second one only keeps or flips, so the composite is
the first mapping, inverted when exactly one of the two is -/
theorem fn_comp (k k' : MapKind) (a b : Bool) : k.fn a ∘ k'.fn b = k'.fn (a != b) := by
  funext s
  show k.fn a (k'.fn b s) = _
  rw [fn_of_binary k a _ (image_binary k' b s).2]
  cases k'
  all_goals
    simp only [MapKind.fn, thr, par, List.map_map]
    refine congrArg SV.State.mk (List.map_congr_left fun x _ => ?_)
    cases a <;> cases b <;> simp

variable {V : Type}

theorem SampResult.getItem_of_get? {r : SampResult V} {s : St} {v : V} (h : r.dict.get? s = some v) :
    r.getItem (some s) = .ok v := by
  simp only [SampResult.getItem, h]

theorem SampResult.getItem_of_not_mem {r : SampResult V} {s : St} (h : s ∉ r.dict.keys) :
    r.getItem (some s) = .error .other := by
  simp only [SampResult.getItem, PD.get?_eq_none_of_not_mem _ _ h]

theorem SampResult.applyMapping_eq [AddCommMonoid V] (r : SampResult V) (f : St → St) :
    r.applyMapping f = .ok ⟨r.input, dedup (r.dict.keys.map f), accum f r.dict⟩ := by
  rw [SampResult.applyMapping, SampResult.new, PD.ofPairs_of_nodup _ (nodup_keys_accum f r.dict), keys_accum]

def Arr.WF (A : Arr V) : Prop := A.a.length = A.r ∧ ∀ row ∈ A.a, row.length = A.c

theorem SimResult.new_some (t : RType) (A : Arr V) (ins outs : List St) :
    SimResult.new (some t) A ins outs =
      if ins.length = A.r ∧ outs.length = A.c then
        .ok { rtype := t, inputs := ins, outputs := outs, array := A, dict := buildDict ins outs A }
      else .error .other := by
  by_cases h1 : ins.length = A.r <;> by_cases h2 : outs.length = A.c <;> simp [SimResult.new, h1, h2]

section Index
variable [Zero V]

theorem Arr.get_eq (A : Arr V) (hA : A.WF) (i j : Nat) (hi : i < A.r) (hj : j < A.c) :
    ∃ (h1 : i < A.a.length) (h2 : j < (A.a[i]).length), A.get i j = (A.a[i])[j] := by
  have h1 : i < A.a.length := by rw [hA.1]; exact hi
  have h2 : j < (A.a[i]).length := by rw [hA.2 _ (List.getElem_mem h1)]; exact hj
  refine ⟨h1, h2, ?_⟩
  rw [Arr.get, ← List.getElem_eq_getD (h := h1) [], ← List.getElem_eq_getD (h := h2) 0]

theorem mapped_arr_get (ins uo : List St) (w : St → St → V) (i j : Nat) (hi : i < ins.length) (hj : j < uo.length) :
    (⟨ins.length, uo.length, ins.map fun i => uo.map fun g => w i g⟩ : Arr V).get i j = w ins[i] uo[j] := by
  simp [Arr.get, List.getD_eq_getElem?_getD, hi, hj]

end Index

theorem mapped_arr_wf (ins uo : List St) (w : St → St → V) :
    Arr.WF (⟨ins.length, uo.length, ins.map fun i => uo.map fun g => w i g⟩ : Arr V) := by
  refine ⟨List.length_map _, fun row hrow => ?_⟩
  obtain ⟨i, _, rfl⟩ := List.mem_map.mp hrow
  exact List.length_map _

theorem keys_buildRow (outs : List St) (row : List V) (h : outs.length = row.length) :
    (buildRow outs row).keys = dedup outs := by
  rw [buildRow, PD.keys_ofPairs, List.map_fst_zip (Nat.le_of_eq h)]

theorem keys_buildDict (ins outs : List St) (A : Arr V) (h : ins.length = A.a.length) :
    (buildDict ins outs A).keys = dedup ins := by
  rw [buildDict, PD.keys_ofPairs, List.map_fst_zip (Nat.le_of_eq (by rw [List.length_map, h]))]

theorem get?_buildRow (outs : List St) (row : List V) (j : Nat) (hj : j < outs.length) (hr : j < row.length)
    (hlast : ∀ j' (h' : j' < outs.length), j < j' → outs[j'] ≠ outs[j]) :
    (buildRow outs row).get? outs[j] = some row[j] :=
  PD.get?_ofPairs_zip_last outs row j hj hr hlast

theorem get?_buildDict (ins outs : List St) (A : Arr V) (i : Nat) (hi : i < ins.length) (hr : i < A.a.length)
    (hlast : ∀ i' (h' : i' < ins.length), i < i' → ins[i'] ≠ ins[i]) :
    (buildDict ins outs A).get? ins[i] = some (buildRow outs A.a[i]) := by
  have := PD.get?_ofPairs_zip_last ins (A.a.map (buildRow outs)) i hi (by rwa [List.length_map]) hlast
  rwa [List.getElem_map] at this

theorem mem_buildDict (ins outs : List St) (A : Arr V) (p : St × PD V) (hp : p ∈ buildDict ins outs A) :
    ∃ row ∈ A.a, p.2 = buildRow outs row := by
  obtain ⟨row, hrow, e⟩ := List.mem_map.mp (List.of_mem_zip (PD.mem_ofPairs _ p hp)).2
  exact ⟨row, hrow, e.symm⟩

theorem SimResult.getItem_st_of_get? {r : SimResult V} {s : St} {d : PD V} (h : r.dict.get? s = some d) :
    r.getItem (.st s) = .ok (.row d) ∧ r.getItem (.tup [.st s, .none]) = .ok (.row d) := by
  simp only [SimResult.getItem, h, List.length_cons, List.length_nil, Nat.reduceAdd, gt_iff_lt, Nat.lt_irrefl,
    if_false, and_self]

theorem SimResult.getItem_pair_of_get? {r : SimResult V} {s o : St} {d : PD V} {v : V}
    (h : r.dict.get? s = some d) (h2 : d.get? o = some v) :
    r.getItem (.tup [.st s, .st o]) = .ok (.val v) := by
  simp only [SimResult.getItem, h, h2, List.length_cons, List.length_nil, Nat.reduceAdd, gt_iff_lt,
    Nat.lt_irrefl, if_false]

theorem SimResult.getItem_st_of_not_mem {r : SimResult V} {s : St} (h : s ∉ r.dict.keys) :
    r.getItem (.st s) = .error .other := by
  simp only [SimResult.getItem, PD.get?_eq_none_of_not_mem _ _ h]

section Map
variable [AddCommMonoid V]

theorem mapDict_eq (f : St → St) (d : PD (PD V)) (hn : d.keys.Nodup) :
    mapDict f d = d.map fun p => (p.1, accum f p.2) := by
  have h1 : mapDict f d = PD.ofPairs (d.map fun p => (p.1, accum f p.2)) := by
    rw [mapDict, PD.ofPairs, List.foldl_map]
  rw [h1]
  apply PD.ofPairs_of_nodup
  rwa [List.map_map]

theorem get?_mapDict (f : St → St) (d : PD (PD V)) (hn : d.keys.Nodup) (k : St) :
    (mapDict f d).get? k = (d.get? k).map (accum f) := by
  rw [mapDict_eq f d hn, PD.get?_map_vals]

theorem mem_imagesOf_mapDict (f : St → St) (d : PD (PD V)) (hn : d.keys.Nodup) (ks : List St)
    (hrows : ∀ p ∈ d, ∀ o, o ∈ p.2.keys ↔ o ∈ ks) (g : St) :
    g ∈ imagesOf (mapDict f d) ↔ d ≠ [] ∧ ∃ o ∈ ks, f o = g := by
  rw [imagesOf, mem_dedup, List.mem_flatMap, mapDict_eq f d hn]
  constructor
  · rintro ⟨q, hq, hg⟩
    obtain ⟨p, hp, rfl⟩ := List.mem_map.mp hq
    obtain ⟨o, ho, hog⟩ := (mem_keys_accum f p.2 g).mp hg
    exact ⟨List.ne_nil_of_mem hp, o, (hrows p hp o).mp ho, hog⟩
  · rintro ⟨hd, o, ho, hog⟩
    obtain ⟨p, hp⟩ := List.exists_mem_of_ne_nil _ hd
    exact ⟨_, List.mem_map_of_mem hp, (mem_keys_accum f p.2 g).mpr ⟨o, (hrows p hp o).mpr ho, hog⟩⟩

theorem SimResult.recombine_eq (r : SimResult V) (m : PD (PD V)) (uo : List St)
    (hm : ∀ i ∈ r.inputs, (m.get? i).isSome) :
    r.recombine m uo = SimResult.new (some r.rtype)
      ⟨r.inputs.length, uo.length, r.inputs.map fun i => uo.map fun o => (((m.get? i).getD []).get? o).getD 0⟩
      r.inputs uo := by
  rw [SimResult.recombine, Except.mapM_ok_of_forall (g := fun i => uo.map fun o => (((m.get? i).getD []).get? o).getD 0)]
  · rfl
  · intro i hi
    obtain ⟨d, hd⟩ := Option.isSome_iff_exists.mp (hm i hi)
    simp only [hd, Option.getD_some]

def mappedWeight (f : St → St) (r : SimResult V) (i g : St) : V :=
  imageWeight f ((r.dict.get? i).getD []) g

theorem SimResult.applyMapping_eq (r : SimResult V) (hty : r.rtype = .probability) (hn : r.dict.keys.Nodup)
    (hin : ∀ i ∈ r.inputs, i ∈ r.dict.keys) (f : St → St) (order : List St → List St) :
    r.applyMapping f order =
      SimResult.new (some .probability)
        ⟨r.inputs.length, (order (imagesOf (mapDict f r.dict))).length,
          r.inputs.map fun i => (order (imagesOf (mapDict f r.dict))).map fun g => mappedWeight f r i g⟩
        r.inputs (order (imagesOf (mapDict f r.dict))) := by
  rw [SimResult.applyMapping, if_neg (by rw [hty]; decide), SimResult.recombine_eq, hty]
  · refine congrArg (fun a => SimResult.new _ ⟨_, _, a⟩ _ _)
      (List.map_congr_left fun i _ => List.map_congr_left fun g _ => ?_)
    rw [get?_mapDict f r.dict hn, mappedWeight]
    cases r.dict.get? i with
    | none => rfl
    | some d => exact getD_get?_accum f d g
  · intro i hi
    rw [get?_mapDict f r.dict hn, Option.isSome_map, ← PD.mem_keys_iff_get?]
    exact hin i hi

end Map

end LW.Res
