/-
  LW.Proofs.C01Api — appending well-formed leaves keeps `SpecWf`; a leaf that passed the range
  checks of a primitive call is well formed as soon as its parameters are in the documented range.
  Namespaces: `LW.Proofs.C01Aux` for the two lemmas on `SpecWf`, `LW` for the rest (`UnitPair.wf`, `Circ.Leaf.…`).
-/
import LW.Proofs.ReachDef
import LW.Proofs.C02Calls

namespace LW.Proofs.C01Aux

variable {K : Type} [CommRing K] [StarRing K]

theorem specWf_prims {n : Nat} {ps : List (Prim K)} (hp : ∀ p ∈ ps, p.Wf n) :
    SpecWf n (ps.map Comp.prim) := by
  intro c hc
  obtain ⟨p, hp', rfl⟩ := List.mem_map.mp hc
  exact hp p hp'

theorem addPrims_wf {c : Circ K} (hc : SpecWf c.n c.spec) {ps : List (Prim K)}
    (hp : ∀ p ∈ ps, p.Wf c.n) : (c.addPrims ps).n = c.n ∧ SpecWf (c.addPrims ps).n (c.addPrims ps).spec :=
  ⟨rfl, fun x hx => (List.mem_append.mp hx).elim (hc x) (specWf_prims hp x)⟩

end LW.Proofs.C01Aux

namespace LW

variable {K : Type} [CommRing K] [StarRing K]

/-- `UnitPair` in the order in which `Prim.Wf` lists the conditions on a real pair -/
theorem UnitPair.wf {x : K × K} (h : UnitPair x) :
    star x.1 = x.1 ∧ star x.2 = x.2 ∧ x.1 * x.1 + x.2 * x.2 = 1 :=
  ⟨h.2.1, h.2.2, h.1⟩

/-- the documented range of a leaf's parameters: the part of `Prim.Wf` that is not about modes,
as `Reach` asks it of the arguments of a call -/
def Prim.ParamOk : Prim K → Prop
  | .bs _ _ c s _ => UnitPair (c, s)
  | .ps _ p => p * star p = 1
  | .loss _ a b => UnitPair (a, b)
  | .unitary _ u => IsUnitary u
  | _ => True

theorem Circ.Leaf.wf {c : Circ K} {q : Prim K} (h : c.Leaf q) (hu : q.ParamOk) : q.Wf c.n := by
  cases h with
  | bs x y cv ha hb hab => exact ⟨ha.1, hb.1, hab, hu.wf⟩
  | ps p ha => exact ⟨ha.1, hu⟩
  | loss x y ha => exact ⟨ha.1, hu.wf⟩
  | barrier h => exact fun m hm => (h m hm).1
  | swaps hn hp h => exact ⟨hn, hp, fun k hk => (h k (List.mem_append_left _ hk)).1⟩

theorem Circ.bsPrims_paramOk {cs : K × K} {l : Option (K × K)} (hcs : UnitPair cs)
    (hl : ∀ ab, l = some ab → UnitPair ab) (a b : Nat) (cv : Conv) :
    ∀ q ∈ Circ.bsPrims a b cs cv l, q.ParamOk := by
  intro q hq
  rcases Circ.mem_bsPrims hq with rfl | ⟨la, lb, e, rfl | rfl⟩
  · exact hcs
  · exact hl _ e
  · exact hl _ e

theorem Circ.psPrims_paramOk {p : K} {l : Option (K × K)} (hp : p * star p = 1)
    (hl : ∀ ab, l = some ab → UnitPair ab) (a : Nat) : ∀ q ∈ Circ.psPrims a p l, q.ParamOk := by
  intro q hq
  rcases Circ.mem_psPrims hq with rfl | ⟨la, lb, e, rfl⟩
  · exact hp
  · exact hl _ e

end LW
