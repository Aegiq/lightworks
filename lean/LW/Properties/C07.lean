/-
  C07 — Sampling draws from the exact detected, heralded, post-selected distribution.

  Model: LW.Model.Sampling.  Randomness is a tape of uniform variates, so every statement of the
  first part below is for EVERY tape / every seed.

  "Empirical frequencies converge to …" is formalised in the second part (limit statements) for the
  selection step `Generator.choice` / `inverseCdf`, for the composite `sampleOne`, and (as a law, not
  a limit) for the detector:
  * deterministic form: on the uniform grid {0, 1/N, …, (N-1)/N} the fraction of points selecting
    index k is within 1/N of p_k / Σp (`inverseCdf_grid_frequency`), hence converges
    (`inverseCdf_grid_frequency_eventually`, `inverseCdf_grid_frequency_tendsto`);
  * probabilistic form: for pairwise independent real variates, each uniform on [0,1), almost surely
    the fraction of the first n draws selecting index k tends to p_k / Σp
    (`sampling_frequencies_converge`, Mathlib's strong law of large numbers), and the fraction
    returning state s under `sampleOne` tends to the total normalised weight of the entries equal to
    s (`sampleOne_frequencies_converge`).  A real variate is almost surely irrational, so these are
    stated for the real-valued twins `inverseCdfR` / `sampleOneR` of the model functions (same
    recursion over ℝ), which agree with the model on rational data (`inverseCdfR_cast`,
    `sampleOneR_cast`).
  * detector: for a tape of independent variates uniform on [0,1) (at least as long as what the
    detector reads), the real twin `detectorSampleR` of `detectorSample` returns the state t with
    probability exactly the total weight of t in `detectorKernel d s` (`detectorSampleR_law`); the
    twin agrees with the model on rational tapes (`detectorSampleR_cast`).
  NOT formalised: a law-of-large-numbers statement for REPEATED detector calls (frequencies of
  detected states over many independent tapes; it would follow from `detectorSampleR_law` and the
  strong law once independence of functions of disjoint tape blocks is set up), and the law of the
  accepted samples of the rejection loop `sample_N_inputs` (selection ∘ detector ∘ acceptance on one
  running tape).  For those only the every-tape statements of the first part are proved, and in
  part (D) the renewal decomposition of the loop together with the strong law for passes that are
  ASSUMED pairwise independent and identically distributed.
-/
import Mathlib.Analysis.SpecificLimits.Basic
import LW.Proofs.C07Sample
import LW.Proofs.C07Grid
import LW.Proofs.C07DetectorLaw
import LW.Proofs.C07IdealTape

namespace LW.C07

/-- prefix sums of the weights: `cum ps k = (ps.take k).sum` -/
abbrev cum := Proofs.C07.cum

/-- with non-negative weights of positive total, the variate `u ∈ [0,1)` selects
index `k` exactly when `cum k / Σ ≤ u < cum (k+1) / Σ` — an interval of length `p_k / Σ` — provided
`p_k > 0`; hence the push-forward of the uniform tape is the normalised distribution. -/
theorem inverseCdf_interval (ps : List Rat) (hnn : ∀ p ∈ ps, 0 ≤ p) (htot : 0 < ps.sum)
    (u : Rat) (hu0 : 0 ≤ u) (hu1 : u < 1) (k : Nat) (hk : k < ps.length) (hpk : 0 < ps.getD k 0) :
    inverseCdf ps u = k ↔ cum ps k / ps.sum ≤ u ∧ u < cum ps (k + 1) / ps.sum :=
  Proofs.C07.inverseCdf_interval ps hnn htot u hu0 hu1 k hk hpk

/-- the selected index is always a valid index -/
theorem inverseCdf_lt (ps : List Rat) (hne : ps ≠ []) (u : Rat) : inverseCdf ps u < ps.length :=
  Proofs.C07.inverseCdf_lt ps hne u

/-- for efficiency and dark-count probability in [0,1] the kernel is a
probability distribution over detected states … -/
theorem detectorKernel_nonneg (d : Det) (h0 : 0 ≤ d.eta) (h1 : d.eta ≤ 1) (h2 : 0 ≤ d.pDark) (h3 : d.pDark ≤ 1)
    (s : FState) : ∀ x ∈ detectorKernel d s, 0 ≤ x.2 := by
  rw [Proofs.C07.detectorKernel_eq_prodK]
  refine Proofs.C07.prodK_nonneg _ fun k hk => ?_
  obtain ⟨n, _, rfl⟩ := List.mem_map.mp hk
  exact Proofs.C07.modeKernel_nonneg d h0 h1 h2 h3 n

theorem detectorKernel_sum_one (d : Det) (s : FState) : ((detectorKernel d s).map (·.2)).sum = 1 := by
  rw [Proofs.C06.sum_eq_mix, ← Proofs.C07.detExp_eq_mix, Proofs.C07.detExp]
  simp only [Proofs.C07.mix_bitLaw_const]

/-- … each mode independently: thinning (each photon kept with the efficiency), then at most one
dark count, then the threshold cap.  Closed form of one mode's distribution. -/
theorem modeKernel_closed_form (d : Det) (n k : Nat) :
    (((modeKernel d n).find? (·.1 == k)).map (·.2)).getD 0 =
      ((((List.range (n + 1)).flatMap fun j =>
          let p : Rat := (binom n j : Rat) * d.eta ^ j * (1 - d.eta) ^ (n - j)
          [(j, p * (1 - d.pDark)), (j + 1, p * d.pDark)]).filter
        (fun x => (if d.pnr then x.1 else min x.1 1) == k)).map (·.2)).sum := by
  refine (Proofs.C07.getD_modeKernel d n k).trans ?_
  simp only [Proofs.C07.thr_eq_min, Proofs.C07.darkL, Proofs.C07.thinL, List.flatMap_map]

/-- for every tape the detected state lies in the kernel's support (same length; per mode at most
`n + 1` counts, at most 1 under threshold detection) -/
theorem detectorSample_shape (d : Det) (s : FState) (tape : List Rat) :
    (detectorSample d s tape).1.length = s.length ∧
    (∀ m, (detectorSample d s tape).1.getD m 0 ≤ s.getD m 0 + 1) ∧
    (d.pnr = false → ∀ c ∈ (detectorSample d s tape).1, c ≤ 1) := by
  rw [Proofs.C07.detectorSample_closed]
  unfold Proofs.C07.detClosed
  refine ⟨?_, fun m => ?_, fun hp => Proofs.C07.stage3_le_one d hp _⟩
  · rw [Proofs.C07.stage3_length]
    split <;> split <;> simp [Proofs.C07.keptList_length, Proofs.C07.darkList_length]
  · refine Nat.le_trans (Proofs.C07.stage3_getD_le d _ m) ?_
    have hk := Proofs.C07.keptList_getD_le (fun u : Rat => u > d.eta) s tape m
    split
    · refine Nat.le_trans (Proofs.C07.darkList_getD_le _ _ _ m) ?_
      split <;> dsimp only <;> omega
    · split <;> dsimp only <;> omega

/-- a perfect detector returns its input and consumes nothing -/
theorem detectorSample_perfect (s : FState) (tape : List Rat) :
    detectorSample ⟨1, 0, true⟩ s tape = (s, tape) := by
  simp [detectorSample]

/-- a state is returned only if it satisfied the heralds, and what is returned has the
heralded modes removed, satisfies the post-selection and the minimum-detection setting -/
theorem acceptState_spec (outHer : Dict) (rules : List Rule) (minDet : Nat) (s hs : FState) :
    acceptState outHer rules minDet s = some hs ↔
      heraldsOk outHer s = true ∧ hs = removeHeralds s outHer.keys ∧
      psValidate rules hs = true ∧ minDet ≤ photons hs :=
  Proofs.C07.acceptState_spec outHer rules minDet s hs

/-- every state returned by `sample_N_inputs`, for every distribution, detector and tape, is the
accepted form of some detected state; at most one state is returned per input -/
theorem sampleNInputs_ok (dist : List (FState × Rat)) (d : Det) (outHer : Dict) (rules : List Rule)
    (minDet : Nat) (us tape : List Rat) :
    (sampleNInputs dist d outHer rules minDet us tape).length ≤ us.length ∧
    ∀ hs ∈ sampleNInputs dist d outHer rules minDet us tape,
      psValidate rules hs = true ∧ minDet ≤ photons hs ∧
      ∃ s, heraldsOk outHer s = true ∧ hs = removeHeralds s outHer.keys :=
  Proofs.C07.sampleNInputs_ok dist d outHer rules minDet us tape

/-- the distribution `sample_N_outputs` draws from contains only accepted states, each once, and
gives each the total weight of the (thresholded) states that map to it -/
theorem outputsDist_spec (dist : List (FState × Rat)) (pnr : Bool) (outHer : Dict) (rules : List Rule)
    (minDet : Nat) :
    ((outputsDist dist pnr outHer rules minDet).map (·.1)).Nodup ∧
    ∀ hs, (((outputsDist dist pnr outHer rules minDet).find? (·.1 == hs)).map (·.2)).getD 0 =
      ((dist.filter fun x =>
          acceptState outHer rules minDet (if pnr then x.1 else x.1.map fun c => min c 1) == some hs).map
        (·.2)).sum :=
  Proofs.C07.outputsDist_spec dist pnr outHer rules minDet

/-- `sample_N_outputs` returns exactly one sample per requested output, each a state of the
conditional distribution -/
theorem sampleNOutputs_count (cond : List (FState × Rat)) (us : List Rat) :
    (sampleNOutputs cond us).length = us.length ∧
    (cond ≠ [] → ∀ s ∈ sampleNOutputs cond us, s ∈ cond.map (·.1)) :=
  Proofs.C07.sampleNOutputs_count cond us

/-! ## Limit statements -/

/-! ### (A) deterministic equidistribution on the uniform grid (core `Rat`) -/

/-- number of points `j / N`, `j < N`, of the uniform grid that select index `k`:
`((List.range N).filter fun j => inverseCdf ps (j / N) = k).length`
(defined in LW/Proofs/C07Grid.lean) -/
abbrev gridCount := Proofs.C07.gridCount

/-- with non-negative weights of positive total, for every valid index `k`
(including `p_k = 0`) and every `N > 0`, the fraction of the `N` grid points selecting `k` is within
`1 / N` of the normalised weight `p_k / Σp` -/
theorem inverseCdf_grid_frequency (ps : List Rat) (hnn : ∀ p ∈ ps, 0 ≤ p) (htot : 0 < ps.sum)
    (k : Nat) (hk : k < ps.length) (N : Nat) (hN : 0 < N) :
    |(gridCount ps N k : Rat) / N - ps.getD k 0 / ps.sum| ≤ 1 / N :=
  Proofs.C07.inverseCdf_grid_frequency ps hnn htot k hk N hN

/-- … in fact strictly less than `1 / N` -/
theorem inverseCdf_grid_frequency_lt (ps : List Rat) (hnn : ∀ p ∈ ps, 0 ≤ p) (htot : 0 < ps.sum)
    (k : Nat) (hk : k < ps.length) (N : Nat) (hN : 0 < N) :
    |(gridCount ps N k : Rat) / N - ps.getD k 0 / ps.sum| < 1 / N :=
  Proofs.C07.inverseCdf_grid_frequency_lt ps hnn htot k hk N hN

/-- an index of weight 0 is selected by no grid point (numpy's clipping to the last index never
acts on `[0,1)`) -/
theorem gridCount_eq_zero (ps : List Rat) (hnn : ∀ p ∈ ps, 0 ≤ p) (htot : 0 < ps.sum)
    (k : Nat) (hk : k < ps.length) (hpk : ps.getD k 0 = 0) (N : Nat) : gridCount ps N k = 0 := by
  unfold gridCount Proofs.C07.gridCount
  rw [List.length_eq_zero_iff, List.filter_eq_nil_iff]
  intro j hj
  rw [decide_eq_true_eq,
    Proofs.C07.inverseCdf_grid_eq_iff ps hnn htot k hk (List.mem_range.mp hj),
    Proofs.C07.cum_succ ps k hk, hpk, add_zero]
  intro h
  exact absurd h.2 (not_lt.mpr h.1)

/-- convergence, ε–N₀ form over `Rat` -/
theorem inverseCdf_grid_frequency_eventually (ps : List Rat) (hnn : ∀ p ∈ ps, 0 ≤ p)
    (htot : 0 < ps.sum) (k : Nat) (hk : k < ps.length) (ε : Rat) (hε : 0 < ε) :
    ∃ N₀ : Nat, ∀ N, N₀ ≤ N → |(gridCount ps N k : Rat) / N - ps.getD k 0 / ps.sum| < ε := by
  obtain ⟨N₀, hN₀⟩ := exists_nat_gt (1 / ε)
  have hN₀pos : (0 : Rat) < N₀ := lt_trans (by positivity) hN₀
  refine ⟨N₀, fun N hN => ?_⟩
  have hNq : (N₀ : Rat) ≤ N := by exact_mod_cast hN
  have hN' : 0 < N := by exact_mod_cast lt_of_lt_of_le hN₀pos hNq
  exact (Proofs.C07.inverseCdf_grid_frequency_lt ps hnn htot k hk N hN').trans
    ((one_div_le_one_div_of_le hN₀pos hNq).trans_lt ((one_div_lt hN₀pos hε).mpr hN₀))

/-- convergence, as a limit of real numbers -/
theorem inverseCdf_grid_frequency_tendsto (ps : List Rat) (hnn : ∀ p ∈ ps, 0 ≤ p)
    (htot : 0 < ps.sum) (k : Nat) (hk : k < ps.length) :
    Filter.Tendsto (fun N : ℕ => (((gridCount ps N k : Rat) / N : Rat) : ℝ)) Filter.atTop
      (nhds ((ps.getD k 0 / ps.sum : Rat) : ℝ)) := by
  rw [tendsto_iff_dist_tendsto_zero]
  refine squeeze_zero' (Filter.Eventually.of_forall fun _ => dist_nonneg) ?_
    tendsto_one_div_atTop_nhds_zero_nat
  filter_upwards [Filter.eventually_gt_atTop 0] with N hN
  rw [Real.dist_eq]
  have h := (Rat.cast_le (K := ℝ)).mpr (Proofs.C07.inverseCdf_grid_frequency ps hnn htot k hk N hN)
  rw [Rat.cast_div, Rat.cast_one, Rat.cast_natCast] at h
  rw [← Rat.cast_sub, ← Rat.cast_abs]
  exact h

/-! ### (B) probabilistic form: the real twin and the strong law of large numbers -/

/-- real-valued twin of `inverseCdf`: the same recursion and clipping over `ℝ`
(LW/Proofs/C07CdfReal.lean):
`inverseCdfR ps u = min (go u (ps.foldl (·+·) 0) ps 0 0) (ps.length - 1)` with
`go u tot (p :: rest) acc i = if u < (acc + p) / tot then i else go u tot rest (acc + p) (i + 1)`,
`go u tot [] acc i = i` -/
noncomputable abbrev inverseCdfR := Proofs.C07.inverseCdfR

/-- prefix sums of real weights, `cumR ps k = (ps.take k).sum` -/
noncomputable abbrev cumR := Proofs.C07.cumR

/-- on rational weights and a rational variate the real twin is the model function -/
theorem inverseCdfR_cast (ps : List ℚ) (u : ℚ) :
    inverseCdfR (ps.map (fun q : ℚ => (q : ℝ))) (u : ℝ) = inverseCdf ps u :=
  Proofs.C07.inverseCdfR_cast ps u

/-- the interval characterisation over `ℝ` (`p_k = 0` allowed, the interval is then empty) -/
theorem inverseCdfR_interval (ps : List ℝ) (hnn : ∀ p ∈ ps, 0 ≤ p) (htot : 0 < ps.sum)
    (u : ℝ) (hu0 : 0 ≤ u) (hu1 : u < 1) (k : ℕ) (hk : k < ps.length) :
    inverseCdfR ps u = k ↔ cumR ps k / ps.sum ≤ u ∧ u < cumR ps (k + 1) / ps.sum :=
  Proofs.C07.inverseCdfR_interval ps hnn htot u hu0 hu1 k hk

/-- measurability of selection as a function of the variate (any weights) -/
theorem measurable_inverseCdfR (ps : List ℝ) : Measurable fun u : ℝ => inverseCdfR ps u :=
  Proofs.C07.measurable_inverseCdfR ps

/-- under the uniform law on `[0,1)` index `k` is selected with probability
`p_k / Σp` -/
theorem inverseCdfR_uniform_measure (ps : List ℝ) (hnn : ∀ p ∈ ps, 0 ≤ p) (htot : 0 < ps.sum)
    (k : ℕ) (hk : k < ps.length) :
    (MeasureTheory.volume.restrict (Set.Ico (0 : ℝ) 1)) {u : ℝ | inverseCdfR ps u = k} =
      ENNReal.ofReal (ps.getD k 0 / ps.sum) :=
  Proofs.C07.volume_inverseCdfR_eq ps hnn htot k hk

/-- strong law for the selection step: if the variates `U 0, U 1, …` are pairwise independent and
each is uniformly distributed on `[0,1)`, then almost surely the fraction of the first `n` draws
that select index `k` tends to `p_k / Σp`.  (Mutual independence `iIndepFun U μ` implies the
pairwise hypothesis; such a sequence exists: `Proofs.C07.ideal_tape_exists`.) -/
theorem sampling_frequencies_converge {Ω : Type*} [MeasurableSpace Ω] {μ : MeasureTheory.Measure Ω}
    (U : ℕ → Ω → ℝ)
    (hindep : Pairwise fun i j => ProbabilityTheory.IndepFun (U i) (U j) μ)
    (hlaw : ∀ i, MeasureTheory.Measure.map (U i) μ = MeasureTheory.volume.restrict (Set.Ico (0 : ℝ) 1))
    (ps : List ℝ) (hnn : ∀ p ∈ ps, 0 ≤ p) (htot : 0 < ps.sum) (k : ℕ) (hk : k < ps.length) :
    ∀ᵐ ω ∂μ, Filter.Tendsto
      (fun n : ℕ =>
        (((Finset.range n).filter fun i => inverseCdfR ps (U i ω) = k).card : ℝ) / n)
      Filter.atTop (nhds (ps.getD k 0 / ps.sum)) :=
  Proofs.C07.sampling_frequencies_converge U hindep hlaw ps hnn htot k hk

/-- … for the model's rational weights; the limit is the exact rational normalised weight -/
theorem sampling_frequencies_converge_rat {Ω : Type*} [MeasurableSpace Ω]
    {μ : MeasureTheory.Measure Ω} (U : ℕ → Ω → ℝ)
    (hindep : Pairwise fun i j => ProbabilityTheory.IndepFun (U i) (U j) μ)
    (hlaw : ∀ i, MeasureTheory.Measure.map (U i) μ = MeasureTheory.volume.restrict (Set.Ico (0 : ℝ) 1))
    (ps : List ℚ) (hnn : ∀ p ∈ ps, 0 ≤ p) (htot : 0 < ps.sum) (k : ℕ) (hk : k < ps.length) :
    ∀ᵐ ω ∂μ, Filter.Tendsto
      (fun n : ℕ =>
        (((Finset.range n).filter fun i =>
          inverseCdfR (ps.map (fun q : ℚ => (q : ℝ))) (U i ω) = k).card : ℝ) / n)
      Filter.atTop (nhds ((ps.getD k 0 / ps.sum : ℚ) : ℝ)) := by
  have hsum : (ps.map (fun q : ℚ => (q : ℝ))).sum = ((ps.sum : ℚ) : ℝ) :=
    (map_list_sum (Rat.castHom ℝ) ps).symm
  have hget : (ps.map (fun q : ℚ => (q : ℝ))).getD k 0 = ((ps.getD k 0 : ℚ) : ℝ) := by
    have := List.getD_map ps (0 : ℚ) (n := k) (fun q : ℚ => (q : ℝ))
    rwa [Rat.cast_zero] at this
  have h := Proofs.C07.sampling_frequencies_converge U hindep hlaw (ps.map (fun q : ℚ => (q : ℝ)))
    (by
      intro p hp
      obtain ⟨q, hq, rfl⟩ := List.mem_map.mp hp
      exact_mod_cast hnn q hq)
    (by rw [hsum]; exact_mod_cast htot) k (by rwa [List.length_map])
  rw [hsum, hget] at h
  rw [Rat.cast_div]
  exact h

/-! ### (C1) the composite `sampleOne` -/

/-- `sampleOne` (`Sampler.sample`) returns the state at the index chosen by `inverseCdf`
(`Generator.choice`): every distribution, every variate (model level, `Rat`) -/
theorem sampleOne_eq (dist : List (FState × ℚ)) (u : ℚ) :
    sampleOne dist u = (dist.getD (inverseCdf (dist.map (·.2)) u) ([], 0)).1 :=
  Proofs.C07.sampleOne_eq dist u

/-- real-valued twin of `sampleOne` (same recursion over `ℝ`, LW/Proofs/C07CdfReal.lean) -/
noncomputable abbrev sampleOneR := Proofs.C07.sampleOneR

/-- agreement of `sampleOneR` with the model on rational data -/
theorem sampleOneR_cast (dist : List (FState × ℚ)) (u : ℚ) :
    sampleOneR (dist.map fun x => (x.1, (x.2 : ℝ))) (u : ℝ) = sampleOne dist u := by
  have hw : (dist.map fun x => (x.1, (x.2 : ℝ))).map (·.2) =
      (dist.map (·.2)).map (fun q : ℚ => (q : ℝ)) := by
    simp [List.map_map, Function.comp_def]
  rw [sampleOneR, Proofs.C07.sampleOneR_eq, Proofs.C07.sampleOne_eq, hw, Proofs.C07.inverseCdfR_cast]
  have := List.getD_map dist (([], 0) : FState × ℚ) (n := inverseCdf (dist.map (·.2)) u)
    (fun x => (x.1, (x.2 : ℝ)))
  simp only [Rat.cast_zero] at this
  rw [this]

/-- strong law for `sampleOne`: almost surely the fraction of the first `n` draws returning the
state `s` tends to the total normalised weight of the entries of `dist` whose state is `s` -/
theorem sampleOne_frequencies_converge {Ω : Type*} [MeasurableSpace Ω] {μ : MeasureTheory.Measure Ω}
    (U : ℕ → Ω → ℝ)
    (hindep : Pairwise fun i j => ProbabilityTheory.IndepFun (U i) (U j) μ)
    (hlaw : ∀ i, MeasureTheory.Measure.map (U i) μ = MeasureTheory.volume.restrict (Set.Ico (0 : ℝ) 1))
    (dist : List (FState × ℝ)) (hnn : ∀ x ∈ dist, 0 ≤ x.2) (htot : 0 < (dist.map (·.2)).sum)
    (s : FState) :
    ∀ᵐ ω ∂μ, Filter.Tendsto
      (fun n : ℕ => (((Finset.range n).filter fun i => sampleOneR dist (U i ω) = s).card : ℝ) / n)
      Filter.atTop
      (nhds (((dist.filter fun x => decide (x.1 = s)).map (·.2)).sum / (dist.map (·.2)).sum)) :=
  Proofs.C07.sampleOne_frequencies_converge U hindep hlaw dist hnn htot s

/-! ### (C2) the detector on an i.i.d. uniform tape -/

/-- real-valued twin of `detectorSample`: the same program (efficiency stage, dark-count stage,
threshold; same tape consumption) on a tape of real variates, the rational settings being compared
as reals: `u > (d.eta : ℝ)`, `u < (d.pDark : ℝ)` (LW/Proofs/C07Detector.lean) -/
noncomputable abbrev detectorSampleR := Proofs.C07.detectorSampleR

/-- on a rational tape the twin returns the model's detected state and unread tape -/
theorem detectorSampleR_cast (d : Det) (s : FState) (tape : List ℚ) :
    detectorSampleR d s (tape.map (fun q : ℚ => (q : ℝ))) =
      ((detectorSample d s tape).1, (detectorSample d s tape).2.map (fun q : ℚ => (q : ℝ))) :=
  Proofs.C07.detectorSampleR_cast d s tape

/-- if the tape entries `V 0, V 1, …` are (mutually) independent and each uniform on
`[0,1)`, the efficiency and the dark-count probability lie in `[0,1]`, and the detector is handed
the first `T ≥ photons s + s.length` entries (it never reads more), then it returns the state `t`
with probability the total weight of `t` in the exact kernel `detectorKernel d s`. -/
theorem detectorSampleR_law {Ω : Type*} [MeasurableSpace Ω] {μ : MeasureTheory.Measure Ω}
    (V : ℕ → Ω → ℝ) (hindep : ProbabilityTheory.iIndepFun V μ)
    (hlaw : ∀ i, MeasureTheory.Measure.map (V i) μ = MeasureTheory.volume.restrict (Set.Ico (0 : ℝ) 1))
    (d : Det) (h0 : 0 ≤ d.eta) (h1 : d.eta ≤ 1) (h2 : 0 ≤ d.pDark) (h3 : d.pDark ≤ 1)
    (s : FState) (T : ℕ) (hT : photons s + s.length ≤ T) (t : FState) :
    μ {ω | (detectorSampleR d s ((List.range T).map fun i => V i ω)).1 = t} =
      ENNReal.ofReal (((((detectorKernel d s).filter (·.1 == t)).map (·.2)).sum : ℚ) : ℝ) :=
  Proofs.C07.detectorSampleR_law V hindep hlaw d h0 h1 h2 h3 s T
    (le_trans (Proofs.C07.nEff_add_nDark_le d s) hT) t

/-! ### (D) the rejection loop of `sample_N_inputs` as a whole -/

/-- one pass of the loop body: selection, detector, acceptance; returns the unread tape -/
abbrev iterOutcome := Proofs.C07.iterOutcome

/-- renewal decomposition (model level, every distribution / detector / tape): `sample_N_inputs`
on the variates `u :: us` is the outcome of one pass (kept if accepted) followed by
`sample_N_inputs` on `us` started on the tape that pass left unread.  Hence the list returned for
`N` inputs is the list of accepted pass outcomes, in order, and its length is the number of accepted
passes. -/
theorem sampleNInputs_renewal (dist : List (FState × Rat)) (d : Det) (outHer : Dict)
    (rules : List Rule) (minDet : Nat) (u : Rat) (us : List Rat) (tape : List Rat) :
    sampleNInputs dist d outHer rules minDet (u :: us) tape
      = (iterOutcome dist d outHer rules minDet u tape).1.toList
        ++ sampleNInputs dist d outHer rules minDet us
            (iterOutcome dist d outHer rules minDet u tape).2 := by
  simp only [Proofs.C07.sampleNInputs_eq_collect]
  rfl

/-- strong law for the rejection loop: if the outcomes `Y 0, Y 1, …` of the passes (`none` =
rejected) are pairwise independent and identically distributed, then almost surely the ACCEPTED
FRACTION tends to the probability that one pass is accepted and, when that is positive, the share
of a state `s` among the accepted passes tends to the conditional probability
`P(pass returns s) / P(pass accepted)`.
Partial with respect to the property: that the passes of a loop consuming ONE i.i.d. uniform tape
in order are i.i.d. (each pass reads a fresh block whose length depends only on that block) is the
hypothesis here, not a theorem; the law of a single pass is given by `inverseCdfR_uniform_measure`
and `detectorSampleR_law`. -/
theorem rejection_loop_frequencies {Ω : Type*} [MeasurableSpace Ω] {μ : MeasureTheory.Measure Ω}
    [MeasureTheory.IsProbabilityMeasure μ] {β : Type*} [MeasurableSpace (Option β)]
    [MeasurableSingletonClass (Option β)] [DecidableEq β]
    (Y : ℕ → Ω → Option β) (hmeas : ∀ i, Measurable (Y i))
    (hindep : Pairwise fun i j => ProbabilityTheory.IndepFun (Y i) (Y j) μ)
    (hident : ∀ i, ProbabilityTheory.IdentDistrib (Y i) (Y 0) μ μ) (s : β)
    (hpos : 0 < μ.real (Y 0 ⁻¹' {o | o.isSome})) :
    ∀ᵐ ω ∂μ,
      Filter.Tendsto
        (fun n : ℕ => (((Finset.range n).filter fun i => (Y i ω).isSome).card : ℝ) / n)
        Filter.atTop (nhds (μ.real (Y 0 ⁻¹' {o | o.isSome}))) ∧
      Filter.Tendsto (fun n : ℕ =>
          (((Finset.range n).filter fun i => Y i ω = some s).card : ℝ)
            / ((Finset.range n).filter fun i => (Y i ω).isSome).card)
        Filter.atTop (nhds (μ.real (Y 0 ⁻¹' {some s}) / μ.real (Y 0 ⁻¹' {o | o.isSome}))) :=
  Proofs.C07.rejection_loop_frequencies Y hmeas hindep hident s hpos

end LW.C07
