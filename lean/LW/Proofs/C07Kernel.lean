/-
  C07Kernel — the exact detector kernel (binomial thinning, dark count, threshold, merge of equal
  counts) as a mixture, and the independent product `prodK` of finite laws, of which it is an instance.
-/
import Mathlib.Algebra.Order.Field.Basic
import Mathlib.Algebra.Order.Field.Rat
import Mathlib.Algebra.BigOperators.Group.List.Basic
import Mathlib.Data.Nat.Choose.Basic
import Mathlib.Tactic.Linarith
import Mathlib.Tactic.Positivity
import LW.Model.Sampling
import LW.Proofs.C06Dict

namespace LW.Proofs.C07

open LW.Src LW.Proofs.C06

/-!
One merge step (the `foldl` at the end of `modeKernel` and in `outputsDist`) is the dictionary update
`d[k] += p` (`KD.addTo`) by `rfl`, the whole fold is `KD.ofPairs`, and the inline look-up
`find? … getD 0` of the model is `(KD.get? · ·).getD 0`; so the lemmas of C06Dict apply as they stand. -/

section merge
-- `keys_foldl_mergeStep` keeps all the section's instance arguments
set_option linter.unusedSectionVars false

variable {α : Type} [BEq α] [LawfulBEq α] [DecidableEq α]

def mergeStep (acc : List (α × Rat)) (kp : α × Rat) : List (α × Rat) :=
  if acc.any (·.1 == kp.1) then acc.map fun x => if x.1 == kp.1 then (kp.1, x.2 + kp.2) else x
  else acc ++ [kp]

theorem mergeStep_eq_addTo (acc : List (α × Rat)) (kp : α × Rat) :
    mergeStep acc kp = KD.addTo acc kp.1 kp.2 := rfl

theorem filter_sum_eq_mix (l : List (α × Rat)) (a : α) :
    ((l.filter (·.1 == a)).map (·.2)).sum = mix l (fun k => if k == a then 1 else 0) := by
  have h := sum_mul_indicator l (·.2) (fun x => (x.1 == a) = true)
  simp only [Bool.decide_eq_true] at h
  exact h.symm

theorem keys_foldl_mergeStep (l acc : List (α × Rat)) :
    ∀ a ∈ (l.foldl mergeStep acc).map (·.1), a ∈ acc.map (·.1) ∨ a ∈ l.map (·.1) :=
  fun a ha => (mem_foldl_addTo_keys l acc a).1 ha

end merge

theorem binom_eq_choose (n k : Nat) : binom n k = Nat.choose n k := by
  induction n generalizing k with
  | zero => cases k <;> simp [binom]
  | succ n ih =>
    cases k with
    | zero => simp [binom]
    | succ k => simp [binom, ih, Nat.choose_succ_succ]

/-- `thinL`, `darkL`, `thrL` are the `let`s of `modeKernel` (thinning, dark count, threshold) as
definitions, so that `modeKernel_eq` is `rfl`; `thr` is the threshold on one count -/
def thinL (d : Det) (n : Nat) : List (Nat × Rat) :=
  (List.range (n + 1)).map fun k => (k, (binom n k : Rat) * d.eta ^ k * (1 - d.eta) ^ (n - k))

def darkL (d : Det) (n : Nat) : List (Nat × Rat) :=
  (thinL d n).flatMap fun kp => [(kp.1, kp.2 * (1 - d.pDark)), (kp.1 + 1, kp.2 * d.pDark)]

def thrL (d : Det) (n : Nat) : List (Nat × Rat) :=
  if d.pnr then darkL d n else (darkL d n).map fun kp => (if kp.1 ≥ 1 then 1 else 0, kp.2)

def thr (d : Det) (x : Nat) : Nat := if d.pnr then x else (if x ≥ 1 then 1 else 0)

theorem thrL_eq_map (d : Det) (n : Nat) : thrL d n = (darkL d n).map fun kp => (thr d kp.1, kp.2) := by
  unfold thrL thr
  cases d.pnr <;> simp

theorem modeKernel_eq (d : Det) (n : Nat) : modeKernel d n = KD.ofPairs (thrL d n) := rfl

theorem mix_modeKernel (d : Det) (n : Nat) (F : Nat → Rat) :
    mix (modeKernel d n) F =
      ((List.range (n + 1)).map fun j => (binom n j : Rat) * d.eta ^ j * (1 - d.eta) ^ (n - j) *
        ((1 - d.pDark) * F (thr d j) + d.pDark * F (thr d (j + 1)))).sum := by
  rw [modeKernel_eq, mix_ofPairs, thrL_eq_map, mix_map_key]
  unfold darkL
  rw [mix_flatMap]
  unfold thinL
  rw [List.map_map]
  congr 1
  apply List.map_congr_left
  intro j _
  simp only [Function.comp_apply, mix_cons, mix_nil, add_zero]
  ring

theorem thinL_nonneg (d : Det) (h0 : 0 ≤ d.eta) (h1 : d.eta ≤ 1) (n : Nat) :
    ∀ x ∈ thinL d n, 0 ≤ x.2 := by
  intro x hx
  unfold thinL at hx
  rw [List.mem_map] at hx
  obtain ⟨k, _, rfl⟩ := hx
  have : (0 : Rat) ≤ 1 - d.eta := by linarith
  positivity

theorem darkL_nonneg (d : Det) (h0 : 0 ≤ d.eta) (h1 : d.eta ≤ 1) (h2 : 0 ≤ d.pDark)
    (h3 : d.pDark ≤ 1) (n : Nat) : ∀ x ∈ darkL d n, 0 ≤ x.2 := by
  intro x hx
  unfold darkL at hx
  rw [List.mem_flatMap] at hx
  obtain ⟨kp, hkp, hx⟩ := hx
  have hp := thinL_nonneg d h0 h1 n kp hkp
  have : (0 : Rat) ≤ 1 - d.pDark := by linarith
  simp only [List.mem_cons, List.not_mem_nil, or_false] at hx
  rcases hx with rfl | rfl
  · exact mul_nonneg hp this
  · exact mul_nonneg hp h2

theorem thrL_nonneg (d : Det) (h0 : 0 ≤ d.eta) (h1 : d.eta ≤ 1) (h2 : 0 ≤ d.pDark)
    (h3 : d.pDark ≤ 1) (n : Nat) : ∀ x ∈ thrL d n, 0 ≤ x.2 := by
  unfold thrL
  split
  · exact darkL_nonneg d h0 h1 h2 h3 n
  · intro x hx
    rw [List.mem_map] at hx
    obtain ⟨y, hy, rfl⟩ := hx
    exact darkL_nonneg d h0 h1 h2 h3 n y hy

theorem modeKernel_nonneg (d : Det) (h0 : 0 ≤ d.eta) (h1 : d.eta ≤ 1) (h2 : 0 ≤ d.pDark)
    (h3 : d.pDark ≤ 1) (n : Nat) : ∀ x ∈ modeKernel d n, 0 ≤ x.2 :=
  ofPairs_nonneg (thrL d n) (thrL_nonneg d h0 h1 h2 h3 n)

section prodK
variable {α K : Type} [CommSemiring K]

/-- the law of a list of independent outcomes, the `i`-th drawn from the `i`-th weighted list -/
def prodK : List (List (α × K)) → List (List α × K)
  | [] => [([], 1)]
  | k :: ks => k.flatMap fun a => (prodK ks).map fun t => (a.1 :: t.1, a.2 * t.2)

theorem mix_prodK_nil (F : List α → K) : mix (prodK ([] : List (List (α × K)))) F = F [] := by
  simp [prodK]

theorem mix_prodK_cons (k : List (α × K)) (ks : List (List (α × K))) (F : List α → K) :
    mix (prodK (k :: ks)) F = mix k fun a => mix (prodK ks) fun t => F (a :: t) :=
  mix_product k (prodK ks) List.cons F

theorem mix_prodK_append (ks ks' : List (List (α × K))) (F : List α → K) :
    mix (prodK (ks ++ ks')) F = mix (prodK ks) fun a => mix (prodK ks') fun b => F (a ++ b) := by
  induction ks generalizing F with
  | nil => simp [prodK]
  | cons k ks ih => simp only [List.cons_append, mix_prodK_cons, ih]

theorem mix_prodK_one (ks : List (List (α × K))) (h : ∀ k ∈ ks, mix k (fun _ => 1) = 1) :
    mix (prodK ks) (fun _ => 1) = 1 := by
  induction ks with
  | nil => exact mix_prodK_nil _
  | cons k ks ih =>
    rw [mix_prodK_cons, ih fun k' hk' => h k' (List.mem_cons_of_mem _ hk')]
    exact h k List.mem_cons_self

theorem mem_prodK_length (ks : List (List (α × K))) : ∀ x ∈ prodK ks, x.1.length = ks.length := by
  induction ks with
  | nil => intro x hx; simp [prodK] at hx; subst hx; rfl
  | cons k ks ih =>
    intro x hx
    rw [prodK, List.mem_flatMap] at hx
    obtain ⟨a, _, hx⟩ := hx
    obtain ⟨t, ht, rfl⟩ := List.mem_map.mp hx
    simp [ih t ht]

end prodK

theorem prodK_nonneg {α K : Type} [Field K] [LinearOrder K] [IsStrictOrderedRing K]
    (ks : List (List (α × K))) (h : ∀ k ∈ ks, ∀ x ∈ k, 0 ≤ x.2) : ∀ x ∈ prodK ks, 0 ≤ x.2 := by
  induction ks with
  | nil => intro x hx; simp [prodK] at hx; subst hx; exact zero_le_one
  | cons k ks ih =>
    intro x hx
    rw [prodK, List.mem_flatMap] at hx
    obtain ⟨a, ha, hx⟩ := hx
    obtain ⟨t, ht, rfl⟩ := List.mem_map.mp hx
    exact mul_nonneg (h k List.mem_cons_self a ha)
      (ih (fun k' hk' => h k' (List.mem_cons_of_mem _ hk')) t ht)

theorem detectorKernel_eq_prodK (d : Det) (s : FState) :
    detectorKernel d s = prodK (s.map (modeKernel d)) := by
  induction s with
  | nil => rfl
  | cons n s ih => rw [detectorKernel, ih]; rfl

theorem getD_modeKernel (d : Det) (n k : Nat) :
    (KD.get? (modeKernel d n) k).getD 0 =
      (((darkL d n).filter (fun x => thr d x.1 == k)).map (·.2)).sum := by
  rw [modeKernel_eq, getD_ofPairs, thrL_eq_map, List.filter_map, List.map_map]
  simp only [beq_eq_decide]
  rfl

theorem thr_eq_min (d : Det) (x : Nat) : thr d x = if d.pnr then x else min x 1 := by
  unfold thr
  split
  · rfl
  · split <;> omega

/-! ### non-vacuity on the concrete detector ⟨1/2, 1/4, threshold⟩ and the state [2,0,1] -/

example : (0 : Rat) ≤ (⟨1/2, 1/4, false⟩ : Det).eta ∧ (⟨1/2, 1/4, false⟩ : Det).eta ≤ 1 ∧
    (0 : Rat) ≤ (⟨1/2, 1/4, false⟩ : Det).pDark ∧ (⟨1/2, 1/4, false⟩ : Det).pDark ≤ 1 := by
  norm_num

example : (detectorKernel ⟨1/2, 1/4, false⟩ [2, 0, 1]).length = 8 ∧
    ((detectorKernel ⟨1/2, 1/4, false⟩ [2, 0, 1]).map (·.2)).sum = 1 := by
  decide +kernel

/-- one mode with two photons, threshold detection: P(no click) = (1/4)(3/4), P(click) = 13/16 -/
example : modeKernel ⟨1/2, 1/4, false⟩ 2 = [(0, 3/16), (1, 13/16)] := by decide +kernel

example : modeKernel ⟨1/2, 1/4, true⟩ 2 = [(0, 3/16), (1, 7/16), (2, 5/16), (3, 1/16)] := by
  decide +kernel

/-- every tape gives a state in the support; one concrete tape -/
example : (detectorSample ⟨1/2, 1/4, false⟩ [2, 0, 1] [3/4, 1/4, 1/4, 1/2, 1/8, 1/2]).1 ∈
    (detectorKernel ⟨1/2, 1/4, false⟩ [2, 0, 1]).map (·.1) := by decide +kernel

end LW.Proofs.C07
