/-
  C08 — Operations never modify their arguments; failed calls change nothing.

  `heapStep` (LW.Model.Heap) is the construction API as an operation on the pool of live circuit
  objects; the correspondence check compares *every* live object of the implementation with this
  pool after every call, so the frame theorems below transfer to the code.
-/
import LW.Proofs.CircCalls

namespace LW.C08

variable {K : Type} [Zero K] [One K]

/-- FRAME: a call leaves every object other than its target exactly as it was — in particular
the circuit passed to `add` / `+` / `copy`, and every parent an object was added to earlier. -/
theorem step_frame (h h' : Heap K) (op : CircOp K) (r : Outcome)
    (hs : heapStep h op = some (h', r)) (k : String) (hk : k ≠ op.target) :
    h'.get? k = h.get? k := by
  rcases heapStep_eq_some hs with ⟨c, -, rfl, -⟩ | ⟨e, -, rfl, -⟩
  · exact LW.Heap.get?_set_ne h op.target k c hk
  · rfl

/-- a call that raises leaves the whole pool — the target included — exactly as it was -/
theorem failed_step_noop (h h' : Heap K) (op : CircOp K) (e : Err)
    (hs : heapStep h op = some (h', some e)) : h' = h := by
  rcases heapStep_eq_some hs with ⟨c, -, -, hr⟩ | ⟨e, -, rfl, -⟩
  · cases hr
  · rfl

/-- the frame property lifted to every history: an object that is never the target of a call in
the history is unchanged at its end (e.g. a sub-circuit reused as an argument any number of
times, or a parent while its former sub-circuits are edited). -/
theorem run_frame (ops : List (CircOp K)) (h h' : Heap K) (rs : List Outcome)
    (hr : heapRun h ops = some (h', rs)) (k : String) (hk : ∀ op ∈ ops, k ≠ op.target) :
    h'.get? k = h.get? k :=
  heapRun_isRun.induction (Q := fun x => x.get? k = h.get? k)
    (fun op hop h1 h2 r hq hs => (step_frame h1 h2 op r hs k (hk op hop)).trans hq) rfl hr

/-- a history that runs to its end yields one outcome per call -/
theorem run_outcomes_length (ops : List (CircOp K)) (h h' : Heap K) (rs : List Outcome)
    (hr : heapRun h ops = some (h', rs)) : rs.length = ops.length :=
  heapRun_isRun.length_eq hr

/-- non-vacuity: a rejected oversize addition on a concrete pool leaves it unchanged -/
example :
    let h : Heap Int := [("p", Circ.new 2), ("s", Circ.new 3)]
    heapStep h (.add "p" "s" 0 false) = some (h, some .modeRange) := rfl

end LW.C08
