/-
  LW.Proofs.C04Example — non-vacuity of the hypotheses of LW.Proofs.C04Backends: the 2-mode rotation `rot`
  over ℂ (LW.Proofs.FockExample) with `|z|² = Complex.normSq z : ℝ`, one circuit mode + one loss
  mode and two circuit modes without loss.
-/
import LW.Proofs.C04Backends
import LW.Proofs.FockExample
import Mathlib.Data.Complex.Basic
import Mathlib.Data.Real.Basic

namespace LW.Proofs.C04b

open LW.Proofs.FockIso (rot rot_unitary)

private theorem hnsq_ex : ∀ z : ℂ, Complex.ofRealHom (Complex.normSq z) = z * star z :=
  fun z => (Complex.mul_conj z).symm

example : ampNum rot [1, 1] [2, 0] = ((factProd [2, 0] : Nat) : ℂ) * slosGet (slosPhi rot [1, 1]) [2, 0] :=
  slos_eq_permanent rot (by decide) [1, 1] [2, 0] rfl rfl rfl

example : ((fullDistSlos Complex.normSq (1 / 100) rot 1 [2]).get? [1]).getD 0 =
    ((fullDistPermanent Complex.normSq (1 / 100) rot 1 [2]).get? [1]).getD 0 :=
  backends_agree Complex.normSq (fun a b => map_mul Complex.normSq a b) Complex.normSq_natCast
    (1 / 100) rot 1 [2] rfl (by decide) (by decide) [1] (by decide)

example : (fullDist .slos Complex.normSq 0 rot 1 [2]).total = 1 :=
  fullDist_total_one Complex.normSq Complex.ofRealHom Complex.ofReal_injective hnsq_ex
    Complex.normSq_nonneg .slos rot rot_unitary 1 [2] rfl (by decide) (by decide)

example : (fullDist .permanent Complex.normSq 0 rot 2 [1, 1]).total = 1 :=
  fullDist_total_one Complex.normSq Complex.ofRealHom Complex.ofReal_injective hnsq_ex
    Complex.normSq_nonneg .permanent rot rot_unitary 2 [1, 1] rfl (by decide) (by decide)

example : (pdistCalc .permanent Complex.normSq 0 rot 1 [([2], 1 / 2), ([0], 1 / 2)]).total = 1 :=
  pdistCalc_total_one Complex.normSq Complex.ofRealHom Complex.ofReal_injective hnsq_ex
    Complex.normSq_nonneg .permanent rot rot_unitary 1 (by decide) (by decide) _
    (by
      intro x hx
      simp only [List.mem_cons, List.not_mem_nil, or_false] at hx
      rcases hx with rfl | rfl <;> rfl)
    (by norm_num)

end LW.Proofs.C04b
