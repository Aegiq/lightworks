/-
  LW.Proofs.C02Calls — C02: `mapMode` lands on the modes the user can address (`Circ.User`); `herald`
  keeps `Circ.WF`; an accepted `bs`, `ps`, `loss`, `barrier`, `mode_swaps` is `addPrims` of leaves on
  such modes (`Circ.Leaf`, `bs_leaf` …), which keeps `Circ.WF` and stays off the ancillas.
-/
import LW.Proofs.C02Basic
import LW.Proofs.CircCalls
namespace LW.Proofs.C02
variable {K : Type}

theorem mapped_ok {c : Circ K} {m : Int} {a : Nat} (h : c.modeInRange (c.mapMode m) = .ok a) :
    a < c.n ∧ a ∉ c.internal ∧ (a : Int) = c.mapMode m :=
  have h2 := (Circ.modeInRange_eq_ok.mp h).2.2
  ⟨Circ.modeInRange_lt h, fun ha =>
    skipFold_not_mem _ (sorted_sortNat _) m a (mem_sortNat.mpr ha) h2.symm, h2⟩

theorem WF.internal_lt {c : Circ K} (hwf : c.WF) : ∀ a ∈ c.internal, a < c.n := by
  intro a ha
  exact hwf.inLt a (get?_isSome_iff.mp (hwf.intHer a ha).1)

theorem WF.internal_length_le {c : Circ K} (hwf : c.WF) : c.internal.length ≤ c.n :=
  length_le_of_nodup_lt _ _ hwf.intNodup (WF.internal_lt hwf)

theorem WF.inHer_length_le {c : Circ K} (hwf : c.WF) : c.inHer.length ≤ c.n :=
  C02Sem.keys_length c.inHer ▸ length_le_of_nodup_lt _ _ hwf.inNodup hwf.inLt

/-- `C02.mapMode_lt_iff` (Properties) without its hypothesis `0 ≤ m`, which the proof does not need -/
theorem mapMode_lt_iff' (c : Circ K) (hwf : c.WF) (m : Int) :
    c.mapMode m < (c.n : Int) ↔ m < (c.ports : Int) := by
  have h1 := skipFold_lt_iff (sortNat c.internal) c.n (strictSorted_sortNat hwf.intNodup)
    (fun a ha => WF.internal_lt hwf a (mem_sortNat.mp ha)) m
  have hl := WF.internal_length_le hwf
  rw [mapMode_eq_skipFold, h1, length_sortNat]
  unfold Circ.ports
  omega

theorem WF.of_spec {c : Circ K} (hwf : c.WF) {spec' : List (Comp K)}
    (h : ∀ x ∈ spec', ∀ m ∈ x.modes, m < c.n) : ({ c with spec := spec' } : Circ K).WF :=
  ⟨hwf.inNodup, hwf.outNodup, hwf.inLt, hwf.outLt, hwf.lenEq, hwf.intNodup, hwf.intHer, h⟩

theorem WF.bare {n : Nat} {spec : List (Comp K)} (h : ∀ x ∈ spec, ∀ m ∈ x.modes, m < n) :
    ({ n := n, spec := spec } : Circ K).WF :=
  ⟨List.nodup_nil, List.nodup_nil, nofun, nofun, rfl, List.nodup_nil, nofun, h⟩

theorem WF.with_spec {c : Circ K} (hwf : c.WF) (added : List (Comp K))
    (h : ∀ x ∈ added, ∀ m ∈ x.modes, m < c.n) : ({ c with spec := c.spec ++ added } : Circ K).WF :=
  WF.of_spec hwf fun x hx => (List.mem_append.mp hx).elim (hwf.modesLt x) (h x)

theorem keys_set_lt {d : Dict} {k v n : Nat} (hd : ∀ x ∈ d.keys, x < n) (hk : k < n) :
    ∀ x ∈ (d.set k v).keys, x < n := fun x hx =>
  (mem_keys_set.mp hx).elim (fun e => e ▸ hk) (hd x)

theorem herald_preserves_WF (c c' : Circ K) (hwf : c.WF) (k : Nat) (i o : Int)
    (h : c.herald k i o = .ok c') : c'.WF ∧ c'.n = c.n ∧ c'.internal = c.internal := by
  obtain ⟨a, ha, b, hb, hci, hco, rfl⟩ := Circ.herald_ok.mp h
  have hci' : a ∉ c.inHer.keys := fun hh => hci (contains_iff.mpr hh)
  have hco' : b ∉ c.outHer.keys := fun hh => hco (contains_iff.mpr hh)
  refine ⟨⟨nodup_keys_set hwf.inNodup, nodup_keys_set hwf.outNodup, ?_, ?_, ?_, hwf.intNodup, ?_,
    hwf.modesLt⟩, rfl, rfl⟩
  · exact keys_set_lt hwf.inLt (mapped_ok ha).1
  · exact keys_set_lt hwf.outLt (mapped_ok hb).1
  · show (c.inHer.set a k).length = (c.outHer.set b k).length
    rw [set_of_not_mem hci', set_of_not_mem hco', List.length_append, List.length_append, hwf.lenEq]
    rfl
  · intro x hx
    obtain ⟨h1, h2⟩ := hwf.intHer x hx
    -- an ancilla is heralded already, so it is neither of the two new modes
    have hxa : x ≠ a := fun e => hci' (get?_isSome_iff.mp (e ▸ h1))
    have hxb : x ≠ b := fun e => hco' (get?_isSome_iff.mp (e ▸ h2 ▸ h1))
    show ((c.inHer.set a k).get? x).isSome ∧ (c.inHer.set a k).get? x = (c.outHer.set b k).get? x
    rw [get?_set, get?_set, if_neg hxa, if_neg hxb]
    exact ⟨h1, h2⟩

/-- `c'` keeps the invariant and extends the spec of `c` by components that stay off the ancillas of
`c`: what `C02.prim_calls_avoid_ancillas` says of each accepted primitive call -/
abbrev Avoid (c c' : Circ K) : Prop :=
  c'.WF ∧ ∃ added, c'.spec = c.spec ++ added ∧ ∀ x ∈ added, ∀ m ∈ x.modes, m ∉ c.internal

theorem ofPairs_zip_forall {P : Nat → Prop} {ks vs : List Nat} (hk : ∀ a ∈ ks, P a)
    (hv : ∀ a ∈ vs, P a) :
    ∀ m ∈ (Dict.ofPairs (ks.zip vs)).keys ++ (Dict.ofPairs (ks.zip vs)).vals, P m := by
  intro m hm
  rcases List.mem_append.mp hm with hm | hm
  · obtain ⟨p, hp, rfl⟩ := List.mem_map.mp (mem_keys_ofPairs.mp hm)
    exact hk _ (List.of_mem_zip hp).1
  · obtain ⟨p, hp, rfl⟩ := List.mem_map.mp (mem_vals_ofPairs hm)
    exact hv _ (List.of_mem_zip hp).2

end LW.Proofs.C02

namespace LW.Circ

open LW.Proofs.C02

variable {K : Type}

/-- a mode the user can address: in range and not an ancilla (the range of `mapMode`) -/
def User (c : Circ K) (a : Nat) : Prop := a < c.n ∧ a ∉ c.internal

/-- The leaves an accepted `bs`, `ps`, `loss`, `barrier` or `mode_swaps` can append to `c`.
Every invariant's condition on a new leaf (in range, off the ancillas, `Prim.Wf`, `Disp.CompOk`, no
unitary block) is a weakening of this. -/
inductive Leaf (c : Circ K) : Prim K → Prop
  | bs {a b : Nat} (x y : K) (cv : Conv) : c.User a → c.User b → a ≠ b → Leaf c (.bs a b x y cv)
  | ps {a : Nat} (p : K) : c.User a → Leaf c (.ps a p)
  | loss {a : Nat} (x y : K) : c.User a → Leaf c (.loss a x y)
  | barrier {ms : List Nat} : (∀ m ∈ ms, c.User m) → Leaf c (.barrier ms)
  /-- the three conjuncts of `SwapsOk c.n σ` (CircuitWf, which this Mathlib-free module cannot name),
  with "off the ancillas" added to "below `n`" -/
  | swaps {σ : Dict} : σ.keys.Nodup → σ.keys.Perm σ.vals → (∀ m ∈ σ.keys ++ σ.vals, c.User m) →
      Leaf c (.swaps σ)

theorem Leaf.modes {c : Circ K} {q : Prim K} (h : c.Leaf q) : ∀ m ∈ q.modes, c.User m := by
  cases h with
  | bs x y cv ha hb _ =>
    intro m hm
    rcases List.mem_cons.mp hm with rfl | hm
    · exact ha
    · exact List.mem_singleton.mp hm ▸ hb
  | ps p ha => exact fun m hm => List.mem_singleton.mp hm ▸ ha
  | loss x y ha => exact fun m hm => List.mem_singleton.mp hm ▸ ha
  | barrier h => exact h
  | swaps _ _ h => exact h

theorem user_of_mapped {c : Circ K} {m : Int} {a : Nat} (h : c.modeInRange (c.mapMode m) = .ok a) :
    c.User a :=
  ⟨(mapped_ok h).1, (mapped_ok h).2.1⟩

theorem mapM_user {α : Type} {c : Circ K} {g : α → Int} {l : List α} {r : List Nat}
    (h : l.mapM (fun x => c.modeInRange (c.mapMode (g x))) = .ok r) : ∀ a ∈ r, c.User a :=
  Except.mapM_ok_forall (fun _ _ => user_of_mapped) h

theorem avoid_of_leaf {c : Circ K} (hwf : c.WF) {ps : List (Prim K)} (h : ∀ q ∈ ps, c.Leaf q) :
    Avoid c (c.addPrims ps) := by
  have h' : ∀ x ∈ ps.map Comp.prim, ∀ m ∈ x.modes, c.User m := fun x hx m hm =>
    let ⟨q, hq, e⟩ := List.mem_map.mp hx
    (h q hq).modes m (show m ∈ (Comp.prim q).modes from e ▸ hm)
  exact ⟨WF.with_spec hwf _ fun x hx m hm => (h' x hx m hm).1, _, rfl,
    fun x hx m hm => (h' x hx m hm).2⟩

theorem bs_leaf {c c' : Circ K} {m1 m2 : Int} {cs : K × K} {cv : Conv} {l : Option (K × K)}
    {rv lv : Bool} (h : c.bs m1 m2 cs cv l rv lv = .ok c') :
    ∃ a b, (∀ q ∈ bsPrims a b cs cv l, c.Leaf q) ∧ c' = c.addPrims (bsPrims a b cs cv l) := by
  obtain ⟨a, b, ha, hb, hab, -, -, rfl⟩ := bs_ok.mp h
  refine ⟨a, b, fun q hq => ?_, rfl⟩
  rcases mem_bsPrims hq with rfl | ⟨la, lb, -, rfl | rfl⟩
  · exact .bs _ _ _ (user_of_mapped ha) (user_of_mapped hb) hab
  · exact .loss _ _ (user_of_mapped ha)
  · exact .loss _ _ (user_of_mapped hb)

theorem ps_leaf {c c' : Circ K} {m : Int} {p : K} {l : Option (K × K)} {lv : Bool}
    (h : c.ps m p l lv = .ok c') :
    ∃ a, (∀ q ∈ psPrims a p l, c.Leaf q) ∧ c' = c.addPrims (psPrims a p l) := by
  obtain ⟨a, ha, -, rfl⟩ := ps_ok.mp h
  refine ⟨a, fun q hq => ?_, rfl⟩
  rcases mem_psPrims hq with rfl | ⟨la, lb, -, rfl⟩
  · exact .ps _ (user_of_mapped ha)
  · exact .loss _ _ (user_of_mapped ha)

theorem loss_leaf {c c' : Circ K} {m : Int} {ab : K × K} {lv : Bool} (h : c.loss m ab lv = .ok c') :
    ∃ a, (∀ q ∈ [Prim.loss a ab.1 ab.2], c.Leaf q) ∧ c' = c.addPrims [.loss a ab.1 ab.2] := by
  obtain ⟨a, ha, -, rfl⟩ := loss_ok.mp h
  exact ⟨a, List.forall_mem_singleton.mpr (.loss _ _ (user_of_mapped ha)), rfl⟩

theorem barrier_leaf {c c' : Circ K} {ms : Option (List Int)} (h : c.barrier ms = .ok c') :
    ∃ ms', (∀ q ∈ [Prim.barrier ms'], c.Leaf q) ∧ c' = c.addPrims [.barrier ms'] := by
  obtain ⟨ms', hm, rfl⟩ := barrier_ok.mp h
  exact ⟨ms', List.forall_mem_singleton.mpr (.barrier (mapM_user hm)), rfl⟩

theorem modeSwaps_leaf {c c' : Circ K} {sw : List (Int × Int)} (h : c.modeSwaps sw = .ok c') :
    ∃ σ, (∀ q ∈ [Prim.swaps σ], c.Leaf q) ∧ c' = c.addPrims [.swaps σ] := by
  obtain ⟨ks, hk, vs, hv, hs, rfl⟩ := modeSwaps_ok.mp h
  rw [List.mapM_map] at hk hv
  exact ⟨_, List.forall_mem_singleton.mpr
    (.swaps (nodup_keys_ofPairs _) ((sortNat_eq_iff_perm _ _).mp hs)
      (ofPairs_zip_forall (mapM_user hk) (mapM_user hv))), rfl⟩

end LW.Circ
