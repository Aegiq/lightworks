/-
  LW.Proofs.C13Field — the amplitude tables of the gate library over ANY field `R` with constants
  satisfying the defining equations of the numbers the constructors compute (`GC.Valid`):
  the CZ-type tables the kernel decides over the exact towers (LW/Proofs/C13Tab/*) transported along
  the evaluation maps tower → R (LW/Proofs/C13Lift.lean), and the single-qubit gates.
-/
import LW.Proofs.C13Lift
import LW.Proofs.C13Tab.CZ
import LW.Proofs.C13Tab.CZH
import LW.Proofs.C13Tab.CCZ

namespace LW.Gates

open LW.QF

/-- the defining equations of the constants of the gate library:
`i² = −1`, `√2² = 2`, `2^(-1/2)·√2 = 1`, `½·2 = 1`, `⅓·3 = 1`, `3·(3^(-1/2))² = 1`,
`(2^(-1/4))² = 2^(-1/2)`, `w² = 3/√2 − 2`, `√7² = 7`, `(e^{iπ/4})² = i`, `e^{iπ/4}·e^{-iπ/4} = 1`.
The last two (`t8_sq`, `t8_t8c`) say which numbers the T gate's constants are; no proof uses them
(`single_qubit_amp` holds over any commutative ring, and no multi-qubit table contains `t8`). -/
structure GC.Valid {R : Type} [Field R] (c : GC R) : Prop where
  i_sq : c.i * c.i = -1
  s2_sq : c.s2 * c.s2 = 2
  rh_s2 : c.rh * c.s2 = 1
  half_two : c.half * 2 = 1
  third_three : c.third * 3 = 1
  s3i_sq : 3 * (c.s3i * c.s3i) = 1
  q4i_sq : c.q4i * c.q4i = c.rh
  w_sq : c.w * c.w = 3 * c.rh - 2
  s7_sq : c.s7 * c.s7 = 7
  t8_sq : c.t8 * c.t8 = c.i
  t8_t8c : c.t8 * c.t8c = 1

def GC.map {T R : Type} (f : T → R) (c : GC T) : GC R :=
  ⟨f c.i, f c.s2, f c.rh, f c.half, f c.third, f c.s3i, f c.q4i, f c.w, f c.s7, f c.t8, f c.t8c⟩

section CZH
variable {K : Type} [Add K] [Mul K] [Neg K] [Zero K] [One K]

/-- `u_bs` of `CZ_Heralded.__init__` -/
def czhUbs (c : GC K) : M K := M.ofFn 8 fun r k =>
  if (r = 3 ∧ k = 3) ∨ (r = 4 ∧ k = 4) then c.rh
  else if (r = 3 ∧ k = 4) ∨ (r = 4 ∧ k = 3) then c.i * c.rh
  else if r = k then 1 else 0

/-- `czhUa` (LW/Proofs/C13Eval.lean) and `czhUbs` are the `let`s `ua`, `ubs` of the model's `czhUnitary`
under names of their own -/
theorem czhUnitary_eq (c : GC K) : czhUnitary c =
    (((((permMat czhSwaps 8 : M K).transpose).mul (czhUbs c)).mul (czhUa c)).mul (czhUbs c)).mul
      (permMat czhSwaps 8) := rfl

theorem czhUnitary_isOfFn (c : GC K) : (czhUnitary c).IsOfFn := M.isOfFn_mul _ _

variable {R : Type} [CommRing R]

theorem czhSwaps_lt : ∀ r, r < 8 → czhSwaps.getD r r < 8 := by decide

theorem czhUbs_eq (c : GC R) : czhUbs c = embedBlock 8 3 (bsM c) := by
  unfold czhUbs embedBlock
  apply M.ofFn_congr
  intro r k hr hk
  have hn : (bsM c).n = 2 := rfl
  rw [hn]
  by_cases hb : 3 ≤ r ∧ r < 3 + 2 ∧ 3 ≤ k ∧ k < 3 + 2
  · rw [if_pos hb]
    obtain rfl | rfl : r = 3 ∨ r = 4 := by omega
    all_goals obtain rfl | rfl : k = 3 ∨ k = 4 := by omega
    all_goals simp [bsM, m2]
  · rw [if_neg hb, if_neg (by omega), if_neg (by omega)]

theorem czhUnitary_get (c : GC R) (r k : Nat) : (czhUnitary c).get r k = (czhClosed c).get r k := by
  by_cases hrk : r < 8 ∧ k < 8
  · obtain ⟨hr, hk⟩ := hrk
    have hσr := czhSwaps_lt r hr
    have hσk := czhSwaps_lt k hk
    have hb : (bsM c).n = 2 := rfl
    -- rows of `(Pᵀ · u_bs) · u_a`: the row `σ r` of `u_bs · u_a`
    have hA : ∀ j, j < 8 →
        ((((permMat czhSwaps 8 : M R).transpose).mul (embedBlock 8 3 (bsM c))).mul (czhUa c)).get r j =
          if 3 ≤ czhSwaps.getD r r ∧ czhSwaps.getD r r < 3 + 2 then
            (bsM c).get (czhSwaps.getD r r - 3) 0 * (czhUa c).get 3 j +
              (bsM c).get (czhSwaps.getD r r - 3) 1 * (czhUa c).get (3 + 1) j
          else (czhUa c).get (czhSwaps.getD r r) j := by
      intro j hj
      rw [← get_embedBlock2_mul (bsM c) (czhUa c) hb (by omega) hσr hj]
      have e1 : (((permMat czhSwaps 8 : M R).transpose).mul (embedBlock 8 3 (bsM c))).n = 8 := rfl
      have e2 : (embedBlock 8 3 (bsM c)).n = 8 := rfl
      rw [M.get_mul _ _ (by rw [e1]; exact hr) (by rw [e1]; exact hj), e1,
        M.get_mul (embedBlock 8 3 (bsM c)) _ (by rw [e2]; exact hσr) (by rw [e2]; exact hj), e2]
      refine Finset.sum_congr rfl fun l hl => ?_
      rw [get_permMat_transpose_mul (n := 8) czhSwaps _ hr (Finset.mem_range.mp hl) hσr]
    rw [czhUnitary_eq, czhUbs_eq, get_mul_permMat (n := 8) czhSwaps _ rfl hr hk hσk,
      get_mul_embedBlock2 (n := 8) (bsM c) _ hb rfl (by omega) hr hσk, hA 3 (by omega), hA (3 + 1) (by omega),
      hA _ hσk, czhClosed, M.get_ofFn _ hr hk]
    simp only [blockConj]
    split_ifs <;> ring
  · rw [M.get_of_not_lt (czhUnitary_isOfFn c) hrk, czhClosed, M.get_ofFn', if_neg hrk]

end CZH

section Entries
variable {T R : Type} [Add T] [Mul T] [Neg T] [Zero T] [One T] [CommRing R] {φ : T → R}

theorem m2_map (hφ : THom φ) (a b c d : T) (r k : Nat) :
    φ (m2 a b c d r k) = m2 (φ a) (φ b) (φ c) (φ d) r k := by
  unfold m2
  split
  · rfl
  · rfl
  · rfl
  · rfl
  · exact hφ.map_zero

theorem uNS_map (hφ : THom φ) (cT : GC T) (cR : GC R) (h_s2 : φ cT.s2 = cR.s2) (h_rh : φ cT.rh = cR.rh)
    (h_half : φ cT.half = cR.half) (h_q : φ cT.q4i = cR.q4i) (h_w : φ cT.w = cR.w) (r k : Nat) :
    φ (uNS cT r k) = uNS cR r k := by
  unfold uNS
  split <;> simp only [hφ.map_zero, hφ.map_add, hφ.map_neg, hφ.map_one, h_s2, h_rh, h_half, h_q, h_w]

theorem czUnitary_rel (hφ : THom φ) (cT : GC T) (cR : GC R) (h_s2 : φ cT.s2 = cR.s2)
    (h_s3i : φ cT.s3i = cR.s3i) : MRel φ (czUnitary cT) (czUnitary cR) := by
  unfold czUnitary
  apply MRel.ofFn hφ
  intro r k _ _
  simp only [apply_ite φ, hφ.map_neg, hφ.map_mul, hφ.map_zero, m2_map hφ, hφ.map_one, h_s2, h_s3i]

theorem czhUnitary_rel (hφ : THom φ) (cT : GC T) (cR : GC R) (h_i : φ cT.i = cR.i)
    (h_s2 : φ cT.s2 = cR.s2) (h_rh : φ cT.rh = cR.rh) (h_half : φ cT.half = cR.half)
    (h_q : φ cT.q4i = cR.q4i) (h_w : φ cT.w = cR.w) : MRel φ (czhUnitary cT) (czhUnitary cR) := by
  have hu := uNS_map hφ cT cR h_s2 h_rh h_half h_q h_w
  unfold czhUnitary
  refine MRel.mul hφ (MRel.mul hφ (MRel.mul hφ (MRel.mul hφ
    (MRel.transpose hφ (MRel.permMat hφ _ _)) ?_) ?_) ?_) (MRel.permMat hφ _ _)
  all_goals
    apply MRel.ofFn hφ
    intro r k _ _
    simp only [apply_ite φ, hφ.map_neg, hφ.map_mul, hu, h_i, h_rh, hφ.map_one, hφ.map_zero]

theorem czhClosed_rel (hφ : THom φ) (cT : GC T) (cR : GC R) (h_i : φ cT.i = cR.i)
    (h_s2 : φ cT.s2 = cR.s2) (h_rh : φ cT.rh = cR.rh) (h_half : φ cT.half = cR.half)
    (h_q : φ cT.q4i = cR.q4i) (h_w : φ cT.w = cR.w) : MRel φ (czhClosed cT) (czhUnitary cR) := by
  have hu := uNS_map hφ cT cR h_s2 h_rh h_half h_q h_w
  have hb : MRel φ (bsM cT) (bsM cR) := by
    apply MRel.ofFn hφ
    intro r k _ _
    rw [m2_map hφ, hφ.map_mul, h_i, h_rh]
  have ha : MRel φ (czhUa cT) (czhUa cR) := by
    apply MRel.ofFn hφ
    intro r k _ _
    simp only [apply_ite φ, hφ.map_neg, hu, hφ.map_one, hφ.map_zero]
  refine ⟨rfl, fun r k => ?_⟩
  rw [czhUnitary_get]
  refine (MRel.ofFn hφ 8 _ _ fun r k _ _ => ?_).2 r k
  simp only [blockConj, apply_ite φ, hφ.map_add, hφ.map_mul, hb.2, ha.2]

theorem cczUnitary_rel (hφ : THom φ) (cT : GC T) (cR : GC R) (h_i : φ cT.i = cR.i) (h_s2 : φ cT.s2 = cR.s2)
    (h_rh : φ cT.rh = cR.rh) (h_half : φ cT.half = cR.half) (h_third : φ cT.third = cR.third)
    (h_s3i : φ cT.s3i = cR.s3i) (h_s7 : φ cT.s7 = cR.s7) : MRel φ (cczUnitary cT) (cczUnitary cR) := by
  have h7 : φ (ofN 7) = ofN 7 := by
    simp only [ofN, hφ.map_add, hφ.map_one, hφ.map_zero]
  unfold cczUnitary
  apply MRel.ofFn hφ
  intro r k _ _
  unfold cczEntry
  split <;> simp only [hφ.map_zero, hφ.map_neg, hφ.map_mul, h_i, h_s2, h_rh, h_half, h_third, h_s3i,
    h_s7, h7]

end Entries

section Field
variable {R : Type} [Field R] (c : GC R)

theorem GC.Valid.two_ne (hv : c.Valid) : (2 : R) ≠ 0 := by
  intro h; have := hv.half_two; rw [h, mul_zero] at this; exact zero_ne_one this
theorem GC.Valid.three_ne (hv : c.Valid) : (3 : R) ≠ 0 := by
  intro h; have := hv.third_three; rw [h, mul_zero] at this; exact zero_ne_one this
theorem GC.Valid.six_ne (hv : c.Valid) : (6 : R) ≠ 0 := by
  have : (6 : R) = 2 * 3 := by norm_num
  rw [this]; exact mul_ne_zero hv.two_ne hv.three_ne
theorem GC.Valid.half_eq (hv : c.Valid) : c.half = 1 / 2 := by
  have := hv.two_ne; field_simp; exact hv.half_two
theorem GC.Valid.third_eq (hv : c.Valid) : c.third = 1 / 3 := by
  have := hv.three_ne; field_simp; exact hv.third_three
theorem rh2_eq {c : GC R} (hv : c.Valid) : 2 * c.rh = c.s2 := by
  linear_combination c.s2 * hv.rh_s2 - c.rh * hv.s2_sq

theorem GC.Valid.rh_eq (hv : c.Valid) : c.rh = c.s2 / 2 :=
  eq_div_of_mul_eq hv.two_ne ((mul_comm _ _).trans (rh2_eq hv))

theorem GC.Valid.rh_sq (hv : c.Valid) : c.rh * c.rh * 2 = 1 := by
  linear_combination (-(c.rh * c.rh)) * hv.s2_sq + (c.rh * c.s2 + 1) * hv.rh_s2

@[simp] theorem phi6_zero : phi6 R 0 = 0 := by show phi6 R ⟨0, 0⟩ = 0; simp [phi6]
@[simp] theorem phi6_one : phi6 R 1 = 1 := by show phi6 R ⟨1, 0⟩ = 1; simp [phi6]
@[simp] theorem phi6_mk (n : Int) (e : Nat) : phi6 R ⟨n, e⟩ = (n : R) / 6 ^ e := rfl

def phi2 : T2 → R := quadPhi (phi6 R) c.s2
def phiCZ : TCZ → R := quadPhi (phi2 c) (3 * c.s3i)
def phiQ4 : TQ4 → R := quadPhi (phi2 c) (c.q4i * c.s2)
def phiW : TW → R := quadPhi (phiQ4 c) c.w
def phiCZH : TCZH → R := quadPhi (phiW c) c.i
def phi237 : T237 → R := quadPhi (phiCZ c) c.s7
def phiCCZ : TCCZ → R := quadPhi (phi237 c) c.i

variable {c}

theorem phi2_sound (hv : c.Valid) : Sound (phi2 c) :=
  (phi6_sound hv.six_ne).quad (by simp [hv.s2_sq])

theorem phiCZ_sound (hv : c.Valid) : Sound (phiCZ c) := by
  refine (phi2_sound hv).quad ?_
  simp only [phi2, quadPhi, Quad.lift, phi6_mk, phi6_zero, pow_zero, div_one, mul_zero, add_zero]
  push_cast
  linear_combination 3 * hv.s3i_sq

theorem phiQ4_sound (hv : c.Valid) : Sound (phiQ4 c) := by
  refine (phi2_sound hv).quad ?_
  simp only [phi2, quadPhi, Quad.root, phi6_zero, phi6_one, zero_add]
  linear_combination (c.s2 * c.s2) * hv.q4i_sq + c.rh * hv.s2_sq + rh2_eq hv

theorem phiW_sound (hv : c.Valid) : Sound (phiW c) := by
  refine (phiQ4_sound hv).quad ?_
  have h6 := hv.six_ne
  simp only [phiQ4, phi2, quadPhi, wArg, Quad.lift, phi6_mk, phi6_zero, pow_zero, div_one, mul_zero,
    add_zero, pow_one, Quad.zero_a, Quad.zero_b]
  push_cast
  rw [hv.w_sq]
  field_simp
  linear_combination (9 : R) * rh2_eq hv

theorem phiCZH_sound (hv : c.Valid) : Sound (phiCZH c) := by
  refine (phiW_sound hv).quad ?_
  simp only [phiW, phiQ4, phi2, quadPhi, Quad.lift, phi6_mk, phi6_zero, pow_zero, div_one, mul_zero,
    add_zero, Quad.zero_a, Quad.zero_b]
  push_cast
  exact hv.i_sq

theorem phi237_sound (hv : c.Valid) : Sound (phi237 c) := by
  refine (phiCZ_sound hv).quad ?_
  simp only [phiCZ, phi2, quadPhi, Quad.lift, phi6_mk, phi6_zero, pow_zero, div_one, mul_zero,
    add_zero, Quad.zero_a, Quad.zero_b]
  push_cast
  exact hv.s7_sq

theorem phiCCZ_sound (hv : c.Valid) : Sound (phiCCZ c) := by
  refine (phi237_sound hv).quad ?_
  simp only [phi237, phiCZ, phi2, quadPhi, Quad.lift, phi6_mk, phi6_zero, pow_zero, div_one, mul_zero,
    add_zero, Quad.zero_a, Quad.zero_b]
  push_cast
  exact hv.i_sq

end Field

section Consts
variable {R : Type} [Field R] {c : GC R}

theorem phi6_half (hv : c.Valid) : phi6 R S6.half = c.half := by
  have := hv.two_ne; have := hv.six_ne
  rw [S6.half, phi6_mk, hv.half_eq]; field_simp; norm_num
theorem phi6_third (hv : c.Valid) : phi6 R S6.third = c.third := by
  have := hv.three_ne; have := hv.six_ne
  rw [S6.third, phi6_mk, hv.third_eq]; field_simp; norm_num

theorem phi2_ofS (x : S6) : phi2 c (T2.ofS x) = phi6 R x := quadPhi_lift _ _ phi6_zero x
theorem phi2_r2 : phi2 c T2.r2 = c.s2 := quadPhi_root _ _ phi6_zero phi6_one
theorem phi2_rh (hv : c.Valid) : phi2 c T2.rh = c.rh := by
  rw [T2.rh, phi2, quadPhi_mk, phi6_zero, phi6_half hv, hv.rh_eq, hv.half_eq]; ring

theorem phiCZ_ofT2 (hv : c.Valid) (x : T2) : phiCZ c (TCZ.ofT2 x) = phi2 c x :=
  quadPhi_lift _ _ (phi2_sound hv).hom.map_zero x
theorem phiCZH_ofT2 (hv : c.Valid) (x : T2) : phiCZH c (TCZH.ofT2 x) = phi2 c x := by
  rw [TCZH.ofT2, phiCZH, quadPhi_lift _ _ (phiW_sound hv).hom.map_zero, phiW,
    quadPhi_lift _ _ (phiQ4_sound hv).hom.map_zero, phiQ4, quadPhi_lift _ _ (phi2_sound hv).hom.map_zero]
theorem phiCCZ_ofTCZ (hv : c.Valid) (x : TCZ) : phiCCZ c (TCCZ.ofTCZ x) = phiCZ c x := by
  rw [TCCZ.ofTCZ, phiCCZ, quadPhi_lift _ _ (phi237_sound hv).hom.map_zero, phi237,
    quadPhi_lift _ _ (phiCZ_sound hv).hom.map_zero]

theorem phiCZ_consts (hv : c.Valid) :
    phiCZ c cCZ.s2 = c.s2 ∧ phiCZ c cCZ.rh = c.rh ∧ phiCZ c cCZ.s3i = c.s3i ∧
      phiCZ c kCZ = -c.third := by
  have h3 := hv.three_ne
  refine ⟨?_, ?_, ?_, ?_⟩
  · exact (phiCZ_ofT2 hv _).trans phi2_r2
  · exact (phiCZ_ofT2 hv _).trans (phi2_rh hv)
  · show quadPhi (phi2 c) (3 * c.s3i) ⟨0, T2.ofS S6.third⟩ = _
    rw [quadPhi_mk, (phi2_sound hv).hom.map_zero, phi2_ofS, phi6_third hv, hv.third_eq]
    field_simp; ring
  · rw [kCZ, phiCZ_ofT2 hv, phi2_ofS, phi6_mk, hv.third_eq]
    have := hv.six_ne
    field_simp; norm_num

theorem phiCZH_consts (hv : c.Valid) :
    phiCZH c cCZH.i = c.i ∧ phiCZH c cCZH.s2 = c.s2 ∧ phiCZH c cCZH.rh = c.rh ∧
      phiCZH c cCZH.half = c.half ∧ phiCZH c cCZH.q4i = c.q4i ∧ phiCZH c cCZH.w = c.w ∧
      phiCZH c kCZH = c.half * c.half := by
  have hW := (phiW_sound hv).hom
  have hQ := (phiQ4_sound hv).hom
  have h2 := (phi2_sound hv).hom
  refine ⟨?_, ?_, ?_, ?_, ?_, ?_, ?_⟩
  · exact quadPhi_root _ _ hW.map_zero hW.map_one
  · exact (phiCZH_ofT2 hv _).trans phi2_r2
  · exact (phiCZH_ofT2 hv _).trans (phi2_rh hv)
  · exact ((phiCZH_ofT2 hv _).trans (phi2_ofS _)).trans (phi6_half hv)
  · show quadPhi (phiW c) c.i (Quad.lift (Quad.lift ⟨0, T2.rh⟩)) = _
    rw [quadPhi_lift _ _ hW.map_zero, phiW, quadPhi_lift _ _ hQ.map_zero, phiQ4, quadPhi_mk,
      h2.map_zero, phi2_rh hv]
    linear_combination c.q4i * hv.rh_s2
  · show quadPhi (phiW c) c.i (Quad.lift Quad.root) = _
    rw [quadPhi_lift _ _ hW.map_zero, phiW, quadPhi_root _ _ hQ.map_zero hQ.map_one]
  · rw [kCZH, phiCZH_ofT2 hv, phi2_ofS, phi6_mk, hv.half_eq]
    have := hv.two_ne; have := hv.three_ne; have := hv.six_ne
    field_simp; norm_num

theorem phiCCZ_consts (hv : c.Valid) :
    phiCCZ c cCCZ.i = c.i ∧ phiCCZ c cCCZ.s2 = c.s2 ∧ phiCCZ c cCCZ.rh = c.rh ∧
      phiCCZ c cCCZ.half = c.half ∧ phiCCZ c cCCZ.third = c.third ∧ phiCCZ c cCCZ.s3i = c.s3i ∧
      phiCCZ c cCCZ.s7 = c.s7 ∧ phiCCZ c kCCZ = c.i * (c.rh * (c.half * c.third)) := by
  have h7 := (phi237_sound hv).hom
  have hZ := (phiCZ_sound hv).hom
  obtain ⟨e1, e2, e3, _⟩ := phiCZ_consts hv
  refine ⟨?_, ?_, ?_, ?_, ?_, ?_, ?_, ?_⟩
  · exact quadPhi_root _ _ h7.map_zero h7.map_one
  · exact (phiCCZ_ofTCZ hv _).trans e1
  · exact (phiCCZ_ofTCZ hv _).trans e2
  · exact ((phiCCZ_ofTCZ hv _).trans ((phiCZ_ofT2 hv _).trans (phi2_ofS _))).trans (phi6_half hv)
  · exact ((phiCCZ_ofTCZ hv _).trans ((phiCZ_ofT2 hv _).trans (phi2_ofS _))).trans (phi6_third hv)
  · exact (phiCCZ_ofTCZ hv _).trans e3
  · show quadPhi (phi237 c) c.i (Quad.lift Quad.root) = _
    rw [quadPhi_lift _ _ h7.map_zero, phi237, quadPhi_root _ _ hZ.map_zero hZ.map_one]
  · show quadPhi (phi237 c) c.i ⟨0, Quad.lift (TCZ.ofT2 ⟨0, ⟨3, 2⟩⟩)⟩ = _
    rw [quadPhi_mk, h7.map_zero, phi237, quadPhi_lift _ _ hZ.map_zero, phiCZ_ofT2 hv, phi2, quadPhi_mk,
      phi6_zero, phi6_mk, hv.rh_eq, hv.half_eq, hv.third_eq]
    have := hv.two_ne; have := hv.three_ne; have := hv.six_ne
    field_simp; ring
end Consts

section Tables
variable {R : Type} [Field R] (c : GC R)

/-- the scalar of CCZ / CCNOT: `i/(6√2)` -/
def kCCZf : R := c.i * (c.rh * (c.half * c.third))

theorem CZ_table_field (hv : c.Valid) : HasTable Eq c.i (CZ c) 2 (-c.third) namedCZ false := by
  obtain ⟨hφ, _, he⟩ := phiCZ_sound hv
  obtain ⟨e1, _, e3, e4⟩ := phiCZ_consts hv
  rw [CZ_struct, ← e4]
  exact HasTable.of_closed_one hφ he c.i 6 herCZ (czUnitary_rel hφ cCZ c e1 e3) (M.isOfFn_ofFn _ _) rfl
    tab_CZ

theorem CZH_table_field (hv : c.Valid) :
    HasTable Eq c.i (CZH c) 2 (c.half * c.half) namedCZ true := by
  obtain ⟨hφ, _, he⟩ := phiCZH_sound hv
  obtain ⟨e1, e2, e3, e4, e5, e6, e7⟩ := phiCZH_consts hv
  rw [CZH_struct, ← e7]
  exact HasTable.of_closed_one hφ he c.i 8 herCZH (czhClosed_rel hφ cCZH c e1 e2 e3 e4 e5 e6)
    (czhUnitary_isOfFn c) rfl tab_CZH

theorem CCZ_table_field (hv : c.Valid) : HasTable Eq c.i (CCZ c) 3 (kCCZf c) namedCZ false := by
  obtain ⟨hφ, _, he⟩ := phiCCZ_sound hv
  obtain ⟨e1, e2, e3, e4, e5, e6, e7, e8⟩ := phiCCZ_consts hv
  have e8' : phiCCZ c kCCZ = kCCZf c := e8
  rw [CCZ_struct, ← e8']
  exact HasTable.of_closed_one hφ he c.i 10 herCCZ (cczUnitary_rel hφ cCCZ c e1 e2 e3 e4 e5 e6 e7)
    (M.isOfFn_ofFn _ _) rfl tab_CCZ

/-- squared moduli of the scalars: `(-1/3)² = 1/9`, `(1/4)² = 1/16`, and for the purely imaginary
`k = i/(6√2)`: `k·conj k = k·(-k) = 1/72` -/
theorem scalar_sq_field (hv : c.Valid) :
    (-c.third) * (-c.third) * 9 = 1 ∧ (c.half * c.half) * (c.half * c.half) * 16 = 1 ∧
      (kCCZf c * -(kCCZf c)) * 72 = 1 := by
  have h2 := hv.two_ne
  have h3 := hv.three_ne
  refine ⟨?_, ?_, ?_⟩
  · rw [hv.third_eq]; field_simp; norm_num
  · rw [hv.half_eq]; field_simp; norm_num
  · unfold kCCZf
    rw [hv.rh_eq, hv.half_eq, hv.third_eq]
    field_simp
    linear_combination (-(c.s2 * c.s2) * 72) * hv.i_sq + (72 : R) * hv.s2_sq

end Tables

section Single
variable {R : Type} [CommRing R]

theorem sqCirc_Ufull_get (c : GC R) (g : SQ R) (r k : Nat) (hr : r < 2) (hk : k < 2) :
    ((sqCirc c g).Ufull c.i).get r k = sqEntry c g r k := by
  show ((LW.embedBlock 2 0 (sqMat c g)).mul (M.one 2)).get r k = _
  have hn : (sqMat c g).n = 2 := rfl
  rw [M.get_mul_one (n := 2) _ rfl hr hk, get_embedBlock _ _ hr hk, hn, if_pos (by omega)]
  exact M.get_ofFn _ hr hk

theorem permN_one (A : Nat → Nat → R) : permN 1 A = A 0 0 := by
  simp only [permN, M.sumN, zero_add, mul_one]

/-- **Single-qubit gates**, every gate and every rotation parameter: the amplitude between
dual-rail basis states is exactly the entry of the gate's 2×2 matrix (scalar 1); with one photon
on two modes every output is in the qubit subspace. -/
theorem single_qubit_amp (c : GC R) (g : SQ R) (b b' : Bool) :
    gateAmp c.i (sqCirc c g) (dualRail [b]) (dualRail [b']) = sqEntry c g b'.toNat b.toNat := by
  have key : ∀ o i, o < 2 → i < 2 →
      permN 1 (fun r k => ((sqCirc c g).Ufull c.i).get ([o].getD r 0) ([i].getD k 0)) = sqEntry c g o i :=
    fun o i ho hi => (permN_one _).trans (sqCirc_Ufull_get c g o i ho hi)
  cases b <;> cases b'
  · exact key 0 0 (by omega) (by omega)
  · exact key 1 0 (by omega) (by omega)
  · exact key 0 1 (by omega) (by omega)
  · exact key 1 1 (by omega) (by omega)
end Single

end LW.Gates
