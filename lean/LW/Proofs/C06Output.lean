/-
  LW.Proofs.C06Output — `annotated_state_pdist_calc`: the output distribution is the mixture, over the
  source inputs, of the distribution of the merged outputs of the independent photon groups; with a
  unitary `U_full` and no backend truncation it is normalised.
-/
import LW.Proofs.C06Input
import LW.Proofs.C04Backends

-- the statements of the C06 chain keep the section's instance arguments whether they use them or not
set_option linter.unusedSectionVars false

namespace LW.Proofs.C06

open LW.Src LW.SV

section Dedup
variable {α : Type} [BEq α] [LawfulBEq α]

theorem mem_dedup (l : List α) (x : α) : x ∈ dedup l ↔ x ∈ l :=
  (mem_foldl_insertNew l [] x).trans (by simp)

theorem dedup_nodup (l : List α) : (dedup l).Nodup := nodup_foldl_insertNew l List.nodup_nil

end Dedup

section
variable {Q : Type} [Field Q] [LinearOrder Q] [IsStrictOrderedRing Q]

theorem conv_eq (d1 d2 : PDist Q) :
    conv d1 d2 = KD.ofPairs (d1.flatMap fun x => d2.map fun y => (mergeF x.1 y.1, x.2 * y.2)) :=
  foldl_foldl_addTo d1 (fun _ => d2) (fun x y => mergeF x.1 y.1) (fun x y => x.2 * y.2) []

theorem mix_conv (d1 d2 : PDist Q) (F : FState → Q) :
    mix (conv d1 d2) F = mix d1 (fun a => mix d2 (fun b => F (mergeF a b))) := by
  rw [conv_eq, mix_ofPairs, mix_product d1 d2 mergeF F]

theorem conv_keys_nodup (d1 d2 : PDist Q) : ((conv d1 d2).map (·.1)).Nodup := by
  rw [conv_eq]; exact ofPairs_keys_nodup _

theorem conv_ne_nil (d1 d2 : PDist Q) (h1 : d1 ≠ []) (h2 : d2 ≠ []) : conv d1 d2 ≠ [] := by
  obtain ⟨x, l1, rfl⟩ := List.exists_cons_of_ne_nil h1
  obtain ⟨y, l2, rfl⟩ := List.exists_cons_of_ne_nil h2
  rw [conv_eq, Ne, ofPairs_eq_nil_iff]
  exact List.cons_ne_nil _ _

/-- merged outputs of further independent groups, starting from the pattern `acc` -/
def specConv (ds : List (PDist Q)) (acc : FState) (F : FState → Q) : Q :=
  match ds with
  | [] => F acc
  | d :: ds => mix d (fun b => specConv ds (mergeF acc b) F)

theorem mix_foldl_conv (ds : List (PDist Q)) (d0 : PDist Q) (F : FState → Q) :
    mix (ds.foldl conv d0) F = mix d0 (fun a => specConv ds a F) := by
  induction ds generalizing d0 with
  | nil => rfl
  | cons d ds ih =>
    rw [List.foldl_cons, ih, mix_conv]
    rfl

theorem foldl_conv_ne_nil (ds : List (PDist Q)) (d0 : PDist Q) (h0 : d0 ≠ [])
    (h : ∀ d ∈ ds, d ≠ []) : ds.foldl conv d0 ≠ [] := by
  induction ds generalizing d0 with
  | nil => exact h0
  | cons d ds ih =>
    rw [List.foldl_cons]
    exact ih _ (conv_ne_nil d0 d h0 (h d List.mem_cons_self)) (fun e he => h e (List.mem_cons_of_mem _ he))

theorem convAll_fold (ds : List (PDist Q)) (d0 : PDist Q) (h0 : d0 ≠ []) (h : ∀ d ∈ ds, d ≠ []) :
    ds.foldl (fun pd d => if pd.isEmpty then d else conv pd d) d0 = ds.foldl conv d0 := by
  induction ds generalizing d0 with
  | nil => rfl
  | cons d ds ih =>
    rw [List.foldl_cons, List.foldl_cons]
    have : d0.isEmpty = false := by
      cases d0 with
      | nil => exact absurd rfl h0
      | cons _ _ => rfl
    rw [this]
    exact ih _ (conv_ne_nil d0 d h0 (h d List.mem_cons_self)) (fun e he => h e (List.mem_cons_of_mem _ he))

/-- distribution of the merged output of independent groups, as a mixture -/
def mixGroups (ds : List (PDist Q)) (F : FState → Q) : Q :=
  match ds with
  | [] => 0
  | d0 :: ds => mix d0 (fun a => specConv ds a F)

theorem mix_convAll (ds : List (PDist Q)) (h : ∀ d ∈ ds, d ≠ []) (F : FState → Q) :
    mix (convAll ds) F = mixGroups ds F := by
  cases ds with
  | nil => rfl
  | cons d0 ds =>
    unfold convAll
    rw [List.foldl_cons]
    have : ([] : PDist Q).isEmpty = true := rfl
    simp only [this, if_true]
    rw [convAll_fold ds d0 (h d0 List.mem_cons_self) (fun e he => h e (List.mem_cons_of_mem _ he)), mix_foldl_conv]
    rfl

theorem convAll_keys_nodup (ds : List (PDist Q)) (h : ∀ d ∈ ds, (d.map (·.1)).Nodup) :
    ((convAll ds).map (·.1)).Nodup := by
  unfold convAll
  have : ∀ (ds : List (PDist Q)) (d0 : PDist Q), (d0.map (·.1)).Nodup →
      (∀ d ∈ ds, (d.map (·.1)).Nodup) →
      ((ds.foldl (fun pd d => if pd.isEmpty then d else conv pd d) d0).map (·.1)).Nodup := by
    intro ds
    induction ds with
    | nil => intro d0 h0 _; exact h0
    | cons d ds ih =>
      intro d0 h0 hd
      rw [List.foldl_cons]
      apply ih
      · by_cases he : d0.isEmpty = true
        · rw [if_pos he]; exact hd d List.mem_cons_self
        · rw [if_neg he]; exact conv_keys_nodup d0 d
      · intro e he; exact hd e (List.mem_cons_of_mem _ he)
  exact this ds [] List.nodup_nil h

end

section Main
variable {K Q : Type} [CommRing K] [Field Q] [LinearOrder Q] [IsStrictOrderedRing Q]

theorem mix_annotatedPdist (b : BackendKind) (nsq : K → Q) (eps : Q) (U : M K) (nReal : Nat)
    (inputs : KD AState Q)
    (hne : ∀ x ∈ inputs, ∀ g ∈ groupsOf nReal x.1, fullDist b nsq eps U nReal g ≠ [])
    (F : FState → Q) :
    mix (annotatedPdist b nsq eps U nReal inputs) F =
      mix inputs (fun a => mixGroups ((groupsOf nReal a).map (fullDist b nsq eps U nReal)) F) := by
  unfold annotatedPdist
  simp only
  set combos := inputs.map fun x => (groupsOf nReal x.1, x.2) with hcombos
  set uniq := dedup (combos.flatMap (·.1)) with huniq
  set look : FState → PDist Q := fun s =>
    (((uniq.map fun s => (s, fullDist b nsq eps U nReal s)).find? (·.1 == s)).map (·.2)).getD [] with hlook
  have hlookeq : ∀ c ∈ combos, c.1.map look = c.1.map (fullDist b nsq eps U nReal) := by
    intro c hc
    apply List.map_congr_left
    intro g hg
    have : g ∈ uniq := by
      rw [huniq, mem_dedup, List.mem_flatMap]
      exact ⟨c, hc, hg⟩
    simp only [hlook]
    rw [Assoc.find_map_pair uniq _ g, if_pos this]
    rfl
  refine ((congrArg (fun d => mix d F)
    (foldl_foldl_bind combos fun gs => convAll (gs.map look))).trans
    ((mix_ofPairs _ F).trans (mix_bind _ _ F))).trans ?_
  rw [hcombos, mix_map_key inputs (groupsOf nReal)]
  apply mix_congr
  intro x hx
  have e1 := hlookeq _ (List.mem_map.2 ⟨x, hx, rfl⟩)
  simp only at e1
  rw [e1, mix_convAll]
  intro d hd
  obtain ⟨g, hg, rfl⟩ := List.mem_map.1 hd
  exact hne x hx g hg

end Main

section Normalised

open LW.Src LW.SV LW.Proofs.C04a LW.Proofs.C04b

section Keys
variable {Q : Type} [Field Q] [LinearOrder Q] [IsStrictOrderedRing Q]

theorem applyThreshold_keys {α : Type} (thr : Q) (d : KD α Q) :
    ∀ x ∈ applyThreshold thr d, x.1 ∈ d.map (·.1) := by
  unfold applyThreshold
  by_cases ht : 0 < thr
  · rw [if_pos ht]
    intro x hx
    simp only [List.mem_map] at hx
    obtain ⟨y, hy, rfl⟩ := hx
    exact List.mem_map.2 ⟨y, (List.mem_filter.1 hy).1, rfl⟩
  · rw [if_neg ht]
    intro x hx
    exact List.mem_map.2 ⟨x, hx, rfl⟩

theorem groupsOf_len (nReal : Nat) (a : AState) : ∀ g ∈ groupsOf nReal a, g.length = nReal := by
  unfold groupsOf
  simp only
  by_cases he : (labelsOf a).isEmpty = true
  · rw [if_pos he]
    intro g hg
    simp only [List.mem_singleton] at hg
    subst hg; exact List.length_replicate
  · rw [if_neg he]
    intro g hg
    obtain ⟨l, _, rfl⟩ := List.mem_map.1 hg
    simp [groupState]

theorem groupsOf_ne_nil (nReal : Nat) (a : AState) : groupsOf nReal a ≠ [] := by
  unfold groupsOf
  simp only
  by_cases he : (labelsOf a).isEmpty = true
  · rw [if_pos he]; exact List.cons_ne_nil _ _
  · rw [if_neg he]
    intro h
    rw [List.map_eq_nil_iff] at h
    rw [h] at he
    exact he rfl

theorem specConv_one (ds : List (PDist Q)) (h : ∀ d ∈ ds, KD.total d = 1) (acc : FState) :
    specConv ds acc (fun _ => 1) = 1 := by
  induction ds generalizing acc with
  | nil => rfl
  | cons d ds ih =>
    unfold specConv
    have : (fun b => specConv ds (mergeF acc b) (fun _ => (1 : Q))) = fun _ => 1 := by
      funext b
      exact ih (fun e he => h e (List.mem_cons_of_mem _ he)) _
    rw [this, ← total_eq_mix]
    exact h d List.mem_cons_self

theorem mixGroups_one (ds : List (PDist Q)) (hne : ds ≠ []) (h : ∀ d ∈ ds, KD.total d = 1) :
    mixGroups ds (fun _ => 1) = 1 := by
  cases ds with
  | nil => exact absurd rfl hne
  | cons d0 ds =>
    show mix d0 (fun a => specConv ds a (fun _ => (1 : Q))) = 1
    have : (fun a => specConv ds a (fun _ => (1 : Q))) = fun _ => 1 := by
      funext a
      exact specConv_one ds (fun e he => h e (List.mem_cons_of_mem _ he)) a
    rw [this, ← total_eq_mix]
    exact h d0 List.mem_cons_self

theorem samplerDistSrc_ok {K : Type} [Add K] [Mul K] [Zero K] [One K] (b : BackendKind) (nsq : K → Q)
    (eps : Q) (U : M K) (nReal : Nat) (P : Params Q) (h : InRange P) (hthr : ¬ 0 < P.thr)
    (full : FState) (hs : full ≠ []) : ∃ pd, samplerDistSrc b nsq eps U nReal P full = .ok pd := by
  obtain ⟨st, hst⟩ := buildStatistics_ok P h hthr full hs
  unfold samplerDistSrc
  rw [hst]
  exact ⟨_, rfl⟩

end Keys

section Main
variable {K Q : Type} [Field K] [StarRing K] [CharZero K] [Field Q] [LinearOrder Q]
  [IsStrictOrderedRing Q]

theorem output_normalised (nsq : K → Q) (ι : Q →+* K) (hι : Function.Injective ι)
    (hnsq : ∀ z, ι (nsq z) = z * star z) (hn : ∀ z, 0 ≤ nsq z)
    (b : BackendKind) (U : M K) (hU : IsUnitary U) (nReal : Nat) (hle : nReal ≤ U.n)
    (hpos : 0 < nReal) (P : Params Q) (h : InRange P) (full : FState) (hlen : full.length = nReal)
    (pd : PDist Q) (hok : samplerDistSrc b nsq 0 U nReal P full = .ok pd) : pd.total = 1 := by
  have hfull : full ≠ [] := by
    intro h0; rw [h0] at hlen; exact Nat.ne_of_lt hpos hlen
  have hfd : ∀ g : FState, g.length = nReal → (fullDist b nsq 0 U nReal g).total = 1 :=
    fun g hg => fullDist_total_one nsq ι hι hnsq hn b U hU nReal g hg hle (by omega)
  unfold samplerDistSrc at hok
  cases hst : buildStatistics P full with
  | error e => rw [hst] at hok; cases hok
  | ok st =>
    rw [hst] at hok
    simp only at hok
    have hnorm := input_stats_normalised P h full hfull st hst
    have hfin : ∀ d : PDist Q, d.total = 1 →
        PDist.total (if d.isEmpty then [(List.replicate nReal 0, (1 : Q))] else d) = 1 := by
      intro d hd
      by_cases he : d.isEmpty = true
      · exact absurd (List.isEmpty_iff.1 he) (kd_total_ne_nil d hd)
      · rw [if_neg he]; exact hd
    cases st with
    | basic d =>
      simp only at hok
      cases hok
      apply hfin
      -- keys of the statistics are states on the circuit's modes
      have hkeys : ∀ x ∈ d, x.1.length = nReal := by
        rcases buildStatistics_ok_cases P full _ hst with ⟨hd, _⟩ | ⟨hd, _⟩
        · cases hd
          intro x hx
          obtain ⟨y, hy, hyx⟩ := List.mem_map.1 (applyThreshold_keys P.thr _ x hx)
          rw [← hyx, buildStatisticsBasic_len P full y hy, hlen]
        · cases hd
      exact pdistCalc_total_one nsq ι hι hnsq hn b U hU nReal hle (by omega) d hkeys
        ((total_eq_sum d).symm.trans hnorm)
    | full d =>
      simp only at hok
      cases hok
      apply hfin
      have hne : ∀ x ∈ d, ∀ g ∈ groupsOf nReal x.1, fullDist b nsq 0 U nReal g ≠ [] :=
        fun x _ g hg => kd_total_ne_nil _ (hfd g (groupsOf_len nReal x.1 g hg))
      rw [pdist_total, total_eq_mix, mix_annotatedPdist b nsq 0 U nReal d hne]
      have : (fun a : AState => mixGroups ((groupsOf nReal a).map (fullDist b nsq 0 U nReal))
          (fun _ => (1 : Q))) = fun _ => 1 := by
        funext a
        apply mixGroups_one
        · intro h0
          exact groupsOf_ne_nil nReal a (List.map_eq_nil_iff.1 h0)
        · intro e he
          obtain ⟨g, hg, rfl⟩ := List.mem_map.1 he
          exact hfd g (groupsOf_len nReal a g hg)
      rw [this, ← total_eq_mix]
      exact hnorm

end Main

end Normalised

end LW.Proofs.C06
