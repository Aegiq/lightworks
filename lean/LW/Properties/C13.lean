/-
  C13 — The qubit gate library implements the gates it names.

  Only the property theorems and their non-vacuity examples live here; helper lemmas are in
  LW/Proofs/C13*.lean.  The gates are the models of the constructors in
  lightworks/qubit/gates/*.py (LW.Model.Gates): each multi-qubit gate is built through the `Circ`
  model of `Circuit.add` / `herald` exactly as its constructor does (hard-coded unitary, herald
  placement, `add(..., group=True)`, H-conjugation on the chosen target).

  `HasTable rel i g nq k G leakFree` (LW/Proofs/C13.lean) is the table statement: the constructor
  `g` succeeds with `2·nq` user modes and, with the gate's heralds on input and output, from every
  dual-rail basis input the amplitude to every dual-rail output is the common scalar `k` times
  the named gate's entry `G out in`; with `leakFree`, the amplitude to every other state of the
  user modes with the same photon number — every other output the heralds accept — is 0.

  The theorems are for ANY field `R` and any constants `c : GC R` satisfying the defining
  equations `GC.Valid` of the numbers the constructors compute (`√2² = 2`, `w² = 3/√2 − 2`, …);
  `cComplex_valid` shows the complex numbers `√2, 3^(-1/2), 2^(-1/4), √(3/√2−2), √7, i, e^{±iπ/4}`
  satisfy them.  Proof: kernel decision (`decide +kernel`) of `closedTable` (LW/Proofs/C13Eval.lean)
  for CZ, CZ_Heralded and CCZ over an exact tower `ℤ[1/6][√2, …]`, transported along the evaluation
  map tower → R; the seven CNOT / CCNOT tables follow from them by H-conjugation on the target
  (`HasTable.conjH`, LW/Proofs/C13Conj.lean).
-/
import LW.Proofs.C13Cnot
import LW.Proofs.C13Tower
import LW.Proofs.C13Complex
import LW.Proofs.C13Swap

namespace LW.C13

open LW.Gates LW.QF

variable {R : Type} [Field R] (c : GC R)

/-! ### single-qubit gates: every gate, every rotation parameter, scalar 1 -/

/-- the heralded amplitude of `I, H, X, Y, Z, S, S†, T, T†, SX, P(θ), Rx(θ), Ry(θ), Rz(θ)` between
dual-rail basis states is exactly the entry of the gate's 2×2 matrix, for every value of the
rotation parameters (any commutative ring); with one photon on two modes there is no output
outside the qubit subspace. -/
theorem single_qubit_amp {R : Type} [CommRing R] (c : GC R) (g : SQ R) (b b' : Bool) :
    gateAmp c.i (sqCirc c g) (dualRail [b]) (dualRail [b']) = sqEntry c g b'.toNat b.toNat :=
  Gates.single_qubit_amp c g b b'

example : gateAmp cComplex.i (sqCirc cComplex (.Rx (3 / 5) (4 / 5))) (dualRail [false]) (dualRail [true])
    = -(Complex.I * (4 / 5)) := by
  have := single_qubit_amp cComplex (.Rx (3 / 5) (4 / 5)) false true
  simpa [sqEntry, m2, cComplex] using this

/-! ### post-selected CZ / CNOT: scalar −1/3, squared 1/9 -/

theorem CZ_table (hv : c.Valid) : HasTable Eq c.i (CZ c) 2 (-c.third) namedCZ false :=
  Gates.CZ_table_field c hv
theorem CNOT_target0_table (hv : c.Valid) : HasTable Eq c.i (CNOT c 0) 2 (-c.third) (namedCNOT 0) false :=
  CNOT_table c hv (t := 0) (by decide)
theorem CNOT_target1_table (hv : c.Valid) : HasTable Eq c.i (CNOT c 1) 2 (-c.third) (namedCNOT 1) false :=
  CNOT_table c hv (t := 1) (by decide)

/-! ### heralded CZ / CNOT: scalar 1/4, squared 1/16, no accepted output outside the qubit
subspace (all ten two-photon outputs of each basis input are covered) -/

theorem CZ_Heralded_table (hv : c.Valid) : HasTable Eq c.i (CZH c) 2 (c.half * c.half) namedCZ true :=
  Gates.CZH_table_field c hv
theorem CNOT_Heralded_target0_table (hv : c.Valid) :
    HasTable Eq c.i (CNOTH c 0) 2 (c.half * c.half) (namedCNOT 0) true :=
  CNOTH_table c hv (t := 0) (by decide)
theorem CNOT_Heralded_target1_table (hv : c.Valid) :
    HasTable Eq c.i (CNOTH c 1) 2 (c.half * c.half) (namedCNOT 1) true :=
  CNOTH_table c hv (t := 1) (by decide)

/-! ### post-selected CCZ / CCNOT: scalar i/(6√2), squared modulus 1/72 -/

theorem CCZ_table (hv : c.Valid) : HasTable Eq c.i (CCZ c) 3 (kCCZf c) namedCZ false :=
  Gates.CCZ_table_field c hv
theorem CCNOT_target0_table (hv : c.Valid) : HasTable Eq c.i (CCNOT c 0) 3 (kCCZf c) (namedCNOT 0) false :=
  CCNOT_table c hv (t := 0) (by decide)
theorem CCNOT_target1_table (hv : c.Valid) : HasTable Eq c.i (CCNOT c 1) 3 (kCCZf c) (namedCNOT 1) false :=
  CCNOT_table c hv (t := 1) (by decide)
theorem CCNOT_target2_table (hv : c.Valid) : HasTable Eq c.i (CCNOT c 2) 3 (kCCZf c) (namedCNOT 2) false :=
  CCNOT_table c hv (t := 2) (by decide)

/-- squared moduli of the three scalars: `(−1/3)² = 1/9`, `(1/4)² = 1/16`, and for the purely
imaginary `k = i/(6√2)`: `k·conj k = k·(−k) = 1/72` -/
theorem scalar_squares (hv : c.Valid) :
    (-c.third) * (-c.third) * 9 = 1 ∧ (c.half * c.half) * (c.half * c.half) * 16 = 1 ∧
      (kCCZf c * -(kCCZf c)) * 72 = 1 :=
  Gates.scalar_sq_field c hv

/-- the hypotheses are met by the complex numbers the Python floats approximate -/
theorem complex_constants_valid : cComplex.Valid := Gates.cComplex_valid

example : HasTable Eq cComplex.i (CNOTH cComplex 0) 2 (cComplex.half * cComplex.half) (namedCNOT 0) true :=
  CNOT_Heralded_target0_table cComplex complex_constants_valid

/-! ### target options outside the gate are refused -/

theorem target_rejected {K : Type} [Add K] [Mul K] [Neg K] [Zero K] [One K] (c : GC K) (t : Int) :
    (¬ (0 ≤ t ∧ t < 2) → CNOT c t = .error .value ∧ CNOTH c t = .error .value) ∧
    (¬ (0 ≤ t ∧ t < 3) → CCNOT c t = .error .value) := by
  constructor
  · intro h
    have h' : ¬ (0 ≤ t ∧ t < ((2 : Nat) : Int)) := by simpa using h
    constructor <;> simp only [CNOT, CNOTH, conjH, h', not_false_eq_true, if_true] <;> rfl
  · intro h
    have h' : ¬ (0 ≤ t ∧ t < ((3 : Nat) : Int)) := by simpa using h
    simp only [CCNOT, conjH, h', not_false_eq_true, if_true]; rfl

/-! ### the same tables in the exact towers the driver computes with

The objects (`CZ cCZ`, …) are literally the ones the correspondence check compares with the code's
`U_full`, heralds and Simulator amplitudes; the kernel decides `closedTable` on `czhClosed cCZH`
and `cczUnitary cCCZ` (LW/Proofs/C13Tab/CZH.lean, CCZ.lean), which have the same image as the
gates' matrices in every commutative ring, and `HasTable.tower_one` (LW/Proofs/C13Tower.lean)
carries the tables to the gates through a faithful image of the tower (`HasSem`).
`eqvRel` is semantic equality of the non-canonical representation `n/6^e` of `ℤ[1/6]`.
The table of `CZ cCZ` over `TCZ` follows from `tab_CZ` in the same way; it is not stated. -/

theorem CZ_Heralded_table_tower : HasTable eqvRel cCZH.i (CZH cCZH) 2 kCZH namedCZ true := by
  rw [CZH_struct]
  -- `n`, `u` are given: `rfl : U.n = ?n` would send the unifier into the matrices
  exact HasTable.tower_one (n := 8) (u := czhUnitary cCZH) hasSem_S6.quad.quad.quad.quad _ herCZH
    (czhClosed cCZH) (czhUnitary_isOfFn _) rfl rfl
    (fun C _ ψ hψ r c => ((czhClosed_rel hψ cCZH (cCZH.map ψ) rfl rfl rfl rfl rfl rfl).2 r c).trans
      ((czhUnitary_rel hψ cCZH (cCZH.map ψ) rfl rfl rfl rfl rfl rfl).2 r c).symm) tab_CZH
theorem CCZ_table_tower : HasTable eqvRel cCCZ.i (CCZ cCCZ) 3 kCCZ namedCZ false := by
  rw [CCZ_struct]
  exact HasTable.tower_one (n := 10) (u := cczUnitary cCCZ) hasSem_S6.quad.quad.quad.quad _ herCCZ
    (cczUnitary cCCZ) (M.isOfFn_ofFn _ _) rfl rfl (fun _ _ _ _ _ _ => rfl) tab_CCZ

/-! ### SWAP

`SWAP(q1, q2)` is `mode_swaps({a0: b0, b0: a0, a1: b1, b1: a1})` on `max + 1` modes.  Its
statement for all mode pairs — the two-photon amplitude of a permutation matrix is 1 exactly on
the permuted state — is the `Prop` `SWAP_statement`, proved as `SWAP_all_pairs` below (a
permutation matrix acts on the creation operators as the renaming of the modes, for any photon
number; this and the insertion-sort invariance used by `ModeSwaps`' validation are in
LW/Proofs/C13Swap*.lean).  The constructor and its amplitudes
are also compared with the code on random mode pairs on every run (harness/props/c13.py), and
instances are decided by the kernel in `SWAP_partial`. -/

def SWAP_statement : Prop :=
  ∀ (R : Type) [CommRing R] (i : R) (a0 a1 b0 b1 : Nat), [a0, a1, b0, b1].Nodup →
    ∃ circ : Circ R, SWAP (K := R) [a0, a1] [b0, b1] = .ok circ ∧ circ.inHer = [] ∧
      circ.n = max (max a0 a1) (max b0 b1) + 1 ∧
      ∀ x y : Bool, ∀ o ∈ fockStates circ.n 2,
        gateAmp i circ (occ circ.n [if x then a1 else a0, if y then b1 else b0]) o =
          if o = occ circ.n [if x then b1 else b0, if y then a1 else a0] then 1 else 0

/-- test vectors of the executable model in the driver's ring `T1`: the two adjacent-qubit layouts
the converter uses and a scattered one (kernel decision; `swapOK` is the executable form of the body
of `SWAP_statement` for one pair of qubits).  `T1` carries the bare tower operations and no ring
structure, so these are not instances of `SWAP_all_pairs`. -/
theorem SWAP_partial :
    swapOK [0, 1] [2, 3] = true ∧ swapOK [2, 3] [0, 1] = true ∧ swapOK [4, 1] [0, 3] = true := by
  refine ⟨?_, ?_, ?_⟩ <;> decide +kernel

/-- **SWAP for all mode pairs**: the full statement, for every commutative ring of scalars and every
four distinct modes (LW/Proofs/C13SwapStruct.lean, C13Swap.lean: the
constructor evaluated symbolically, `U_full` = the permutation matrix of the dictionary, whose
amplitude is `∏ o_k!` on the permuted state and 0 elsewhere, `permAmpFull_perm`) -/
theorem SWAP_all_pairs : SWAP_statement := Gates.SWAP_all_pairs

end LW.C13
