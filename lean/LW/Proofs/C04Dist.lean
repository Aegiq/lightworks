/-
  LW.Proofs.C04Dist — structure of the sampler distribution (LW.Model.Dist).  Each accumulation loop
  (SLOS layer, the two backends, `pdist_calc`) is `KD.ofPairs` of an explicit list; from it: key
  shape, distinct keys, non-negativity, marginalisation over the loss modes (`mix_permPd`), total
  probability of a lossy circuit, and the mixture `pdistCalc`.
-/
import Mathlib.Algebra.Order.Field.Basic
import Mathlib.Algebra.BigOperators.Group.List.Basic
import Mathlib.Algebra.Order.Ring.Rat
import Mathlib.Algebra.Field.Rat
import LW.Model.Dist
import LW.Proofs.C06Dict
import LW.Proofs.FockBasis

namespace LW.Proofs.C04a
open LW LW.Proofs.C03

section Slos
variable {K : Type} [Add K] [Mul K] [Zero K] [One K]

omit [One K] in
theorem slosLayer_eq_ofPairs (U : M K) (i : Nat) (d : List (FState × K)) :
    slosLayer U i d = Src.KD.ofPairs ((List.range U.n).flatMap fun j => d.map fun x =>
      (x.1.set j (x.1.getD j 0 + 1), x.2 * U.get j i)) :=
  C06.foldl_foldl_addTo (List.range U.n) (fun _ => d) (fun j x => x.1.set j (x.1.getD j 0 + 1))
    (fun j x => x.2 * U.get j i) []

omit [One K] in
theorem slosLayer_keys (U : M K) (i : Nat) (dist : List (FState × K)) (m : Nat)
    (hd : ∀ t ∈ dist.map (·.1), t.length = U.n ∧ photons t = m) :
    ∀ t ∈ (slosLayer U i dist).map (·.1), t.length = U.n ∧ photons t = m + 1 := by
  intro t ht
  rw [slosLayer_eq_ofPairs, C06.mem_ofPairs_keys] at ht
  simp only [List.map_flatMap, List.map_map, List.mem_flatMap, List.mem_map, List.mem_range,
    Function.comp_apply] at ht
  obtain ⟨j, hj, x, hx, rfl⟩ := ht
  have hx' := hd x.1 (List.mem_map.2 ⟨x, hx, rfl⟩)
  exact ⟨by rw [List.length_set]; exact hx'.1,
    by rw [photons_set_succ x.1 j (by rw [hx'.1]; exact hj), hx'.2]⟩

omit [One K] in
theorem slos_fold_keys (U : M K) (l : List Nat) (d : List (FState × K)) (m : Nat)
    (hd : ∀ t ∈ d.map (·.1), t.length = U.n ∧ photons t = m) :
    ∀ t ∈ (l.foldl (fun d i => slosLayer U i d) d).map (·.1),
      t.length = U.n ∧ photons t = m + l.length := by
  induction l generalizing d m with
  | nil => simpa using hd
  | cons i l ih =>
    rw [List.foldl_cons, List.length_cons]
    have := ih (slosLayer U i d) (m + 1) (slosLayer_keys U i d m hd)
    intro t ht
    have h := this t ht
    refine ⟨h.1, by omega⟩

theorem slos_fold_keys_vac (U : M K) (l : List Nat) :
    ∀ t ∈ (l.foldl (fun d i => slosLayer U i d) [(List.replicate U.n 0, 1)]).map (·.1),
      t.length = U.n ∧ photons t = l.length := by
  intro t ht
  have h := slos_fold_keys U l [(List.replicate U.n 0, 1)] 0 (fun t ht => by
    rw [List.map_singleton, List.mem_singleton] at ht
    subst ht
    exact ⟨List.length_replicate, photons_replicate_zero _⟩) t ht
  rwa [Nat.zero_add] at h

theorem slosPhi_keys (U : M K) (s : FState) :
    ∀ t ∈ (slosPhi U s).map (·.1), t.length = U.n ∧ photons t = photons s :=
  fun t ht => (partitionIdx_spec s).1 ▸ slos_fold_keys_vac U (partitionIdx s) t ht

end Slos


variable {K Q : Type} [CommRing K] [Field Q] [LinearOrder Q]

variable [IsStrictOrderedRing Q] in
theorem transProb_nonneg (nsq : K → Q) (hn : ∀ z, 0 ≤ nsq z) (U : M K) (s o : FState) :
    0 ≤ transProb nsq U s o :=
  div_nonneg (hn _) (Nat.cast_nonneg _)

/-- the dictionary built by the loop of `fullDistPermanent` (before the vacuum bookkeeping):
definitionally that loop, so `fullDistPermanent_of_ne` is `if_neg` and a `filter` that removes nothing -/
def permPd (nsq : K → Q) (eps : Q) (U : M K) (nReal : Nat) (inS : FState) : PDist Q :=
  (fockBasis inS.length (photons inS)).foldl (fun pd o =>
    if photons (o.take nReal) = 0 then pd
    else
      let p := transProb nsq U inS o
      if eps < p then pd.addTo (o.take nReal) p else pd) []

/-- the vacuum entry that `fullDistPermanent` appends to the loop's dictionary: the missing
probability `1 - tot` of a lossy circuit -/
def permTail (tot : Q) (loss nReal : Nat) : PDist Q :=
  if tot < 1 ∧ loss > 0 then [(List.replicate nReal 0, 1 - tot)] else []

/-- the probability the SLOS backend gives the table entry `(t, a)` -/
abbrev slosP (nsq : K → Q) (inS : FState) (t : FState) (a : K) : Q :=
  nsq a * ((factProd t : Nat) : Q) / ((factProd inS : Nat) : Q)

/-- the dictionary built by the loop of `fullDistSlos`: definitionally that loop
(`fullDistSlos_of_ne` is `if_neg`) -/
def slosPd (nsq : K → Q) (eps : Q) (U : M K) (nReal : Nat) (inS : FState) : PDist Q :=
  (slosPhi U inS).foldl (fun (pd : PDist Q) (x : FState × K) =>
    if eps < slosP nsq inS x.1 x.2 then pd.addTo (x.1.take nReal) (slosP nsq inS x.1 x.2)
    else pd) []

def accPd (b : BackendKind) (nsq : K → Q) (eps : Q) (U : M K) (nReal : Nat) (inS : FState) :
    PDist Q :=
  match b with
  | .permanent => permPd nsq eps U nReal inS
  | .slos => slosPd nsq eps U nReal inS

theorem permPd_eq_ofPairs (nsq : K → Q) (eps : Q) (U : M K) (nReal : Nat) (inS : FState) :
    permPd nsq eps U nReal inS =
      Src.KD.ofPairs (((fockBasis inS.length (photons inS)).filter fun o =>
        photons (o.take nReal) ≠ 0 ∧ eps < transProb nsq U inS o).map fun o =>
          (o.take nReal, transProb nsq U inS o)) := by
  refine Eq.trans ?_ (C06.foldl_ite_addTo
    (fun o => photons (o.take nReal) ≠ 0 ∧ eps < transProb nsq U inS o) (fun o => o.take nReal)
    (transProb nsq U inS) (fockBasis inS.length (photons inS)) [])
  unfold permPd
  refine congrArg (fun f => List.foldl f [] (fockBasis inS.length (photons inS)))
    (funext fun pd => funext fun o => ?_)
  -- the two nested conditions of the loop body are one conjunction
  by_cases h1 : photons (o.take nReal) = 0
  · rw [if_pos h1, if_neg (fun h => h.1 h1)]
  · rw [if_neg h1]
    by_cases h2 : eps < transProb nsq U inS o
    · exact (if_pos h2).trans (if_pos ⟨h1, h2⟩).symm
    · exact (if_neg h2).trans (if_neg fun h => h2 h.2).symm

theorem slosPd_eq_ofPairs (nsq : K → Q) (eps : Q) (U : M K) (nReal : Nat) (inS : FState) :
    slosPd nsq eps U nReal inS =
      Src.KD.ofPairs (((slosPhi U inS).filter fun x => eps < slosP nsq inS x.1 x.2).map fun x =>
        (x.1.take nReal, slosP nsq inS x.1 x.2)) :=
  C06.foldl_ite_addTo _ _ _ _ _

theorem accPd_nodup (b : BackendKind) (nsq : K → Q) (eps : Q) (U : M K) (nReal : Nat)
    (inS : FState) : ((accPd b nsq eps U nReal inS).map (·.1)).Nodup := by
  cases b with
  | permanent =>
    show ((permPd nsq eps U nReal inS).map (·.1)).Nodup
    rw [permPd_eq_ofPairs]
    exact C06.ofPairs_keys_nodup _
  | slos =>
    show ((slosPd nsq eps U nReal inS).map (·.1)).Nodup
    rw [slosPd_eq_ofPairs]
    exact C06.ofPairs_keys_nodup _

variable [IsStrictOrderedRing Q] in
theorem accPd_nonneg (b : BackendKind) (nsq : K → Q) (eps : Q) (heps : 0 ≤ eps) (U : M K)
    (nReal : Nat) (inS : FState) : ∀ x ∈ accPd b nsq eps U nReal inS, 0 ≤ x.2 := by
  cases b with
  | permanent =>
    show ∀ x ∈ permPd nsq eps U nReal inS, 0 ≤ x.2
    rw [permPd_eq_ofPairs]
    refine C06.ofPairs_nonneg _ fun y hy => ?_
    obtain ⟨o, ho, rfl⟩ := List.mem_map.1 hy
    exact heps.trans (of_decide_eq_true (List.mem_filter.1 ho).2).2.le
  | slos =>
    show ∀ x ∈ slosPd nsq eps U nReal inS, 0 ≤ x.2
    rw [slosPd_eq_ofPairs]
    refine C06.ofPairs_nonneg _ fun y hy => ?_
    obtain ⟨x, hx, rfl⟩ := List.mem_map.1 hy
    exact heps.trans (of_decide_eq_true (List.mem_filter.1 hx).2).le

theorem mem_permPd_keys (nsq : K → Q) (eps : Q) (U : M K) (nReal : Nat) (inS k : FState) :
    k ∈ (permPd nsq eps U nReal inS).map (·.1) ↔
      ∃ o ∈ fockBasis inS.length (photons inS),
        (photons (o.take nReal) ≠ 0 ∧ eps < transProb nsq U inS o) ∧ o.take nReal = k := by
  rw [permPd_eq_ofPairs, C06.mem_ofPairs_keys]
  simp only [List.map_map, List.mem_map, List.mem_filter, decide_eq_true_eq, Function.comp_apply,
    and_assoc]

theorem mem_slosPd_keys (nsq : K → Q) (eps : Q) (U : M K) (nReal : Nat) (inS k : FState) :
    k ∈ (slosPd nsq eps U nReal inS).map (·.1) ↔
      ∃ x ∈ slosPhi U inS, eps < slosP nsq inS x.1 x.2 ∧ x.1.take nReal = k := by
  rw [slosPd_eq_ofPairs, C06.mem_ofPairs_keys]
  simp only [List.map_map, List.mem_map, List.mem_filter, decide_eq_true_eq, Function.comp_apply,
    and_assoc]

theorem accPd_keys (b : BackendKind) (nsq : K → Q) (eps : Q) (U : M K) (nReal : Nat)
    (inS : FState) (hinS : inS.length = U.n) :
    ∀ x ∈ accPd b nsq eps U nReal inS,
      ∃ o : FState, o.length = U.n ∧ photons o = photons inS ∧ o.take nReal = x.1 := by
  intro x hx
  cases b with
  | permanent =>
    obtain ⟨o, ho, _, hk⟩ := (mem_permPd_keys nsq eps U nReal inS x.1).1 (List.mem_map.2 ⟨x, hx, rfl⟩)
    obtain ⟨h1, h2⟩ := fockBasis_sound _ _ o ho
    exact ⟨o, h1.trans hinS, h2, hk⟩
  | slos =>
    obtain ⟨o, ho, _, hk⟩ := (mem_slosPd_keys nsq eps U nReal inS x.1).1 (List.mem_map.2 ⟨x, hx, rfl⟩)
    obtain ⟨h1, h2⟩ := slosPhi_keys U inS o.1 (List.mem_map.2 ⟨o, ho, rfl⟩)
    exact ⟨o.1, h1, h2, hk⟩

theorem permPd_vac_not_mem (nsq : K → Q) (eps : Q) (U : M K) (nReal : Nat) (inS : FState) :
    List.replicate nReal 0 ∉ (permPd nsq eps U nReal inS).map (·.1) := by
  intro h
  obtain ⟨o, _, h1, h2⟩ := (mem_permPd_keys nsq eps U nReal inS _).1 h
  rw [h2, photons_replicate_zero] at h1
  exact h1.1 rfl

/-- an image measure: the surviving transition probabilities pushed forward along `take nReal` -/
theorem mix_permPd (nsq : K → Q) (eps : Q) (U : M K) (nReal : Nat) (inS : FState)
    (F : FState → Q) :
    C06.mix (permPd nsq eps U nReal inS) F =
      (((fockBasis inS.length (photons inS)).filter fun o =>
          photons (o.take nReal) ≠ 0 ∧ eps < transProb nsq U inS o).map fun o =>
        transProb nsq U inS o * F (o.take nReal)).sum := by
  rw [permPd_eq_ofPairs, C06.mix_ofPairs]
  exact C06.mix_map _ _ _ F

theorem permPd_total (nsq : K → Q) (eps : Q) (U : M K) (nReal : Nat) (inS : FState) :
    (permPd nsq eps U nReal inS).total =
      (((fockBasis inS.length (photons inS)).filter fun o =>
          photons (o.take nReal) ≠ 0 ∧ eps < transProb nsq U inS o).map
        (transProb nsq U inS)).sum := by
  rw [C06.pdist_total, C06.total_eq_mix, mix_permPd]
  simp only [mul_one]

theorem fullDist_of_vacuum (b : BackendKind) (nsq : K → Q) (eps : Q) (U : M K) (nReal : Nat)
    (input : FState) (h0 : photons input = 0) :
    fullDist b nsq eps U nReal input = [(List.replicate nReal 0, 1)] := by
  cases b with
  | permanent => exact if_pos h0
  | slos => exact if_pos h0

theorem fullDistSlos_of_ne (nsq : K → Q) (eps : Q) (U : M K) (nReal : Nat) (input : FState)
    (h0 : photons input ≠ 0) :
    fullDistSlos nsq eps U nReal input =
      slosPd nsq eps U nReal (input ++ List.replicate (U.n - nReal) 0) :=
  if_neg h0

/-- the filter in front of the vacuum assignment removes nothing: the loop skips the vacuum -/
theorem fullDistPermanent_of_ne (nsq : K → Q) (eps : Q) (U : M K) (nReal : Nat) (input : FState)
    (h0 : photons input ≠ 0) :
    fullDistPermanent nsq eps U nReal input =
      permPd nsq eps U nReal (input ++ List.replicate (U.n - nReal) 0) ++
        permTail (permPd nsq eps U nReal (input ++ List.replicate (U.n - nReal) 0)).total
          (U.n - nReal) nReal := by
  have hf : (permPd nsq eps U nReal (input ++ List.replicate (U.n - nReal) 0)).filter
      (fun x => x.1 != List.replicate nReal 0) =
        permPd nsq eps U nReal (input ++ List.replicate (U.n - nReal) 0) := by
    rw [List.filter_eq_self]
    intro x hx
    rw [bne_iff_ne]
    exact fun h => permPd_vac_not_mem nsq eps U nReal _ (List.mem_map.2 ⟨x, hx, h⟩)
  refine (if_neg h0).trans ?_
  unfold permTail
  by_cases ht : (permPd nsq eps U nReal (input ++ List.replicate (U.n - nReal) 0)).total < 1 ∧
      U.n - nReal > 0
  · rw [if_pos ht]
    exact (if_pos ht).trans (congrArg (· ++ _) hf)
  · rw [if_neg ht, List.append_nil]
    exact if_neg ht

theorem permTail_eq_nil_or (tot : Q) (loss nReal : Nat) :
    permTail tot loss nReal = [] ∨
      (tot < 1 ∧ permTail tot loss nReal = [(List.replicate nReal 0, 1 - tot)]) := by
  unfold permTail
  by_cases ht : tot < 1 ∧ loss > 0
  · exact Or.inr ⟨ht.1, if_pos ht⟩
  · exact Or.inl (if_neg ht)

theorem mix_permTail (tot : Q) (loss nReal : Nat) (F : FState → Q)
    (hF : F (List.replicate nReal 0) = 0) : C06.mix (permTail tot loss nReal) F = 0 := by
  rcases permTail_eq_nil_or tot loss nReal with h | ⟨_, h⟩
  · rw [h]; rfl
  · rw [h, C06.mix_cons, hF, mul_zero, C06.mix_nil, add_zero]

theorem nodup_append_permTail (d : PDist Q) (tot : Q) (loss nReal : Nat)
    (hd : (d.map (·.1)).Nodup) (hv : List.replicate nReal 0 ∉ d.map (·.1)) :
    ((d ++ permTail tot loss nReal).map (·.1)).Nodup := by
  rcases permTail_eq_nil_or tot loss nReal with ht | ⟨_, ht⟩
  · rw [ht, List.append_nil]
    exact hd
  · rw [ht, List.map_append, List.map_singleton, ← List.concat_eq_append, List.nodup_concat]
    exact ⟨hv, hd⟩

theorem total_append_permTail (d : PDist Q) (loss nReal : Nat) :
    (d ++ permTail d.total loss nReal).total = if d.total < 1 ∧ loss > 0 then 1 else d.total := by
  unfold permTail
  by_cases ht : d.total < 1 ∧ loss > 0
  · rw [if_pos ht, if_pos ht, C06.pdist_total, C06.total_eq_mix, C06.mix_append, ← C06.total_eq_mix,
      ← C06.pdist_total, C06.mix_cons, C06.mix_nil, mul_one, add_zero, add_sub_cancel]
  · rw [if_neg ht, if_neg ht, List.append_nil]

variable [IsStrictOrderedRing Q] in
/-- the vacuum entry is `{vacuum: 1}` for an empty input, or the missing probability of a lossy
circuit -/
theorem mem_fullDist (b : BackendKind) (nsq : K → Q) (eps : Q) (U : M K) (nReal : Nat)
    (input : FState) (x : FState × Q) (hx : x ∈ fullDist b nsq eps U nReal input) :
    x ∈ accPd b nsq eps U nReal (input ++ List.replicate (U.n - nReal) 0) ∨
      (x.1 = List.replicate nReal 0 ∧ 0 ≤ x.2) := by
  by_cases h0 : photons input = 0
  · rw [fullDist_of_vacuum b nsq eps U nReal input h0, List.mem_singleton] at hx
    rw [hx]
    exact Or.inr ⟨rfl, zero_le_one⟩
  · cases b with
    | permanent =>
      change x ∈ fullDistPermanent nsq eps U nReal input at hx
      rw [fullDistPermanent_of_ne nsq eps U nReal input h0] at hx
      rcases List.mem_append.1 hx with h | h
      · exact Or.inl h
      · rcases permTail_eq_nil_or (permPd nsq eps U nReal _).total (U.n - nReal) nReal with ht | ⟨hlt, ht⟩
        · rw [ht] at h
          cases h
        · rw [ht, List.mem_singleton] at h
          rw [h]
          exact Or.inr ⟨rfl, sub_nonneg.2 hlt.le⟩
    | slos =>
      change x ∈ fullDistSlos nsq eps U nReal input at hx
      rw [fullDistSlos_of_ne nsq eps U nReal input h0] at hx
      exact Or.inl hx

theorem fullDist_nodup (b : BackendKind) (nsq : K → Q) (eps : Q) (U : M K) (nReal : Nat)
    (input : FState) : ((fullDist b nsq eps U nReal input).map (·.1)).Nodup := by
  by_cases h0 : photons input = 0
  · rw [fullDist_of_vacuum b nsq eps U nReal input h0]
    exact List.nodup_singleton _
  · cases b with
    | permanent =>
      show ((fullDistPermanent nsq eps U nReal input).map (·.1)).Nodup
      rw [fullDistPermanent_of_ne nsq eps U nReal input h0]
      exact nodup_append_permTail _ _ _ _ (accPd_nodup .permanent nsq eps U nReal _)
        (permPd_vac_not_mem nsq eps U nReal _)
    | slos =>
      show ((fullDistSlos nsq eps U nReal input).map (·.1)).Nodup
      rw [fullDistSlos_of_ne nsq eps U nReal input h0]
      exact accPd_nodup .slos nsq eps U nReal _

variable [IsStrictOrderedRing Q] in
/-- on a lossless circuit a negative truncation threshold keeps every pattern, so the distribution
is not empty -/
theorem fullDistPermanent_ne_nil (nsq : K → Q) (hn : ∀ z, 0 ≤ nsq z) (eps : Q) (heps : eps < 0)
    (U : M K) (hpos : 0 < U.n) (g : FState) (hg : g.length = U.n) :
    fullDist .permanent nsq eps U U.n g ≠ [] := by
  by_cases hp : photons g = 0
  · rw [fullDist_of_vacuum .permanent nsq eps U U.n g hp]
    exact List.cons_ne_nil _ _
  · show fullDistPermanent nsq eps U U.n g ≠ []
    rw [fullDistPermanent_of_ne nsq eps U U.n g hp, Nat.sub_self, List.replicate_zero,
      List.append_nil]
    apply List.append_ne_nil_of_left_ne_nil
    intro hnil
    have hk := (mem_permPd_keys nsq eps U U.n g g).2 ⟨g,
      (fockBasis_complete g.length (photons g) (by omega) g).2 ⟨rfl, rfl⟩,
      ⟨by rw [← hg, List.take_length]; exact hp,
        lt_of_lt_of_le heps (transProb_nonneg nsq hn U _ _)⟩,
      by rw [← hg, List.take_length]⟩
    rw [hnil] at hk
    cases hk

variable [IsStrictOrderedRing Q] in
theorem fullDist_nonneg (b : BackendKind) (nsq : K → Q) (eps : Q) (heps : 0 ≤ eps)
    (U : M K) (nReal : Nat) (input : FState) :
    ∀ x ∈ fullDist b nsq eps U nReal input, 0 ≤ x.2 := by
  intro x hx
  rcases mem_fullDist b nsq eps U nReal input x hx with h | ⟨_, h⟩
  · exact accPd_nonneg b nsq eps heps U nReal _ x h
  · exact h

omit [CommRing K] in
theorem inS_length (U : M K) (nReal : Nat) (input : FState) (hlen : input.length = nReal)
    (hU : nReal ≤ U.n) : (input ++ List.replicate (U.n - nReal) 0).length = U.n := by
  rw [List.length_append, List.length_replicate, hlen]; omega

variable [IsStrictOrderedRing Q] in
theorem fullDist_keys (b : BackendKind) (nsq : K → Q) (eps : Q) (U : M K) (nReal : Nat)
    (input : FState) (hlen : input.length = nReal) (hU : nReal ≤ U.n) :
    ∀ x ∈ fullDist b nsq eps U nReal input, x.1.length = nReal ∧ photons x.1 ≤ photons input := by
  intro x hx
  rcases mem_fullDist b nsq eps U nReal input x hx with h | ⟨h, _⟩
  · obtain ⟨o, h1, h2, hk⟩ :=
      accPd_keys b nsq eps U nReal _ (inS_length U nReal input hlen hU) x h
    rw [← hk, ← photons_append_zeros input (U.n - nReal), ← h2]
    exact ⟨by rw [List.length_take, h1]; omega, photons_take_le o nReal⟩
  · rw [h, photons_replicate_zero]
    exact ⟨List.length_replicate, Nat.zero_le _⟩

theorem fullDistPermanent_marginal (nsq : K → Q) (eps : Q) (U : M K) (nReal : Nat) (input : FState)
    (hin : photons input ≠ 0) (r : FState) (hr : photons r ≠ 0) :
    let inS := input ++ List.replicate (U.n - nReal) 0
    ((fullDistPermanent nsq eps U nReal input).get? r).getD 0 =
      (((fockBasis inS.length (photons inS)).filter fun o =>
          o.take nReal = r ∧ eps < transProb nsq U inS o).map (transProb nsq U inS)).sum := by
  intro inS
  have hvr : ¬ List.replicate nReal 0 = r := fun h => hr (h ▸ photons_replicate_zero nReal)
  have hnd : ((permPd nsq eps U nReal inS ++
      permTail (permPd nsq eps U nReal inS).total (U.n - nReal) nReal).map (·.1)).Nodup :=
    nodup_append_permTail _ _ _ _ (accPd_nodup .permanent nsq eps U nReal inS)
      (permPd_vac_not_mem nsq eps U nReal inS)
  rw [fullDistPermanent_of_ne nsq eps U nReal input hin]
  refine (C06.getD_eq_mix _ hnd r).trans ?_
  rw [C06.mix_append, mix_permTail _ _ _ _ (if_neg hvr), add_zero, mix_permPd]
  refine (sum_mul_indicator _ (transProb nsq U inS) (fun o => o.take nReal = r)).trans ?_
  rw [List.filter_filter]
  congr 2
  apply List.filter_congr
  intro o _
  simp only [← Bool.decide_and, decide_eq_decide]
  exact ⟨fun ⟨h3, _, h2⟩ => ⟨h3, h2⟩, fun ⟨h3, h2⟩ => ⟨h3, h3 ▸ hr, h2⟩⟩

theorem fullDistPermanent_total_lossy (nsq : K → Q) (eps : Q) (U : M K)
    (nReal : Nat) (input : FState) (hloss : nReal < U.n)
    (hlt : (((fockBasis (input.length + (U.n - nReal)) (photons input)).filter fun o =>
            photons (o.take nReal) ≠ 0 ∧
            eps < transProb nsq U (input ++ List.replicate (U.n - nReal) 0) o).map
          (transProb nsq U (input ++ List.replicate (U.n - nReal) 0))).sum < 1) :
    (fullDistPermanent nsq eps U nReal input).total = 1 := by
  by_cases h0 : photons input = 0
  · rw [show fullDistPermanent nsq eps U nReal input = _ from
      fullDist_of_vacuum .permanent nsq eps U nReal input h0]
    exact zero_add 1
  · rw [fullDistPermanent_of_ne nsq eps U nReal input h0, total_append_permTail, if_pos]
    refine ⟨?_, by omega⟩
    rw [permPd_total, List.length_append, List.length_replicate, photons_append_zeros]
    exact hlt

/-- the mixture dictionary of `pdistCalc` before the vacuum bookkeeping -/
def calcPd (b : BackendKind) (nsq : K → Q) (eps : Q) (U : M K) (nReal : Nat)
    (inputs : List (FState × Q)) : PDist Q :=
  inputs.foldl (fun (pd : PDist Q) (sw : FState × Q) =>
    (fullDist b nsq eps U nReal sw.1).foldl (fun (pd : PDist Q) (tp : FState × Q) =>
      pd.addTo tp.1 (tp.2 * sw.2)) pd) []

theorem pdistCalc_eq (b : BackendKind) (nsq : K → Q) (eps : Q) (U : M K) (nReal : Nat)
    (inputs : List (FState × Q)) :
    pdistCalc b nsq eps U nReal inputs =
      if (calcPd b nsq eps U nReal inputs).total < 1 ∧ U.n - nReal > 0 then
        (calcPd b nsq eps U nReal inputs).addTo (List.replicate nReal 0)
          (1 - (calcPd b nsq eps U nReal inputs).total)
      else calcPd b nsq eps U nReal inputs := rfl

theorem calcPd_eq_ofPairs (b : BackendKind) (nsq : K → Q) (eps : Q) (U : M K) (nReal : Nat)
    (inputs : List (FState × Q)) :
    calcPd b nsq eps U nReal inputs =
      Src.KD.ofPairs (C06.bind inputs (fullDist b nsq eps U nReal)) := by
  refine (C06.foldl_foldl_addTo inputs (fun sw => fullDist b nsq eps U nReal sw.1) (fun _ tp => tp.1)
    (fun sw tp => tp.2 * sw.2) []).trans ?_
  unfold Src.KD.ofPairs C06.bind
  congr 2
  funext sw
  apply List.map_congr_left
  intro tp _
  rw [mul_comm]

theorem mix_calcPd (b : BackendKind) (nsq : K → Q) (eps : Q) (U : M K) (nReal : Nat)
    (inputs : List (FState × Q)) (F : FState → Q) :
    C06.mix (calcPd b nsq eps U nReal inputs) F =
      C06.mix inputs (fun s => C06.mix (fullDist b nsq eps U nReal s) F) := by
  rw [calcPd_eq_ofPairs, C06.mix_ofPairs, C06.mix_bind]

theorem calcPd_total_one (b : BackendKind) (nsq : K → Q) (eps : Q) (U : M K) (nReal : Nat)
    (inputs : List (FState × Q)) (hG : ∀ x ∈ inputs, (fullDist b nsq eps U nReal x.1).total = 1)
    (hw : (inputs.map (·.2)).sum = 1) : (calcPd b nsq eps U nReal inputs).total = 1 := by
  refine (C06.total_eq_mix _).trans ?_
  rw [mix_calcPd, C06.mix_congr inputs _ (fun _ => 1)
    (fun x hx => (C06.total_eq_mix _).symm.trans (hG x hx)), ← C06.total_eq_mix,
    C06.total_eq_sum]
  exact hw

variable [IsStrictOrderedRing Q] in
theorem pdistCalc_nonneg (b : BackendKind) (nsq : K → Q) (eps : Q) (heps : 0 ≤ eps)
    (U : M K) (nReal : Nat) (inputs : List (FState × Q)) (hw : ∀ x ∈ inputs, 0 ≤ x.2) :
    ∀ x ∈ pdistCalc b nsq eps U nReal inputs, 0 ≤ x.2 := by
  have hpd : ∀ x ∈ calcPd b nsq eps U nReal inputs, 0 ≤ x.2 := by
    rw [calcPd_eq_ofPairs]
    refine C06.ofPairs_nonneg _ fun y hy => ?_
    obtain ⟨a, ha, t, ht, rfl⟩ := C06.mem_bind hy
    exact mul_nonneg (hw a ha) (fullDist_nonneg b nsq eps heps U nReal a.1 t ht)
  rw [pdistCalc_eq]
  by_cases ht : (calcPd b nsq eps U nReal inputs).total < 1 ∧ U.n - nReal > 0
  · rw [if_pos ht]
    exact C06.addTo_nonneg _ _ _ hpd (sub_nonneg.2 (le_of_lt ht.1))
  · rw [if_neg ht]; exact hpd

/-! ### non-vacuity: the hypotheses hold on a concrete lossy instance
`K = ℤ`, `Q = ℚ`, the (unnormalised) 2×2 Hadamard with `|z|² := z²/2`; one circuit mode, one loss
mode, one photon: the distribution is `{[1] ↦ 1/2, [0] ↦ 1/2}` for both backends. -/

section NonVacuity

private def Uex : M Int := ⟨2, #[#[1, 1], #[1, -1]]⟩
private def nsqex : Int → Rat := fun z => ((z * z : Int) : Rat) / 2

private theorem nsqex_nonneg : ∀ z, 0 ≤ nsqex z := by
  intro z
  exact div_nonneg (by exact_mod_cast mul_self_nonneg z) (by norm_num)

example : ∀ x ∈ fullDist .slos nsqex 0 Uex 1 [1], 0 ≤ x.2 :=
  fullDist_nonneg .slos nsqex 0 le_rfl Uex 1 [1]

example : ∀ x ∈ fullDist .permanent nsqex 0 Uex 1 [1],
    x.1.length = 1 ∧ photons x.1 ≤ photons [1] :=
  fullDist_keys .permanent nsqex 0 Uex 1 [1] rfl (by decide)

example : ((fullDistPermanent nsqex 0 Uex 1 [1]).get? [1]).getD 0 = 1 / 2 := by
  rw [fullDistPermanent_marginal nsqex 0 Uex 1 [1] (by decide) [1] (by decide)]
  decide +kernel

example : (fullDistPermanent nsqex 0 Uex 1 [1]).total = 1 :=
  fullDistPermanent_total_lossy nsqex 0 Uex 1 [1] (by decide) (by decide +kernel)

example : ∀ x ∈ pdistCalc .slos nsqex 0 Uex 1 [([1], 1 / 2), ([0], 1 / 2)], 0 ≤ x.2 :=
  pdistCalc_nonneg .slos nsqex 0 le_rfl Uex 1 _ (by
    intro x hx
    simp only [List.mem_cons, List.not_mem_nil, or_false] at hx
    rcases hx with rfl | rfl <;> exact div_nonneg zero_le_one zero_le_two)

end NonVacuity

end LW.Proofs.C04a
