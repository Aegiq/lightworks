/-
  LW.Proofs.C05Agree — Analyzer, QuickSampler, Sampler and Simulator agree: the QuickSampler's
  distribution is the normalised list of transition probabilities, `analyzerProb` is the sampler's
  probability marginalised over the loss modes, and the simulator's squared amplitudes are the
  sampler's probabilities.
-/
import LW.Model.Analysis
import LW.Proofs.C04Dist
import LW.Proofs.C05Sums

namespace LW.Proofs.C05
open LW

variable {K Q : Type} [CommRing K] [Field Q] [LinearOrder Q] [IsStrictOrderedRing Q]

theorem normalise_spec {α : Type} (F : List α) (p : α → Q) (hF : F ≠ []) (hp : ∀ o ∈ F, 0 < p o)
    (d : List (α × Q))
    (hd : d = (F.map fun o => (o, p o)).map fun x =>
      (x.1, x.2 / sumQ ((F.map fun o => (o, p o)).map (·.2)))) :
    d.map (·.1) = F ∧ (∀ x ∈ d, x.2 = p x.1 / (F.map p).sum) ∧ (d.map (·.2)).sum = 1 := by
  have htot : sumQ ((F.map fun o => (o, p o)).map (·.2)) = (F.map p).sum := by
    rw [sumQ_eq_sum, List.map_map]
    rfl
  rw [htot, List.map_map] at hd
  have hpos : 0 < (F.map p).sum := by
    apply List.sum_pos
    · intro x hx
      obtain ⟨o, ho, rfl⟩ := List.mem_map.1 hx
      exact hp o ho
    · simpa using hF
  subst hd
  refine ⟨?_, ?_, ?_⟩
  · rw [List.map_map]
    exact List.map_id' F
  · intro x hx
    obtain ⟨o, _, rfl⟩ := List.mem_map.1 hx
    rfl
  · rw [List.map_map]
    exact C06.sum_map_div_sum F p hpos.ne'

/-- the candidate outputs of `quickDist`: photon-number preserving, at most one photon per mode
under threshold detection, post-selected -/
def quickOuts (rules : List Rule) (pnr : Bool) (input : FState) : List FState :=
  (if pnr then fockBasis input.length (photons input)
   else (fockBasis input.length (photons input)).filter fun s => s.all (· ≤ 1)).filter
    (psValidate rules)

omit [IsStrictOrderedRing Q] in
theorem quickDist_eq (i : K) (nsq : K → Q) (eps : Q) (c : Circ K) (rules : List Rule)
    (pnr : Bool) (input : FState) :
    quickDist i nsq eps c rules pnr input =
      if c.inputModes ≠ input.length then .error .value
      else if (quickOuts rules pnr input).isEmpty then .error .value
      else
        let p := fun (o : FState) => transProb nsq (c.Ufull i)
          (addHeralds input c.inHer ++ List.replicate ((c.Ufull i).n - c.n) 0)
          (addHeralds o c.outHer ++ List.replicate ((c.Ufull i).n - c.n) 0)
        let pd : PDist Q := (quickOuts rules pnr input).foldl (fun pd o =>
          if eps < p o then pd ++ [(o, p o)] else pd) []
        if pd.isEmpty then .error .other
        else .ok (pd.map fun x => (x.1, x.2 / sumQ (pd.map (·.2)))) := rfl

theorem quickOuts_filter (rules : List Rule) (pnr : Bool) (input : FState) (q : FState → Bool) :
    (quickOuts rules pnr input).filter q =
      (fockBasis input.length (photons input)).filter fun o =>
        (pnr || o.all (· ≤ 1)) && psValidate rules o && q o := by
  unfold quickOuts
  cases pnr with
  | true =>
    rw [if_pos rfl, List.filter_filter]
    apply List.filter_congr
    intro o _
    simp [Bool.and_comm]
  | false =>
    rw [if_neg (by simp), List.filter_filter, List.filter_filter]
    apply List.filter_congr
    intro o _
    simp only [Bool.false_or]
    ac_rfl

theorem quickDist_spec (i : K) (nsq : K → Q) (eps : Q) (heps : 0 ≤ eps) (c : Circ K) (rules : List Rule)
    (pnr : Bool) (input : FState) (d : PDist Q) (h : quickDist i nsq eps c rules pnr input = .ok d) :
    let U := c.Ufull i
    let z := List.replicate (U.n - c.n) 0
    let p := fun (o : FState) => transProb nsq U (addHeralds input c.inHer ++ z) (addHeralds o c.outHer ++ z)
    let acc := ((fockBasis input.length (photons input)).filter fun o =>
                  (pnr || o.all (· ≤ 1)) && psValidate rules o && decide (eps < p o))
    d.map (·.1) = acc ∧
    (∀ x ∈ d, x.2 = p x.1 / (acc.map p).sum) ∧
    (d.map (·.2)).sum = 1 := by
  intro U z p acc
  rw [quickDist_eq] at h
  by_cases h1 : c.inputModes ≠ input.length
  · rw [if_pos h1] at h; cases h
  rw [if_neg h1] at h
  by_cases h2 : (quickOuts rules pnr input).isEmpty = true
  · rw [if_pos h2] at h; cases h
  rw [if_neg h2] at h
  simp only at h
  rw [foldl_append_if (fun o => eps < p o) (fun o => (o, p o)), List.nil_append,
    quickOuts_filter rules pnr input (fun o => decide (eps < p o))] at h
  by_cases h3 : (acc.map fun o => (o, p o)).isEmpty = true
  · rw [if_pos h3] at h; cases h
  rw [if_neg h3] at h
  apply normalise_spec acc p
  · intro he
    apply h3
    rw [he]; rfl
  · intro o ho
    have := (List.mem_filter.1 ho).2
    simp only [Bool.and_eq_true, decide_eq_true_eq] at this
    exact lt_of_le_of_lt heps this.2
  · cases h; rfl

-- not used by the proofs below: `hpos` of `analyzer_eq_sampler` (it follows from `hfo`, `hp`),
-- `[IsStrictOrderedRing Q]` in `sim_sq_eq_sampler`, the order of `Q` in `analyzerProb_eq`; the first
-- two statements are those of LW/Properties/C05 and stay as recorded there
set_option linter.unusedSectionVars false
set_option linter.unusedVariables false

/-- the case `photons fin = photons fo` of the code is the sum over the one all-empty loss pattern -/
theorem analyzerProb_eq (nsq : K → Q) (U : M K) (lossModes : Nat) (fin fo : FState) :
    analyzerProb nsq U lossModes fin fo =
      if lossModes = 0 then .ok (transProb nsq U fin fo)
      else if photons fin < photons fo then .error .photonNumber
      else .ok (((fockBasis lossModes (photons fin - photons fo)).map fun ls =>
        transProb nsq U fin (fo ++ ls)).sum) := by
  unfold analyzerProb
  by_cases h0 : lossModes = 0
  · rw [if_pos h0, if_pos h0]
  rw [if_neg h0, if_neg h0]
  by_cases h1 : photons fin = photons fo
  · obtain ⟨L, rfl⟩ : ∃ L, lossModes = L + 1 := ⟨lossModes - 1, by omega⟩
    rw [if_pos h1, if_neg (by omega), h1, Nat.sub_self, C03.fockBasis_zero_photons,
      List.map_singleton, List.sum_singleton]
  · rw [if_neg h1, foldl_add_map_eq_sum, zero_add]

theorem analyzerProb_eq_marginal (nsq : K → Q) (U : M K) (lossModes : Nat) (fin fo : FState)
    (hle : photons fo ≤ photons fin) :
    analyzerProb nsq U lossModes fin fo =
      .ok (((fockBasis lossModes (photons fin - photons fo)).map fun ls =>
              transProb nsq U fin (fo ++ ls)).sum) ∨
    (lossModes = 0 ∧ analyzerProb nsq U lossModes fin fo = .ok (transProb nsq U fin fo)) := by
  rw [analyzerProb_eq]
  by_cases h0 : lossModes = 0
  · exact .inr ⟨h0, if_pos h0⟩
  · exact .inl (by rw [if_neg h0, if_neg (by omega)])

theorem analyzerProb_rejects (nsq : K → Q) (U : M K) (lossModes : Nat) (fin fo : FState)
    (hl : lossModes ≠ 0) (hgt : photons fin < photons fo) :
    analyzerProb nsq U lossModes fin fo = .error .photonNumber := by
  rw [analyzerProb_eq, if_neg hl, if_pos hgt]

theorem analyzerProb_nonneg (nsq : K → Q) (hn : ∀ z, 0 ≤ nsq z) (U : M K) (lossModes : Nat)
    (fin fo : FState) (p : Q) (h : analyzerProb nsq U lossModes fin fo = .ok p) : 0 ≤ p := by
  rw [analyzerProb_eq] at h
  split_ifs at h <;> cases h
  · exact C04a.transProb_nonneg nsq hn U _ _
  · exact List.sum_nonneg fun x hx => by
      obtain ⟨ls, _, rfl⟩ := List.mem_map.1 hx
      exact C04a.transProb_nonneg nsq hn U _ _

theorem analyzer_eq_sampler (nsq : K → Q) (hn : ∀ z, 0 ≤ nsq z) (U : M K) (nReal : Nat)
    (input fo : FState) (hin : input.length = nReal) (hfo : fo.length = nReal) (hU : nReal < U.n)
    (hpos : 0 < nReal) (hp : photons fo ≠ 0) (hle : photons fo ≤ photons input) :
    analyzerProb nsq U (U.n - nReal) (input ++ List.replicate (U.n - nReal) 0) fo =
      .ok (((fullDistPermanent nsq 0 U nReal input).get? fo).getD 0) := by
  have hL : 0 < U.n - nReal := by omega
  have hph := C03.photons_append_zeros input (U.n - nReal)
  have hlen : (input ++ List.replicate (U.n - nReal) 0).length = nReal + (U.n - nReal) := by
    rw [List.length_append, List.length_replicate, hin]
  rw [analyzerProb_eq, if_neg (by omega), if_neg (by omega)]
  congr 1
  have hm := C04a.fullDistPermanent_marginal nsq 0 U nReal input (by omega) fo hp
  simp only at hm
  rw [hm, sum_filter_and_pos _ _ (fun o => o.take nReal = fo)
    (fun o _ => C04a.transProb_nonneg nsq hn U _ o), hlen, hph]
  rw [show (fun ls => transProb nsq U (input ++ List.replicate (U.n - nReal) 0) (fo ++ ls)) =
      (transProb nsq U (input ++ List.replicate (U.n - nReal) 0)) ∘ (fun ls => fo ++ ls) from rfl,
    ← List.map_map]
  apply sum_eq_of_nodup_of_mem_iff
  · exact (C03.fockBasis_nodup _ _).map (fun a b hab => List.append_cancel_left hab)
  · exact (C03.fockBasis_nodup _ _).filter _
  · intro o
    exact (C03.mem_fockBasis_take_iff nReal (U.n - nReal) (photons input) hL fo hfo hle o).symm

theorem sim_sq_eq_sampler (nsq : K → Q) (U : M K) (nReal : Nat) (input t : FState)
    (hU : U.n = nReal) (hin : input.length = nReal) (ht : t.length = nReal) (hpos : 0 < nReal)
    (hp : photons t = photons input) (hne : photons input ≠ 0) (hpp : 0 < transProb nsq U input t) :
    ((fullDistPermanent nsq 0 U nReal input).get? t).getD 0 =
      nsq (ampNum U input t) / ((ampNormSq input t : Nat) : Q) := by
  have hm := C04a.fullDistPermanent_marginal nsq 0 U nReal input hne t (by omega)
  simp only at hm
  have hz : input ++ List.replicate (U.n - nReal) 0 = input := by
    rw [hU, Nat.sub_self]; simp
  rw [hz, hin] at hm
  rw [hm]
  have hmem : t ∈ fockBasis nReal (photons input) :=
    (C03.fockBasis_complete _ _ hpos t).2 ⟨ht, hp⟩
  -- on states of `nReal` modes the first `nReal` entries are the state
  rw [List.filter_congr (q := fun o => decide (o = t ∧ 0 < transProb nsq U input o)) fun o ho => by
    rw [← ((C03.fockBasis_complete _ _ hpos o).1 ho).1, List.take_length]]
  exact sum_filter_eq_single (transProb nsq U input) _ (C03.fockBasis_nodup _ _) t hmem
    (fun o => 0 < transProb nsq U input o) hpp

/-! ### non-vacuity: the hypotheses hold on a concrete lossy instance
`K = Q = ℚ`, `|z|² := z·z`; two circuit modes with the real beam splitter `[[3/5, 4/5], [4/5, -3/5]]`
followed by a loss element (`a = 3/5`, `b = 4/5`, i.e. 64 % loss) on mode 0, hence one loss mode and
an orthogonal 3×3 `Ufull`; `cex0` is the same circuit without the loss element. -/

section NonVacuity

private def cex : Circ Rat :=
  { n := 2, spec := [.prim (.bs 0 1 (3/5) (4/5) .h), .prim (.loss 0 (3/5) (4/5))] }
private def cex0 : Circ Rat := { n := 2, spec := [.prim (.bs 0 1 (3/5) (4/5) .h)] }
private def nsqex : Rat → Rat := fun z => z * z

private theorem nsqex_nonneg : ∀ z, 0 ≤ nsqex z := fun z => mul_self_nonneg z

example :
    analyzerProb nsqex (cex.Ufull 0) ((cex.Ufull 0).n - 2)
        ([1, 1] ++ List.replicate ((cex.Ufull 0).n - 2) 0) [1, 0] =
      .ok (((fullDistPermanent nsqex 0 (cex.Ufull 0) 2 [1, 1]).get? [1, 0]).getD 0) :=
  analyzer_eq_sampler nsqex nsqex_nonneg (cex.Ufull 0) 2 [1, 1] [1, 0] rfl rfl
    (by decide +kernel) (by decide) (by decide) (by decide)

example : analyzerProb nsqex (cex.Ufull 0) 1 [1, 1, 0] [1, 0] = .ok (82944 / 390625) := by
  decide +kernel

example : analyzerProb nsqex (cex.Ufull 0) 1 [1, 0, 0] [1, 1] = .error .photonNumber :=
  analyzerProb_rejects nsqex (cex.Ufull 0) 1 [1, 0, 0] [1, 1] (by decide) (by decide)

example : quickDist 0 nsqex 0 cex [] true [1, 1] =
    .ok [([2, 0], 864 / 7939), ([1, 1], 1225 / 23817), ([0, 2], 20000 / 23817)] := by
  decide +kernel

example (d : PDist Rat) (h : quickDist 0 nsqex 0 cex [] true [1, 1] = .ok d) :
    (d.map (·.2)).sum = 1 :=
  (quickDist_spec 0 nsqex 0 le_rfl cex [] true [1, 1] d h).2.2

/-- threshold detection with a post-selection rule on mode 0 -/
example : quickDist 0 nsqex 0 cex [⟨[0], [1, 2]⟩] false [1, 1] = .ok [([1, 1], 1)] := by
  decide +kernel

/-- `analyze` succeeds on `|1,1⟩` with expected output `|1,1⟩` -/
example : (analyze 0 nsqex cex [] [[.int 1, .int 1]] (some [[[1, 1]]])).map
      (fun r => (r.outputs, r.performance, r.errorRate)) =
    .ok ([[0, 0], [1, 0], [0, 1], [2, 0], [1, 1], [0, 2]], 1, some (15184 / 15625)) := by
  decide +kernel

example : ((fullDistPermanent nsqex 0 (cex0.Ufull 0) 2 [1, 1]).get? [2, 0]).getD 0 =
    nsqex (ampNum (cex0.Ufull 0) [1, 1] [2, 0]) / ((ampNormSq [1, 1] [2, 0] : Nat) : Rat) :=
  sim_sq_eq_sampler nsqex (cex0.Ufull 0) 2 [1, 1] [2, 0] (by decide +kernel) rfl rfl (by decide)
    (by decide) (by decide) (by decide +kernel)

end NonVacuity

end LW.Proofs.C05
