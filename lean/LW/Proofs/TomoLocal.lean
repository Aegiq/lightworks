/-
  The concrete 2×2 matrices of the tomography code under `Consts`: each basis change turns a Z
  measurement into the measurement of its Pauli operator (`loc_pauli`) and is unitary
  (`loc_unitary`), the Paulis are dual to their transposes up to 2 (`pauliM_dual`); the sum over the
  outcomes of n qubits factorises over the qubits (`sum_factor`).
-/
import Mathlib.Tactic.LinearCombination
import Mathlib.Tactic.IntervalCases
import LW.Proofs.TomoKron

open scoped BigOperators

namespace LW.Tomo

variable {K : Type} [Field K] [StarRing K]

-- a theorem of this file whose statement mentions `K` takes all instance arguments of the `variable` line, used or
-- not, unless an `omit` stands in front of it: LW/Properties and the later modules cite them with these
set_option linter.unusedSectionVars false

/-- algebraic constraints on the two float constants of the code: `i = 1j`, `h = 1/2**0.5`.
The first two fields are `IsImagUnit i` of LW/Proofs/CircuitWf. -/
structure Consts (i h : K) : Prop where
  i_sq : i * i = -1
  i_star : star i = -i
  h_star : star h = h
  h_sq : h * h + h * h = 1

theorem get_mul2 (A B : M K) (hA : A.n = 2) {r c : Nat} (hr : r < 2) (hc : c < 2) :
    (A.mul B).get r c = A.get r 0 * B.get 0 c + A.get r 1 * B.get 1 c := by
  rw [M.get_mul A B (by omega) (by omega), hA, sum_range_two]

theorem measU_n (i h : K) (s : Pauli) : (measU i h s).n = 2 := by
  cases s <;> rfl

theorem pauliM_n (i : K) (s : Pauli) : (pauliM i s).n = 2 := by
  cases s <;> rfl

theorem one2_get {r c : Nat} (hr : r < 2) (hc : c < 2) :
    (M.one 2 : M K).get r c = if r = c then 1 else 0 := M.get_one hr hc

theorem measU_Y_get (i h : K) {r c : Nat} (hr : r < 2) (hc : c < 2) :
    (measU i h .Y).get r c = (mat2 h (-(h * i)) h (h * i)).get r c := by
  unfold measU
  rw [get_mul2 _ _ (by rfl) hr hc, get_mul2 _ _ (by rfl) (by omega) hc,
    get_mul2 _ _ (by rfl) (by omega) hc]
  interval_cases r <;> interval_cases c <;> simp [hM, zM, sM]

/-- eigenvalue sign of outcome digit `y` under operator `g` -/
def sgn (g : Pauli) (y : Nat) : K := if g = .I ∨ y = 0 then 1 else -1

/-- entry `(x', x)` of `U_s† · diag(sgn g) · U_s`, `U_s = measU i h s` the basis change of setting `s` -/
def loc (i h : K) (g s : Pauli) (x' x : Nat) : K :=
  ∑ y ∈ Finset.range 2, sgn g y * (measU i h s).get y x * star ((measU i h s).get y x')

/-- the entries of `measU i h s`, multiplied out (`measU_get`) -/
def measTab (i h : K) : Pauli → M K
  | .X => mat2 h h h (-h)
  | .Y => mat2 h (-(h * i)) h (h * i)
  | _ => mat2 1 0 0 1

theorem measU_get (i h : K) (s : Pauli) {r c : Nat} (hr : r < 2) (hc : c < 2) :
    (measU i h s).get r c = (measTab i h s).get r c := by
  cases s
  · rfl
  · exact measU_Y_get i h hr hc
  all_goals
    show (M.one 2 : M K).get r c = _
    rw [M.get_one hr hc]
    interval_cases r <;> interval_cases c <;> simp [measTab]

theorem loc_pauli {i h : K} (hc : Consts i h) (g : Pauli) {x' x : Nat} (hx' : x' < 2) (hx : x < 2) :
    loc i h g (toZ g) x' x = (pauliM i g).get x' x := by
  unfold loc
  have h2 := hc.h_sq
  rw [sum_range_two, measU_get i h _ (by omega) hx, measU_get i h _ (by omega) hx',
    measU_get i h _ (by omega) hx, measU_get i h _ (by omega) hx']
  cases g <;> interval_cases x' <;> interval_cases x <;>
    simp only [toZ, measTab, pauliM, sgn, mat2_00, mat2_01, mat2_10, mat2_11, hc.h_star, hc.i_star,
      star_neg, star_mul', star_one, star_zero, reduceCtorEq, false_or, true_or, or_true, if_true,
      one_ne_zero, if_false, one_mul, mul_one, mul_zero, add_zero, zero_add, neg_mul,
      mul_neg, neg_neg, add_neg_cancel, neg_add_cancel, h2]
  · linear_combination (-i) * h2
  · linear_combination i * h2

theorem loc_unitary {i h : K} (hc : Consts i h) (s : Pauli) {x' x : Nat} (hx' : x' < 2) (hx : x < 2) :
    loc i h .I s x' x = if x' = x then 1 else 0 := by
  unfold loc
  have h2 := hc.h_sq
  rw [sum_range_two, measU_get i h _ (by omega) hx, measU_get i h _ (by omega) hx',
    measU_get i h _ (by omega) hx, measU_get i h _ (by omega) hx']
  cases s <;> interval_cases x' <;> interval_cases x <;>
    simp only [measTab, sgn, mat2_00, mat2_01, mat2_10, mat2_11, hc.h_star, hc.i_star,
      star_neg, star_mul', star_one, star_zero, true_or, if_true,
      one_ne_zero, zero_ne_one, if_false, one_mul, mul_one, mul_zero, add_zero, zero_add, neg_mul,
      mul_neg, neg_neg, add_neg_cancel, neg_add_cancel, h2]
  linear_combination h2 - (h * h + h * h) * hc.i_sq

theorem pauliM_dual {i : K} (hi : i * i = -1) :
    Dual 2 Pauli.all (fun p => (pauliM i p).get) (fun p a b => (pauliM i p).get b a) (1 + 1) := by
  intro a b a' b' ha hb ha' hb'
  simp only [Pauli.all, List.map_cons, List.map_nil, List.sum_cons, List.sum_nil, pauliM]
  interval_cases a <;> interval_cases b <;> interval_cases a' <;> interval_cases b' <;>
    simp [hi]

/-- product of the eigenvalue signs over the digits of `b` (list from the last qubit) -/
def sgnRev : List Pauli → Nat → K
  | [] => fun _ => 1
  | g :: r => fun b => sgnRev r (b / 2) * sgn g (b % 2)

theorem sum_factor (i h : K) (gs : List (Pauli × Pauli)) (a a' : Nat) :
    ∑ b ∈ Finset.range (2 ^ gs.length),
        sgnRev (gs.map (·.1)) b
          * entryRev (gs.map fun p => (measU i h p.2).get) b a
          * star (entryRev (gs.map fun p => (measU i h p.2).get) b a')
      = entryRev (gs.map fun p => loc i h p.1 p.2) a' a := by
  induction gs generalizing a a' with
  | nil => simp [sgnRev, entryRev]
  | cons p r ih =>
    simp only [List.length_cons, pow_succ, List.map_cons, entryRev]
    rw [sum_range_mul_two, ← ih (a / 2) (a' / 2), Finset.sum_mul]
    refine Finset.sum_congr rfl fun q _ => ?_
    simp only [sgnRev, Nat.mul_div_cancel _ Nat.two_pos, Nat.mul_mod_left, idx_div Nat.one_lt_two,
      Nat.mul_add_mod_of_lt Nat.one_lt_two,
      star_mul', loc, sum_range_two]
    ring

theorem sgnRev_allI (r : List Pauli) (hr : ∀ g ∈ r, g = Pauli.I) (b : Nat) :
    (sgnRev r b : K) = 1 := by
  induction r generalizing b with
  | nil => rfl
  | cons g t ih =>
    simp only [sgnRev]
    rw [ih (fun g' hg' => hr g' (List.mem_cons_of_mem _ hg')), hr g List.mem_cons_self]
    simp [sgn]

theorem entryRev_delta {τ : Type} (l : List τ) {a b : Nat} (ha : a < 2 ^ l.length) (hb : b < 2 ^ l.length) :
    entryRev (l.map fun _ => fun (x' x : Nat) => if x' = x then (1 : K) else 0) a b =
      if a = b then 1 else 0 := by
  induction l generalizing a b with
  | nil =>
    simp only [List.length_nil, pow_zero, Nat.lt_one_iff] at ha hb
    subst ha; subst hb; simp [entryRev]
  | cons g t ih =>
    rw [List.length_cons, pow_succ] at ha hb
    simp only [List.map_cons, entryRev]
    rw [ih (by omega) (by omega), ite_zero_mul_ite_zero, mul_one]
    exact if_congr (Nat.ext_div_mod_iff 2 _ _).symm rfl rfl

theorem twoPow_eq (n : Nat) : (twoPow n : K) = (1 + 1) ^ n := by
  induction n with
  | zero => simp [twoPow]
  | succ n ih => simp [twoPow, ih, pow_succ]

theorem twoPow_ne_zero (h2 : (1 + 1 : K) ≠ 0) (n : Nat) : (twoPow n : K) ≠ 0 := by
  rw [twoPow_eq]
  exact pow_ne_zero _ h2

theorem settingU_n (i h : K) (s : Meas) : (settingU i h s).n = 2 ^ s.length :=
  kronList_map_n _ (measU_n i h) s

theorem settingU_get (i h : K) (s : Meas) {a b : Nat} (ha : a < 2 ^ s.length) (hb : b < 2 ^ s.length) :
    (settingU i h s).get a b = entryRev (s.reverse.map fun t => (measU i h t).get) a b :=
  kronList_map_get _ (measU_n i h) s ha hb

theorem pauliKron_get (i : K) (c : Meas) {a b : Nat} (ha : a < 2 ^ c.length) (hb : b < 2 ^ c.length) :
    (pauliKron i c).get a b = entryRev (c.reverse.map fun t => (pauliM i t).get) a b :=
  kronList_map_get _ (pauliM_n i) c ha hb

theorem pauliM_herm {i : K} (hi : star i = -i) (p : Pauli) {x y : Nat} (hx : x < 2) (hy : y < 2) :
    star ((pauliM i p).get x y) = (pauliM i p).get y x := by
  cases p <;> interval_cases x <;> interval_cases y <;> simp [pauliM, hi]

theorem pauliKron_herm {i : K} (hi : star i = -i) (m : Meas) {c e : Nat} (hc : c < 2 ^ m.length)
    (he : e < 2 ^ m.length) :
    star ((pauliKron i m).get c e) = (pauliKron i m).get e c := by
  rw [pauliKron_get i m hc he, pauliKron_get i m he hc, star_entryRev,
    ← entryRev_swap (fun t => (pauliM i t).get) m.reverse c e]
  exact entryRev_congr _ _ _ (fun t _ x y hx hy => pauliM_herm hi t hx hy) c e

theorem pauliKron_conjTranspose {i : K} (hi : star i = -i) (m : Meas) {N : Nat} (hN : 2 ^ m.length = N) :
    ((pauliKron i m).toMatN N).conjTranspose = (pauliKron i m).toMatN N := by
  subst hN
  ext a b
  rw [Matrix.conjTranspose_apply]
  exact pauliKron_herm hi m b.2 a.2

end LW.Tomo
