/-
  LW.Proofs.C15Pure — what `process_born` returns for a pure state (`normalised_pure`: Hermitian, unit
  trace, `|ψ⟩⟨ψ|/⟨ψ|ψ⟩`; put together in LW/Properties/C15 `process_returns_pure_state`), the fidelity
  clause, the set of required settings.
-/
import LW.Proofs.C15
import LW.Proofs.ListLemmas

open scoped BigOperators

namespace LW.Tomo

variable {K : Type} [Field K] [StarRing K] [DecidableEq K]

def normSq (n : Nat) (psi : Nat → K) : K := ∑ a ∈ Finset.range (2 ^ n), psi a * star (psi a)

omit [DecidableEq K] in
theorem trN_densityOfState (n : Nat) (psi : Nat → K) :
    trN n (densityOfState (2 ^ n) psi) = normSq n psi := by
  unfold trN normSq densityOfState
  refine Finset.sum_congr rfl fun a ha => ?_
  rw [M.get_ofFn _ (Finset.mem_range.mp ha) (Finset.mem_range.mp ha)]
  rfl

omit [DecidableEq K] in
theorem normSq_star (n : Nat) (psi : Nat → K) : star (normSq n psi) = normSq n psi := by
  unfold normSq
  rw [star_sum]
  refine Finset.sum_congr rfl fun a _ => ?_
  rw [star_mul', star_star, mul_comm]

omit [StarRing K] [DecidableEq K] in
theorem trace_eq_sum (A : M K) : trace A = ∑ a ∈ Finset.range A.n, A.get a a := by
  unfold trace
  rw [M.sumN_eq_sum]

omit [DecidableEq K] in
theorem normalised_pure (n : Nat) (psi : Nat → K) (hnorm : normSq n psi ≠ 0) :
    let rho := normalised n (densityOfState (2 ^ n) psi)
    rho.n = 2 ^ n ∧
    (∀ r k, r < 2 ^ n → k < 2 ^ n → rho.get r k = psi r * star (psi k) * (normSq n psi)⁻¹) ∧
    (∀ r k, r < 2 ^ n → k < 2 ^ n → star (rho.get k r) = rho.get r k) ∧
    trace rho = 1 ∧
    rho.mul rho = rho := by
  intro rho
  have hget : ∀ r k, r < 2 ^ n → k < 2 ^ n →
      rho.get r k = psi r * star (psi k) * (normSq n psi)⁻¹ := by
    intro r k hr hk
    simp only [rho, normalised]
    rw [M.get_ofFn _ hr hk, trN_densityOfState]
    unfold densityOfState
    rw [M.get_ofFn _ hr hk]
    rfl
  refine ⟨rfl, hget, ?_, ?_, ?_⟩
  · intro r k hr hk
    rw [hget k r hk hr, hget r k hr hk, star_mul', star_mul', star_star, star_inv₀, normSq_star]
    ring
  · rw [trace_eq_sum]
    have : rho.n = 2 ^ n := rfl
    rw [this, Finset.sum_congr rfl (fun a ha => hget a a (Finset.mem_range.mp ha) (Finset.mem_range.mp ha)),
      ← Finset.sum_mul]
    exact mul_inv_cancel₀ hnorm
  · refine M.ext_get (M.isOfFn_mul _ _) (M.isOfFn_ofFn _ _) rfl fun r k hr hk => ?_
    change r < 2 ^ n at hr
    change k < 2 ^ n at hk
    rw [M.get_mul _ _ hr hk, hget r k hr hk, show rho.n = 2 ^ n from rfl]
    have : ∀ m ∈ Finset.range (2 ^ n), rho.get r m * rho.get m k
        = (psi r * star (psi k) * (normSq n psi)⁻¹ * (normSq n psi)⁻¹) * (psi m * star (psi m)) := by
      intro m hm
      rw [hget r m hr (Finset.mem_range.mp hm), hget m k (Finset.mem_range.mp hm) hk]
      ring
    rw [Finset.sum_congr rfl this, ← Finset.mul_sum]
    change _ * normSq n psi = _
    field_simp

omit [StarRing K] [DecidableEq K] in
/-- `state_fidelity(ρ, ρ) = 1` for a normalised projector, given the contract of the external
`sqrtm`: the principal square root of an idempotent matrix is the matrix itself -/
theorem stateFidelity_projector (sqrtm : M K → M K) (hsq : ∀ A : M K, A.mul A = A → sqrtm A = A)
    (rho : M K) (hidem : rho.mul rho = rho) (htr : trace rho = 1) :
    stateFidelity sqrtm rho rho = .ok 1 := by
  unfold stateFidelity
  simp only [hsq rho hidem, ne_eq, not_true_eq_false, if_false, hidem, htr]

theorem toZ_ne_I (p : Pauli) : toZ p ≠ Pauli.I := by cases p <;> simp [toZ]

theorem toZ_of_ne_I (p : Pauli) (h : p ≠ Pauli.I) : toZ p = p := by cases p <;> simp_all [toZ]

theorem mem_requiredSet {n : Nat} (s : Meas) :
    s ∈ requiredSet n ↔ s ∈ requiredSpec n := by
  unfold requiredSet requiredSpec tomoMeasurements combineAll
  simp only [Bool.false_eq_true, if_false]
  rw [List.mem_eraseDups, List.mem_map, mem_combos]
  constructor
  · rintro ⟨c, hc, rfl⟩
    obtain ⟨hl, _⟩ := (mem_combos _ _ _).mp hc
    refine ⟨by simp [hl], ?_⟩
    intro p hp
    obtain ⟨q, _, rfl⟩ := List.mem_map.mp hp
    cases q <;> simp [toZ]
  · rintro ⟨hl, hm⟩
    refine ⟨s, (mem_combos _ _ _).mpr ⟨hl, ?_⟩, ?_⟩
    · intro p hp
      have := hm p hp
      simp only [Pauli.all]
      simp only [List.mem_cons, List.not_mem_nil, or_false] at this ⊢
      tauto
    · conv_rhs => rw [← List.map_id s]
      apply List.map_congr_left
      intro p hp
      have := hm p hp
      apply toZ_of_ne_I
      intro h
      subst h
      simp at this

theorem requiredSet_nodup (n : Nat) : (requiredSet n).Nodup :=
  eraseDups_nodup _

theorem cover_of_perm {n : Nat} {order : List Meas} (hp : order.Perm (requiredSet n)) :
    ∀ c ∈ tomoMeasurements n, c.map toZ ∈ order := by
  intro c hc
  rw [hp.mem_iff]
  unfold requiredSet
  rw [List.mem_eraseDups]
  exact List.mem_map_of_mem hc

end LW.Tomo
