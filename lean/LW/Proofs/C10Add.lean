/-
  LW.Proofs.C10Add — what `Circuit.add` (and the other construction calls) do to the list of leaf
  components: the result holds exactly the components of the parent and of the added circuit
  (plus, possibly, one mode swap), each with only its mode indices rewritten.  Consequences:
  `get_all_params` of the result is the union of the two lists, and unitary blocks stay literal.
-/
import LW.Proofs.C10Circ
import LW.Proofs.C02AddShape

namespace LW

variable {α K : Type}

/-- a rewriting of mode indices: the component fields are kept, and the entries of a unitary block
are old entries or the constants 0 and 1 -/
structure ModeOnly [Zero K] [One K] (g : Prim K → Prim K) : Prop where
  syms : ∀ p, (g p).syms = p.syms
  block : ∀ p, ∀ x ∈ (g p).blockEntries, x = 0 ∨ x = 1 ∨ x ∈ p.blockEntries

section
variable [Zero K] [One K]

theorem ModeOnly.id : ModeOnly (fun p : Prim K => p) :=
  ⟨fun _ => rfl, fun _ _ hx => Or.inr (Or.inr hx)⟩

theorem ModeOnly.comp {g h : Prim K → Prim K} (hg : ModeOnly g) (hh : ModeOnly h) :
    ModeOnly (fun p => g (h p)) := by
  refine ⟨fun p => by rw [hg.syms, hh.syms], fun p x hx => ?_⟩
  rcases hg.block (h p) x hx with h0 | h1 | hm
  · exact Or.inl h0
  · exact Or.inr (Or.inl h1)
  · exact hh.block p x hm

theorem ModeOnly.flatMap_syms {g : Prim K → Prim K} (hg : ModeOnly g) (l : List (Prim K)) :
    (l.map g).flatMap Prim.syms = l.flatMap Prim.syms := by
  rw [List.flatMap_map]
  exact congrArg (l.flatMap ·) (funext hg.syms)

theorem ModeOnly.addEmptyMode (k : Nat) : ModeOnly (Prim.addEmptyMode k : Prim K → Prim K) := by
  refine ⟨fun p => ?_, fun p x hx => ?_⟩
  · cases p with
    | unitary m u => simp only [Prim.addEmptyMode]; split <;> rfl
    | _ => rfl
  · cases p with
    | unitary m u =>
      simp only [Prim.addEmptyMode] at hx
      split at hx
      · simp only [Prim.blockEntries, addModeToUnitary] at hx
        obtain ⟨r, c, rfl⟩ := M.entries_ofFn _ _ _ hx
        split
        · split
          · exact Or.inr (Or.inl rfl)
          · exact Or.inl rfl
        · rcases M.get_mem u (if r > k - bump k m then r - 1 else r) (if c > k - bump k m then c - 1 else c) with h | h
          · exact Or.inl h
          · exact Or.inr (Or.inr h)
      · exact Or.inr (Or.inr hx)
    | _ => cases hx

theorem ModeOnly.shift (k : Nat) : ModeOnly (Prim.shift k : Prim K → Prim K) := by
  refine ⟨fun p => by cases p <;> rfl, fun p x hx => ?_⟩
  cases p with
  | unitary m u => exact Or.inr (Or.inr hx)
  | _ => cases hx

end

/- The model names one function twice: `primsOf` (LW.Model.PCircuit, in the statements of C10) and
`flattenSpec` (LW.Model.CircuitSpec, in the leaf lemmas of C02Modes and RewriteShape).  The C10
proofs rewrite with `primsOf_eq_flattenSpec` or use these three restatements. -/

theorem primsOf_eq_flattenSpec (spec : List (Comp K)) : primsOf spec = flattenSpec spec := rfl

theorem primsOf_append (a b : List (Comp K)) : primsOf (a ++ b) = primsOf a ++ primsOf b :=
  flattenSpec_append a b

theorem primsOf_unpackSpec (spec : List (Comp K)) : primsOf (unpackSpec spec) = primsOf spec :=
  flattenSpec_unpackSpec spec

theorem primsOf_convertNonAdj (spec : List (Comp K)) :
    primsOf (convertNonAdj spec) = (primsOf spec).flatMap Prim.convertNonAdj :=
  flattenSpec_convertNonAdj spec

namespace Circ

section
open LW.Proofs.C02
variable [Zero K] [One K]

theorem _root_.LW.ModeOnly.ins (ks : List Nat) : ModeOnly (Prim.ins ks : Prim K → Prim K) := by
  induction ks with
  | nil => exact ModeOnly.id
  | cons k ks ih =>
    show ModeOnly fun p : Prim K => Prim.ins ks (p.addEmptyMode k)
    exact ModeOnly.comp ih (ModeOnly.addEmptyMode k)

omit [Zero K] [One K] in
/-- the swap that returns the heralds, if any, has no fields -/
theorem swapSpec_prims (c : Circ K) :
    ∃ extra : List (Prim K), (∀ p ∈ extra, p.syms = [] ∧ p.blockEntries = []) ∧
      primsOf (swapSpec c) = primsOf c.spec ++ extra := by
  unfold swapSpec
  dsimp only
  split
  · refine ⟨[.swaps _], fun p hp => ?_, primsOf_append _ _⟩
    rw [List.mem_singleton] at hp
    subst hp; exact ⟨rfl, rfl⟩
  · exact ⟨[], fun _ h => (nomatch h), (List.append_nil _).symm⟩

theorem add_prims (self circuit c' : Circ K) (mode : Int) (grouped : Bool)
    (h : self.add circuit mode grouped = .ok c') :
    ∃ φ ψ : Prim K → Prim K, ModeOnly φ ∧ ModeOnly ψ ∧ ∃ extra : List (Prim K),
      (∀ p ∈ extra, p.syms = [] ∧ p.blockEntries = []) ∧
      primsOf c'.spec = (primsOf self.spec).map φ ++ (primsOf circuit.spec ++ extra).map ψ := by
  obtain ⟨m, ts, -, -, -, rfl⟩ := add_ok_ins h
  obtain ⟨extra, hextra, hws⟩ := swapSpec_prims (pick circuit grouped).1
  refine ⟨Prim.ins (ancPos m (subIns circuit grouped ts).sub.inHer),
    fun p => Prim.shift m (Prim.ins ts p), ModeOnly.ins _,
    ModeOnly.comp (ModeOnly.shift m) (ModeOnly.ins ts), extra, hextra, ?_⟩
  simp only [primsOf_eq_flattenSpec] at hws ⊢
  rw [(addFinal_shape ..).2, flattenSpec_append, flattenSpec_map_ins, flattenSpec_addedComps]
  show _ ++ (flattenSpec ((swapSpec (pick circuit grouped).1).map (Comp.ins ts))).map _ = _
  rw [flattenSpec_map_ins, hws, flattenSpec_pick, List.map_map]
  rfl

end

end Circ

namespace PCirc

variable [Zero K] [One K]

theorem modeOnly_litU {g : Prim (Sym α K) → Prim (Sym α K)} (hg : ModeOnly g) (p : Prim (Sym α K))
    (hp : p.LitU) : (g p).LitU := by
  rw [litU_iff_block] at hp ⊢
  intro x hx
  rcases hg.block p x hx with h | h | h
  · exact ⟨0, h⟩
  · exact ⟨1, h⟩
  · exact hp x h

theorem add_syms (self circuit c' : PCirc α K) (mode : Int) (grouped : Bool)
    (h : Circ.add self circuit mode grouped = .ok c') :
    Circ.syms c' = Circ.syms self ++ Circ.syms circuit := by
  obtain ⟨φ, ψ, hφ, hψ, extra, hextra, hp⟩ := Circ.add_prims self circuit c' mode grouped h
  unfold Circ.syms
  rw [hp, List.flatMap_append, hφ.flatMap_syms, hψ.flatMap_syms, List.flatMap_append]
  have : extra.flatMap Prim.syms = [] := by
    rw [List.flatMap_eq_nil_iff]
    intro p hp'
    exact (hextra p hp').1
  rw [this, List.append_nil]

theorem add_litU (self circuit c' : PCirc α K) (mode : Int) (grouped : Bool)
    (h : Circ.add self circuit mode grouped = .ok c') (h1 : self.LitU) (h2 : circuit.LitU) : c'.LitU := by
  obtain ⟨φ, ψ, hφ, hψ, extra, hextra, hp⟩ := Circ.add_prims self circuit c' mode grouped h
  intro p hpm
  rw [hp, List.mem_append] at hpm
  rcases hpm with hpm | hpm
  · obtain ⟨q, hq, rfl⟩ := List.mem_map.mp hpm
    exact modeOnly_litU hφ q (h1 q hq)
  · obtain ⟨q, hq, rfl⟩ := List.mem_map.mp hpm
    apply modeOnly_litU hψ
    rcases List.mem_append.mp hq with hq | hq
    · exact h2 q hq
    · rw [litU_iff_block, (hextra q hq).2]
      intro x hx
      cases hx

end PCirc

end LW
