/-
  LW.Proofs.FockPlace — what a substitution homomorphism conserves (`Pres wt`, with a change of
  weight `Pres2`) and how it is moved: placed on more modes through a partial injection (the
  polynomial form of `Optic.embedVia`; a unitary block is the case of a shift), and relabelled.
-/
import Mathlib.RingTheory.MvPolynomial.WeightedHomogeneous
import LW.Proofs.FockPoly
import LW.Proofs.C02SemEmbed

open MvPolynomial

namespace LW.C12F

open LW LW.Proofs.C02Sem

variable {R : Type} [CommRing R]

/-- `φ` maps a creation operator of weight `wt j` to a form of weight `wt j` for `wt'` -/
def Pres2 (wt wt' : ℕ → ℕ) (φ : Hom R) : Prop := ∀ j, IsWeightedHomogeneous wt' (φ (X j)) (wt j)

/-- `φ` preserves the weight `wt` of every creation operator. This is `Pres2 wt wt`
(`pres2_iff_pres`, by `Iff.rfl`): the laws are proved for `Pres2` and read off for `Pres`. -/
def Pres (wt : ℕ → ℕ) (φ : Hom R) : Prop := ∀ j, IsWeightedHomogeneous wt (φ (X j)) (wt j)

theorem pres2_iff_pres (wt : ℕ → ℕ) (φ : Hom R) : Pres2 wt wt φ ↔ Pres wt φ := Iff.rfl

theorem isWeightedHomogeneous_colForm (wt : ℕ → ℕ) (U : Nat → Nat → R) (D j n : Nat)
    (h : ∀ i, i < D → U i j ≠ 0 → wt i = n) : IsWeightedHomogeneous wt (colForm U D j) n := by
  unfold colForm
  apply IsWeightedHomogeneous.sum
  intro i hi
  by_cases hz : U i j = 0
  · rw [hz, C_0, zero_mul]
    exact isWeightedHomogeneous_zero R _ _
  · have := (isWeightedHomogeneous_X R wt i).C_mul (U i j)
    rw [h i (Finset.mem_range.mp hi) hz] at this
    exact this

theorem Pres2.monomial {wt wt' : ℕ → ℕ} {φ : Hom R} (h : Pres2 wt wt' φ) (s : ℕ →₀ ℕ) :
    IsWeightedHomogeneous wt' (φ (monomial s 1)) (Finsupp.weight wt s) := by
  rw [← prod_X_pow_eq_monomial, map_prod, Finsupp.weight_apply]
  unfold Finsupp.sum
  apply IsWeightedHomogeneous.prod
  intro j _
  rw [map_pow]
  exact (h j).pow (s j)

theorem Pres2.apply {wt wt' : ℕ → ℕ} {φ : Hom R} (h : Pres2 wt wt' φ) {p : MvPolynomial ℕ R} {n : ℕ}
    (hp : IsWeightedHomogeneous wt p n) : IsWeightedHomogeneous wt' (φ p) n := by
  classical
  rw [as_sum p, map_sum]
  apply IsWeightedHomogeneous.sum
  intro v hv
  have hc : coeff v p ≠ 0 := mem_support_iff.mp hv
  have hw : Finsupp.weight wt v = n := by
    by_contra hne
    exact hc (hp.coeff_eq_zero v hne)
  rw [← mul_one (coeff v p), ← C_mul_monomial, map_mul, algHom_C]
  have := (h.monomial v).C_mul (coeff v p)
  rw [hw] at this
  exact this

theorem Pres2.comp {wt wt' wt'' : ℕ → ℕ} {φ ψ : Hom R} (hφ : Pres2 wt' wt'' φ) (hψ : Pres2 wt wt' ψ) :
    Pres2 wt wt'' (φ.comp ψ) := by
  intro j
  rw [AlgHom.comp_apply]
  exact hφ.apply (hψ j)

theorem Pres2.amp_eq_zero {wt wt' : ℕ → ℕ} {φ : Hom R} (h : Pres2 wt wt' φ) {t s : ℕ →₀ ℕ}
    (hne : Finsupp.weight wt' t ≠ Finsupp.weight wt s) : amp φ t s = 0 :=
  (h.monomial s).coeff_eq_zero t hne

theorem pres2_homOf (wt wt' : ℕ → ℕ) (U : Nat → Nat → R) (D : Nat)
    (h : ∀ i j, i < D → j < D → U i j ≠ 0 → wt' i = wt j) (h' : ∀ j, D ≤ j → wt' j = wt j) :
    Pres2 wt wt' (homOf U D) := by
  intro j
  by_cases hj : j < D
  · rw [homOf_X_lt _ hj]
    exact isWeightedHomogeneous_colForm wt' U D j _ fun i hi hz => h i j hi hj hz
  · rw [homOf_X_ge _ (by omega), ← h' j (by omega)]
    exact isWeightedHomogeneous_X R wt' j

/-- a matrix whose non-zero entries connect modes of equal weight preserves the weight -/
theorem pres_homOf (wt : ℕ → ℕ) (U : Nat → Nat → R) (D : Nat)
    (h : ∀ i j, i < D → j < D → U i j ≠ 0 → wt i = wt j) : Pres wt (homOf U D) :=
  pres2_homOf wt wt U D h fun _ _ => rfl

theorem Pres2.id (wt : ℕ → ℕ) : Pres2 wt wt (AlgHom.id R (MvPolynomial ℕ R)) := by
  intro j
  rw [AlgHom.id_apply]
  exact isWeightedHomogeneous_X R wt j

theorem Pres.id (wt : ℕ → ℕ) : Pres wt (AlgHom.id R (MvPolynomial ℕ R)) := Pres2.id wt

theorem Pres.comp {wt : ℕ → ℕ} {φ ψ : Hom R} (hφ : Pres wt φ) (hψ : Pres wt ψ) :
    Pres wt (φ.comp ψ) := Pres2.comp hφ hψ

theorem pres2_rename (σ : ℕ → ℕ) (wt : ℕ → ℕ) :
    Pres2 (fun j => wt (σ j)) wt (rename σ : Hom R) := by
  intro j
  rw [rename_X]
  exact isWeightedHomogeneous_X R wt (σ j)

/-- indicator weight of a decidable set of modes -/
def wtP (p : ℕ → Prop) [DecidablePred p] : ℕ → ℕ := fun j => if p j then 1 else 0

theorem weight_wtP (p : ℕ → Prop) [DecidablePred p] (A : Finset ℕ) (hA : ∀ j, j ∈ A ↔ p j)
    (s : ℕ →₀ ℕ) : Finsupp.weight (wtP p) s = ∑ j ∈ A, s j := by
  classical
  rw [Finsupp.weight_apply, Finsupp.sum]
  have h1 : ∑ i ∈ s.support, s i • wtP p i = ∑ i ∈ s.support.filter p, s i := by
    rw [Finset.sum_filter]
    apply Finset.sum_congr rfl
    intro i _
    unfold wtP
    split <;> simp
  have h2 : s.support.filter p = A.filter (· ∈ s.support) := by
    ext j
    simp only [Finset.mem_filter, hA]
    tauto
  rw [h1, h2]
  apply Finset.sum_subset (Finset.filter_subset _ _)
  intro j hj hnj
  rw [Finset.mem_filter] at hnj
  by_contra h0
  exact hnj ⟨hj, Finsupp.mem_support_iff.mpr h0⟩

theorem Pres.sum_eq {p : ℕ → Prop} [DecidablePred p] {φ : Hom R} (h : Pres (wtP p) φ)
    (A : Finset ℕ) (hA : ∀ j, j ∈ A ↔ p j) {t s : ℕ →₀ ℕ} (hne : amp φ t s ≠ 0) :
    ∑ j ∈ A, t j = ∑ j ∈ A, s j := by
  by_contra hc
  apply hne
  apply Pres2.amp_eq_zero h
  rw [weight_wtP p A hA, weight_wtP p A hA]
  exact hc

theorem Pres.apply_eq {z : ℕ} {φ : Hom R} (h : Pres (wtP (· = z)) φ) {t s : ℕ →₀ ℕ}
    (hne : amp φ t s ≠ 0) : t z = s z := by
  have := h.sum_eq {z} (by simp) hne
  simpa using this

theorem homOf_sum (U : ℕ → ℕ → R) (d : ℕ) {t s : ℕ →₀ ℕ} (hne : amp (homOf U d) t s ≠ 0) :
    ∑ j ∈ Finset.range d, t j = ∑ j ∈ Finset.range d, s j := by
  refine (pres_homOf (wtP (· < d)) U d fun i j hi hj _ => ?_).sum_eq _ (fun j => Finset.mem_range)
    hne
  unfold wtP
  rw [if_pos hi, if_pos hj]

theorem algHom_monomial_congr {A : Type} [CommSemiring A] [Algebra R A]
    (φ ψ : MvPolynomial ℕ R →ₐ[R] A) (s : ℕ →₀ ℕ)
    (h : ∀ j ∈ s.support, φ (X j) = ψ (X j)) : φ (monomial s 1) = ψ (monomial s 1) := by
  rw [← prod_X_pow_eq_monomial, map_prod, map_prod]
  apply Finset.prod_congr rfl
  intro j hj
  rw [map_pow, map_pow, h j hj]

/-- `φ` acting on the variables in the image of `fwd`, all other variables fixed: the placement
along a partial injection `fwd`/`inv`, the data of `PInj` and `Optic.embedVia` (the `G` belongs to
the name only; there is no other `placeHom`) -/
noncomputable def placeHomG (φ : Hom R) (fwd : ℕ → ℕ) (inv : ℕ → Option ℕ) (D : ℕ) : Hom R :=
  aeval fun j => if j < D then (match inv j with
    | some y => rename fwd (φ (X y))
    | none => X j) else X j

theorem placeHomG_X_some (φ : Hom R) (fwd : ℕ → ℕ) (inv : ℕ → Option ℕ) {D j y : ℕ} (hj : j < D)
    (hi : inv j = some y) : placeHomG φ fwd inv D (X j) = rename fwd (φ (X y)) := by
  unfold placeHomG
  rw [aeval_X, if_pos hj, hi]

theorem placeHomG_X_none (φ : Hom R) (fwd : ℕ → ℕ) (inv : ℕ → Option ℕ) {D j : ℕ}
    (hi : j < D → inv j = none) : placeHomG φ fwd inv D (X j) = X j := by
  unfold placeHomG
  rw [aeval_X]
  by_cases hj : j < D
  · rw [if_pos hj, hi hj]
  · rw [if_neg hj]

theorem homOf_embedVia {d D : ℕ} {fwd : ℕ → ℕ} {inv : ℕ → Option ℕ} (h : PInj d D fwd inv)
    (S : M R) :
    homOf (Optic.embedVia D S inv).get D = placeHomG (homOf S.get d) fwd inv D := by
  apply algHom_ext
  intro j
  by_cases hj : j < D
  · rw [homOf_X_lt _ hj]
    cases hi : inv j with
    | none =>
      rw [placeHomG_X_none _ _ _ (fun _ => hi)]
      exact colForm_single _ hj fun r hr => get_embedVia_none_right S hr hj hi
    | some y =>
      obtain ⟨hy, ey⟩ := h.inv_some j y hj hi
      rw [placeHomG_X_some _ _ _ hj hi, homOf_X_lt _ hy]
      unfold colForm
      rw [map_sum]
      rw [h.sum_range (fun r => C ((Optic.embedVia D S inv).get r j) * X r)]
      · apply Finset.sum_congr rfl
        intro x hx
        have hx' := Finset.mem_range.mp hx
        rw [map_mul, rename_C, rename_X]
        congr 2
        rw [← ey]
        exact get_embedVia_fwd h S hx' hy
      · intro k hk hik
        have hne : k ≠ j := by
          intro e
          rw [e, hi] at hik
          cases hik
        show C ((Optic.embedVia D S inv).get k j) * X k = 0
        rw [get_embedVia_none_left S hk hj hik, if_neg hne, C_0, zero_mul]
  · rw [homOf_X_ge _ (by omega), placeHomG_X_none _ _ _ (fun hh => absurd hh hj)]

/-- amplitude of a placed homomorphism between states that agree outside the placement -/
theorem amp_placeHomG {d D : ℕ} {fwd : ℕ → ℕ} {inv : ℕ → Option ℕ} (h : PInj d D fwd inv)
    (hinj : Function.Injective fwd) (φ : Hom R) (s t o : ℕ →₀ ℕ)
    (hs : ∀ y ∈ s.support, y < d) (ho : ∀ j ∈ o.support, j < D → inv j = none) :
    amp (placeHomG φ fwd inv D) (Finsupp.mapDomain fwd t + o) (Finsupp.mapDomain fwd s + o) =
      amp φ t s := by
  unfold amp
  have h1 : (monomial (Finsupp.mapDomain fwd s + o) (1 : R))
      = monomial (Finsupp.mapDomain fwd s) 1 * monomial o 1 := by
    rw [monomial_mul, mul_one]
  have h2 : placeHomG φ fwd inv D (monomial o 1) = monomial o 1 := by
    have := algHom_monomial_congr (placeHomG φ fwd inv D) (AlgHom.id R _) o (by
      intro j hj
      rw [AlgHom.id_apply]
      exact placeHomG_X_none _ _ _ (ho j hj))
    rw [this, AlgHom.id_apply]
  have h3 : placeHomG φ fwd inv D (monomial (Finsupp.mapDomain fwd s) 1)
      = rename fwd (φ (monomial s 1)) := by
    rw [← rename_monomial]
    have := algHom_monomial_congr ((placeHomG φ fwd inv D).comp (rename fwd))
      ((rename fwd).comp φ) s (by
        intro y hy
        have hy' := hs y hy
        rw [AlgHom.comp_apply, AlgHom.comp_apply, rename_X]
        exact placeHomG_X_some _ _ _ (h.fwd_lt y hy') (h.inv_fwd y hy'))
    rw [AlgHom.comp_apply, AlgHom.comp_apply] at this
    exact this
  rw [h1, map_mul, h2, h3, coeff_mul_monomial, mul_one]
  exact coeff_rename_mapDomain fwd hinj _ t

theorem pres_placeG {d D : ℕ} {fwd : ℕ → ℕ} {inv : ℕ → Option ℕ} (h : PInj d D fwd inv)
    {φ : Hom R} (wt : ℕ → ℕ) (hφ : Pres (fun x => wt (fwd x)) φ) :
    Pres wt (placeHomG φ fwd inv D) := by
  intro j
  by_cases hi : ∃ y, j < D ∧ inv j = some y
  · obtain ⟨y, hj, hi⟩ := hi
    rw [placeHomG_X_some _ _ _ hj hi, ← (h.inv_some j y hj hi).2]
    exact (pres2_rename fwd wt).apply (hφ y)
  · rw [placeHomG_X_none _ _ _ fun hj =>
      Option.eq_none_iff_forall_ne_some.mpr fun y e => hi ⟨y, hj, e⟩]
    exact isWeightedHomogeneous_X R wt j

theorem pres_place {d D : ℕ} {fwd : ℕ → ℕ} {inv : ℕ → Option ℕ} (h : PInj d D fwd inv)
    (U : ℕ → ℕ → R) (wt : ℕ → ℕ) (hwt : ∀ x y, x < d → y < d → wt (fwd x) = wt (fwd y)) :
    Pres wt (placeHomG (homOf U d) fwd inv D) :=
  pres_placeG h wt (pres_homOf _ U d fun i j hi hj _ => hwt i j hi hj)

theorem placeHomG_congr (φ : Hom R) (fwd : ℕ → ℕ) {inv inv' : ℕ → Option ℕ} {D : ℕ}
    (h : ∀ j, j < D → inv j = inv' j) : placeHomG φ fwd inv D = placeHomG φ fwd inv' D := by
  apply algHom_ext
  intro j
  unfold placeHomG
  rw [aeval_X, aeval_X]
  by_cases hj : j < D
  · rw [if_pos hj, if_pos hj, h j hj]
  · rw [if_neg hj, if_neg hj]

theorem placeHomG_id (U : ℕ → ℕ → R) {d D : ℕ} (inv : ℕ → Option ℕ) (hdD : d ≤ D)
    (h1 : ∀ j, j < d → inv j = some j) (h2 : ∀ j, d ≤ j → j < D → inv j = none) :
    placeHomG (homOf U d) (fun r => r) inv D = homOf U d := by
  apply algHom_ext
  intro j
  by_cases hj : j < d
  · rw [placeHomG_X_some _ _ _ (by omega) (h1 j hj)]
    exact rename_id_apply _
  · rw [homOf_X_ge _ (by omega)]
    exact placeHomG_X_none _ _ _ (fun hh => h2 j (by omega) hh)

theorem homOf_mul_embedVia {dA dB D : ℕ} {fA fB : ℕ → ℕ} {iA iB : ℕ → Option ℕ}
    (hA : PInj dA D fA iA) (hB : PInj dB D fB iB) (A B : M R) :
    homOf ((Optic.embedVia D A iA).mul (Optic.embedVia D B iB)).get D =
      (placeHomG (homOf A.get dA) fA iA D).comp (placeHomG (homOf B.get dB) fB iB D) := by
  rw [homOf_mul _ _ (embedVia_n D A iA), homOf_embedVia hA, homOf_embedVia hB]

theorem placeHomG_congr_fwd {d D : ℕ} {fwd fwd' : ℕ → ℕ} {inv : ℕ → Option ℕ}
    (h : PInj d D fwd inv) (U : ℕ → ℕ → R) (e : ∀ x, x < d → fwd' x = fwd x) :
    placeHomG (homOf U d) fwd' inv D = placeHomG (homOf U d) fwd inv D := by
  apply algHom_ext
  intro j
  by_cases hj : j < D
  · cases hi : inv j with
    | none => rw [placeHomG_X_none _ _ _ (fun _ => hi), placeHomG_X_none _ _ _ (fun _ => hi)]
    | some y =>
      obtain ⟨hy, _⟩ := h.inv_some j y hj hi
      rw [placeHomG_X_some _ _ _ hj hi, placeHomG_X_some _ _ _ hj hi, homOf_X_lt _ hy]
      unfold colForm
      rw [map_sum, map_sum]
      apply Finset.sum_congr rfl
      intro x hx
      rw [map_mul, map_mul, rename_C, rename_C, rename_X, rename_X, e x (Finset.mem_range.mp hx)]
  · rw [placeHomG_X_none _ _ _ (fun hh => absurd hh hj),
      placeHomG_X_none _ _ _ (fun hh => absurd hh hj)]

theorem placeHomG_eq_of_pinj {d D : ℕ} {fwd fwd' : ℕ → ℕ} {inv inv' : ℕ → Option ℕ}
    (h : PInj d D fwd inv) (h' : PInj d D fwd' inv') (U : ℕ → ℕ → R)
    (e : ∀ x, x < d → fwd' x = fwd x) :
    placeHomG (homOf U d) fwd' inv' D = placeHomG (homOf U d) fwd inv D := by
  have h'' : PInj d D fwd inv' := h'.congr_fwd (fun x hx => (e x hx).symm)
  rw [placeHomG_congr _ fwd' (h''.inv_unique h), placeHomG_congr_fwd h U e]

theorem rename_conj_place (τ : ℕ → ℕ) (hτ : ∀ z, τ (τ z) = z) {D : ℕ} (hD : ∀ z, z < D → τ z < D)
    (φ : Hom R) (fwd : ℕ → ℕ) (inv : ℕ → Option ℕ) :
    (rename τ : Hom R).comp ((placeHomG φ fwd inv D).comp (rename τ : Hom R)) =
      placeHomG φ (fun x => τ (fwd x)) (fun z => inv (τ z)) D := by
  apply algHom_ext
  intro j
  rw [AlgHom.comp_apply, AlgHom.comp_apply, rename_X]
  by_cases hj : j < D
  · have hj' : τ j < D := hD j hj
    cases hi : inv (τ j) with
    | none =>
      rw [placeHomG_X_none _ _ _ (fun _ => hi), rename_X, hτ]
      exact (placeHomG_X_none φ (fun x => τ (fwd x)) (fun z => inv (τ z)) (D := D) (j := j)
        (fun _ => hi)).symm
    | some y =>
      rw [placeHomG_X_some _ _ _ hj' hi, rename_rename]
      exact (placeHomG_X_some φ (fun x => τ (fwd x)) (fun z => inv (τ z)) (D := D) (j := j) hj
        hi).symm
  · have hj' : ¬ τ j < D := by
      intro hc
      have := hD _ hc
      rw [hτ] at this
      exact hj this
    rw [placeHomG_X_none _ _ _ (fun hh => absurd hh hj'), rename_X, hτ,
      placeHomG_X_none _ _ _ (fun hh => absurd hh hj)]

theorem amp_homOf_conj (U : ℕ → ℕ → R) (D : ℕ) (ρ : ℕ → ℕ) (hinj : Function.Injective ρ)
    (hlt : ∀ y, y < D → ρ y < D) (hsurj : ∀ z, z < D → ∃ y, y < D ∧ ρ y = z)
    (t s : ℕ →₀ ℕ) (hs : ∀ y ∈ s.support, y < D) :
    amp (homOf U D) (Finsupp.mapDomain ρ t) (Finsupp.mapDomain ρ s) =
      amp (homOf (fun r k => U (ρ r) (ρ k)) D) t s := by
  unfold amp
  rw [← rename_monomial]
  have key := algHom_monomial_congr ((homOf U D).comp (rename ρ))
    ((rename ρ).comp (homOf (fun r k => U (ρ r) (ρ k)) D)) s (by
      intro y hy
      have hy' := hs y hy
      rw [AlgHom.comp_apply, AlgHom.comp_apply, rename_X, homOf_X_lt _ (hlt y hy'),
        homOf_X_lt _ hy']
      unfold colForm
      rw [map_sum]
      symm
      apply Finset.sum_nbij ρ
      · intro a ha
        exact Finset.mem_range.mpr (hlt a (Finset.mem_range.mp ha))
      · intro a _ b _ e
        exact hinj e
      · intro z hz
        obtain ⟨y', hy', e⟩ := hsurj z (Finset.mem_range.mp hz)
        exact ⟨y', Finset.mem_range.mpr hy', e⟩
      · intro a _
        rw [map_mul, rename_C, rename_X])
  rw [AlgHom.comp_apply, AlgHom.comp_apply] at key
  rw [key]
  exact coeff_rename_mapDomain ρ hinj _ t

theorem amp_rename (σ : ℕ → ℕ) (w s : ℕ →₀ ℕ) :
    amp (rename σ : Hom R) w s = if Finsupp.mapDomain σ s = w then 1 else 0 := by
  classical
  unfold amp
  rw [rename_monomial, coeff_monomial]

theorem mapDomain_invol {σ : ℕ → ℕ} (hσ : ∀ z, σ (σ z) = z) (s : ℕ →₀ ℕ) (z : ℕ) :
    Finsupp.mapDomain σ s z = s (σ z) := by
  have hinj : Function.Injective σ := by
    intro x y e
    have := congrArg σ e
    rwa [hσ, hσ] at this
  conv_lhs => rw [← hσ z]
  exact Finsupp.mapDomain_apply hinj s (σ z)

theorem homOf_embedBlock {n m : ℕ} (u : M R) (h : m + u.n ≤ n) :
    homOf (embedBlock n m u).get n = placeHomG (homOf u.get u.n) (m + ·) (blockInv m u.n) n := by
  rw [embedBlock_eq_embedVia]
  exact homOf_embedVia (pinj_blockInv m u.n n fun j hj => by omega) u

theorem block_reach {n m : ℕ} (u : M R) (h : m + u.n ≤ n) {t w : ℕ →₀ ℕ}
    (hne : amp (homOf (embedBlock n m u).get n) t w ≠ 0) :
    (∀ z, ¬ (m ≤ z ∧ z < m + u.n) → t z = w z) ∧
      ∑ j ∈ Finset.Ico m (m + u.n), t j = ∑ j ∈ Finset.Ico m (m + u.n), w j := by
  rw [homOf_embedBlock u h] at hne
  have hp := pinj_blockInv m u.n n fun j hj => by omega
  constructor
  · intro z hz
    refine (pres_place hp u.get (wtP (· = z)) fun x y hx hy => ?_).apply_eq hne
    unfold wtP
    rw [if_neg (by show ¬ m + x = z; omega), if_neg (by show ¬ m + y = z; omega)]
  · refine (pres_place hp u.get (wtP fun j => m ≤ j ∧ j < m + u.n) fun x y hx hy => ?_).sum_eq _
      (fun j => Finset.mem_Ico) hne
    unfold wtP
    rw [if_pos (by show m ≤ m + x ∧ m + x < m + u.n; omega),
      if_pos (by show m ≤ m + y ∧ m + y < m + u.n; omega)]

theorem block2_reach {n m : ℕ} (u : M R) (hu : u.n = 2) (h : m + 2 ≤ n) {t w : ℕ →₀ ℕ}
    (hne : amp (homOf (embedBlock n m u).get n) t w ≠ 0) :
    (∀ z, z ≠ m → z ≠ m + 1 → t z = w z) ∧ t m + t (m + 1) = w m + w (m + 1) := by
  obtain ⟨a, b⟩ := block_reach u (by rw [hu]; exact h) hne
  rw [hu] at a b
  refine ⟨fun z z0 z1 => a z (by omega), ?_⟩
  have e : Finset.Ico m (m + 2) = {m, m + 1} := by
    ext j; simp only [Finset.mem_Ico, Finset.mem_insert, Finset.mem_singleton]; omega
  rwa [e, Finset.sum_pair (by omega), Finset.sum_pair (by omega)] at b

theorem amp_homOf_single (U : ℕ → ℕ → R) {D o i : ℕ} (ho : o < D) (hi : i < D) :
    amp (homOf U D) (Finsupp.single o 1) (Finsupp.single i 1) = U o i := by
  classical
  unfold amp
  have e : (monomial (Finsupp.single i 1) (1 : R)) = X i := rfl
  rw [e, homOf_X_lt _ hi]
  unfold colForm
  rw [coeff_sum, Finset.sum_eq_single o]
  · rw [coeff_C_mul, coeff_X, if_pos rfl, mul_one]
  · intro k _ hk
    rw [coeff_C_mul, coeff_X, if_neg fun h => hk (Finsupp.single_left_injective one_ne_zero h),
      mul_zero]
  · intro h; exact absurd (Finset.mem_range.mpr ho) h

theorem amp_block_single {n m : ℕ} (u : M R) (h : m + u.n ≤ n) {r : ℕ →₀ ℕ}
    (hr : ∀ j ∈ r.support, ¬ (m ≤ j ∧ j < m + u.n)) {o i : ℕ} (ho : o < u.n) (hi : i < u.n) :
    amp (homOf (embedBlock n m u).get n) (r + Finsupp.single (m + o) 1)
      (r + Finsupp.single (m + i) 1) = u.get o i := by
  rw [homOf_embedBlock u h, add_comm r, add_comm r,
    ← Finsupp.mapDomain_single (f := (m + ·)) (a := o),
    ← Finsupp.mapDomain_single (f := (m + ·)) (a := i),
    amp_placeHomG (pinj_blockInv m u.n n fun j hj => by omega)
      (fun a b e => Nat.add_left_cancel e) _ _ _ _
      (fun y hy => Finset.mem_singleton.mp (Finsupp.support_single_subset hy) ▸ hi)
      (fun j hj _ => by unfold blockInv; rw [if_neg (hr j hj)]),
    amp_homOf_single _ ho hi]

theorem eq_add_pair {m : ℕ} {r w : ℕ →₀ ℕ} (h0 : r m = 0) (h1 : r (m + 1) = 0)
    (hz : ∀ z, z ≠ m → z ≠ m + 1 → w z = r z) :
    w = r + Finsupp.single m (w m) + Finsupp.single (m + 1) (w (m + 1)) := by
  ext z
  rw [Finsupp.add_apply, Finsupp.add_apply, Finsupp.single_apply, Finsupp.single_apply]
  by_cases c0 : z = m
  · subst c0
    rw [h0, if_pos rfl, if_neg (by omega), zero_add, add_zero]
  · by_cases c1 : z = m + 1
    · subst c1
      rw [h1, if_neg (by omega), if_pos rfl, zero_add, zero_add]
    · rw [hz z c0 c1, if_neg (Ne.symm c0), if_neg (Ne.symm c1), add_zero, add_zero]

theorem single_pair_ne (m : ℕ) (r : ℕ →₀ ℕ) (e : Bool) :
    r + Finsupp.single (m + e.toNat) 1 ≠ r + Finsupp.single (m + (!e).toNat) 1 := by
  intro h
  have := DFunLike.congr_fun h m
  cases e <;> simp at this

section Pair
variable {n m : ℕ} (u : M R) (hu : u.n = 2) (h : m + 2 ≤ n) {r : ℕ →₀ ℕ} (h0 : r m = 0)
  (h1 : r (m + 1) = 0)
include hu h h0 h1

/-- the block links a state with one photon on its pair only to the two such states over the same
rest -/
theorem pair_reach (e : Bool) {w : ℕ →₀ ℕ}
    (hne : amp (homOf (embedBlock n m u).get n) w (r + Finsupp.single (m + e.toNat) 1) ≠ 0 ∨
      amp (homOf (embedBlock n m u).get n) (r + Finsupp.single (m + e.toNat) 1) w ≠ 0) :
    w = r + Finsupp.single (m + e.toNat) 1 ∨ w = r + Finsupp.single (m + (!e).toNat) 1 := by
  have key : (∀ z, z ≠ m → z ≠ m + 1 → w z = (r + Finsupp.single (m + e.toNat) 1 : ℕ →₀ ℕ) z) ∧
      w m + w (m + 1) = (r + Finsupp.single (m + e.toNat) 1 : ℕ →₀ ℕ) m +
        (r + Finsupp.single (m + e.toNat) 1 : ℕ →₀ ℕ) (m + 1) := by
    rcases hne with hne | hne <;> obtain ⟨a, b⟩ := block2_reach u hu h hne
    · exact ⟨a, b⟩
    · exact ⟨fun z z0 z1 => (a z z0 z1).symm, b.symm⟩
  obtain ⟨hz, hp⟩ := key
  have hp1 : w m + w (m + 1) = 1 := by
    rw [hp]
    cases e <;> simp [h0, h1]
  have hw' := eq_add_pair h0 h1 (w := w) fun z z0 z1 => by
    rw [hz z z0 z1]
    cases e <;> simp [z0, z1]
  rw [hw']
  have hc : (w m = 1 ∧ w (m + 1) = 0) ∨ (w m = 0 ∧ w (m + 1) = 1) := by omega
  -- the photon of the pair is on `m` or on `m + 1`, that is on `m + e` or on `m + ¬e`
  rcases hc with ⟨c0, c1⟩ | ⟨c0, c1⟩ <;> rw [c0, c1] <;> cases e <;> simp

theorem pair_amp (o i : Bool) :
    amp (homOf (embedBlock n m u).get n) (r + Finsupp.single (m + o.toNat) 1)
      (r + Finsupp.single (m + i.toNat) 1) = u.get o.toNat i.toNat :=
  amp_block_single u (by rw [hu]; exact h) (fun j hj hb => by
    rw [Finsupp.mem_support_iff] at hj
    rw [hu] at hb
    obtain rfl | rfl : j = m ∨ j = m + 1 := by omega
    · exact hj h0
    · exact hj h1) (by rw [hu]; cases o <;> decide) (by rw [hu]; cases i <;> decide)

/-- the block after `ψ`, to an output with one photon on the pair -/
theorem amp_pair_comp (e : Bool) (ψ : Hom R) (s : ℕ →₀ ℕ) :
    amp ((homOf (embedBlock n m u).get n).comp ψ) (r + Finsupp.single (m + e.toNat) 1) s =
      u.get e.toNat e.toNat * amp ψ (r + Finsupp.single (m + e.toNat) 1) s
        + u.get e.toNat (!e).toNat * amp ψ (r + Finsupp.single (m + (!e).toNat) 1) s := by
  classical
  rw [amp_comp_subset _ _ _ _
      {r + Finsupp.single (m + e.toNat) 1, r + Finsupp.single (m + (!e).toNat) 1},
    Finset.sum_pair (single_pair_ne m r e), pair_amp u hu h h0 h1, pair_amp u hu h h0 h1]
  · ring
  · intro w hw
    by_contra hne
    apply hw
    rw [Finset.mem_insert, Finset.mem_singleton]
    exact pair_reach u hu h h0 h1 e (.inr (right_ne_zero_of_mul hne))

/-- the block before `φ`, from an input with one photon on the pair -/
theorem amp_comp_pair (e : Bool) (φ : Hom R) (w : ℕ →₀ ℕ) :
    amp (φ.comp (homOf (embedBlock n m u).get n)) w (r + Finsupp.single (m + e.toNat) 1) =
      u.get e.toNat e.toNat * amp φ w (r + Finsupp.single (m + e.toNat) 1)
        + u.get (!e).toNat e.toNat * amp φ w (r + Finsupp.single (m + (!e).toNat) 1) := by
  classical
  rw [amp_comp_subset _ _ _ _
      {r + Finsupp.single (m + e.toNat) 1, r + Finsupp.single (m + (!e).toNat) 1},
    Finset.sum_pair (single_pair_ne m r e), pair_amp u hu h h0 h1, pair_amp u hu h h0 h1]
  intro w' hw
  by_contra hne
  apply hw
  rw [Finset.mem_insert, Finset.mem_singleton]
  exact pair_reach u hu h h0 h1 e (.inl (left_ne_zero_of_mul hne))

end Pair

end LW.C12F
