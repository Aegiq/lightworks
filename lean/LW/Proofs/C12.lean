/-
  LW.Proofs.C12 — the decision logic of the model of the qiskit converter (LW.Model.QConvert): the
  swaps of `toAdjacent` as transpositions of qubits, safety of the post-selection analysis in the
  photon-number semantics (`ps_analysis_safe`), and the cases in which `placeInstr`, `placeAll` and
  `convert` succeed.
-/
import Mathlib.Data.List.Basic
import LW.Model.QConvert
import LW.Proofs.ExceptLemmas

namespace LW.QC

theorem adjLoop_spec (fuel : Nat) : ∀ (up lo : Nat), lo < up → up - lo ≤ fuel + 1 →
    (adjLoop fuel up lo).1 = (adjLoop fuel up lo).2 + 1 ∧ lo ≤ (adjLoop fuel up lo).2 ∧
      (adjLoop fuel up lo).1 ≤ up := by
  induction fuel with
  | zero => intro up lo h1 h2; simp only [adjLoop]; omega
  | succ n ih =>
    intro up lo h1 h2
    simp only [adjLoop]
    split_ifs with h3 h4
    · simp only; omega
    · simp only; omega
    · have := ih (up - 1) (lo + 1) (by omega) (by omega)
      omega

theorem applySwap_left (a b : Nat) : applySwap (a, b) a = b := if_pos rfl

theorem applySwap_right (a b : Nat) : applySwap (a, b) b = a := by
  show (if b = a then b else if b = b then a else b) = a
  rw [if_pos (rfl : b = b)]
  split_ifs with h
  · exact h
  · rfl

theorem applySwap_of_ne {a b q : Nat} (h1 : q ≠ a) (h2 : q ≠ b) : applySwap (a, b) q = q := by
  unfold applySwap
  rw [if_neg h1, if_neg h2]

theorem applySwap_self (a q : Nat) : applySwap (a, a) q = q := by
  by_cases h : q = a
  · rw [h, applySwap_left]
  · exact applySwap_of_ne h h

theorem applySwap_invol (p : Nat × Nat) (q : Nat) : applySwap p (applySwap p q) = q := by
  obtain ⟨a, b⟩ := p
  by_cases qa : q = a
  · rw [qa, applySwap_left, applySwap_right]
  by_cases qb : q = b
  · rw [qb, applySwap_right, applySwap_left]
  rw [applySwap_of_ne qa qb, applySwap_of_ne qa qb]

theorem applySwap_comm {a b c d : Nat} (h1 : a ≠ c) (h2 : a ≠ d) (h3 : b ≠ c) (h4 : b ≠ d)
    (q : Nat) :
    applySwap (a, b) (applySwap (c, d) q) = applySwap (c, d) (applySwap (a, b) q) := by
  by_cases qa : q = a
  · rw [qa, applySwap_left, applySwap_of_ne h1 h2, applySwap_left, applySwap_of_ne h3 h4]
  by_cases qb : q = b
  · rw [qb, applySwap_right, applySwap_of_ne h3 h4, applySwap_right, applySwap_of_ne h1 h2]
  rw [applySwap_of_ne qa qb]
  by_cases qc : q = c
  · rw [qc, applySwap_left, applySwap_of_ne (Ne.symm h2) (Ne.symm h4)]
  by_cases qd : q = d
  · rw [qd, applySwap_right, applySwap_of_ne (Ne.symm h1) (Ne.symm h3)]
  rw [applySwap_of_ne qc qd, applySwap_of_ne qa qb]

theorem applySwaps_nil (q : Nat) : applySwaps [] q = q := rfl

theorem applySwaps_cons (p : Nat × Nat) (sw : List (Nat × Nat)) (q : Nat) :
    applySwaps (p :: sw) q = applySwaps sw (applySwap p q) := rfl

theorem applySwaps_of_not_mem (sw : List (Nat × Nat)) (q : Nat)
    (h : ∀ p ∈ sw, q ≠ p.1 ∧ q ≠ p.2) : applySwaps sw q = q := by
  induction sw with
  | nil => rfl
  | cons p sw ih =>
    have hp := h p List.mem_cons_self
    rw [applySwaps_cons, applySwap_of_ne hp.1 hp.2, ih fun p' hp' => h p' (List.mem_cons_of_mem _ hp')]

theorem applySwap_lt {a b n q : Nat} (ha : a < n) (hb : b < n) (hq : q < n) :
    applySwap (a, b) q < n := by
  unfold applySwap
  split_ifs
  · exact hb
  · exact ha
  · exact hq

theorem applySwaps_lt (sw : List (Nat × Nat)) (n : Nat) (h : ∀ p ∈ sw, p.1 < n ∧ p.2 < n) {q : Nat}
    (hq : q < n) : applySwaps sw q < n := by
  induction sw generalizing q with
  | nil => exact hq
  | cons p sw ih =>
    have hp := h p List.mem_cons_self
    rw [applySwaps_cons]
    exact ih (fun p' hp' => h p' (List.mem_cons_of_mem _ hp')) (applySwap_lt hp.1 hp.2 hq)

/-- the swap list for bringing `lo < hi` to the adjacent pair `(l, l+1)` -/
def swapsFor (lo hi l : Nat) : List (Nat × Nat) :=
  (if lo ≠ l then [(lo, l)] else []) ++ (if hi ≠ l + 1 then [(hi, l + 1)] else [])

theorem mem_swapsFor {lo hi l : Nat} {p : Nat × Nat} :
    p ∈ swapsFor lo hi l ↔ (lo ≠ l ∧ p = (lo, l)) ∨ (hi ≠ l + 1 ∧ p = (hi, l + 1)) := by
  unfold swapsFor
  rw [List.mem_append]
  apply or_congr <;> split_ifs with h <;> simp [h]

theorem applySwaps_swapsFor (lo hi l q : Nat) :
    applySwaps (swapsFor lo hi l) q = applySwap (hi, l + 1) (applySwap (lo, l) q) := by
  unfold swapsFor
  by_cases ha : lo = l <;> by_cases hb : hi = l + 1
  · rw [ha, hb, applySwap_self, applySwap_self]
    simp [applySwaps]
  · rw [ha, applySwap_self]
    simp [applySwaps, hb]
  · rw [hb, applySwap_self]
    simp [applySwaps, ha]
  · simp [applySwaps, ha, hb]

theorem applySwaps_swapsFor_lo (lo hi l : Nat) (h2 : l + 1 ≤ hi) :
    applySwaps (swapsFor lo hi l) lo = l := by
  rw [applySwaps_swapsFor, applySwap_left, applySwap_of_ne (by omega) (by omega)]

theorem applySwaps_swapsFor_hi (lo hi l : Nat) (h1 : lo ≤ l) (h2 : l + 1 ≤ hi) :
    applySwaps (swapsFor lo hi l) hi = l + 1 := by
  rw [applySwaps_swapsFor, applySwap_of_ne (a := lo) (b := l) (by omega) (by omega), applySwap_left]

theorem applySwaps_swapsFor_invol (lo hi l : Nat) (h1 : lo ≤ l) (h2 : l + 1 ≤ hi) (q : Nat) :
    applySwaps (swapsFor lo hi l) (applySwaps (swapsFor lo hi l) q) = q := by
  rw [applySwaps_swapsFor, applySwaps_swapsFor,
    applySwap_comm (a := hi) (b := l + 1) (c := lo) (d := l) (by omega) (by omega) (by omega)
      (by omega),
    applySwap_invol, applySwap_invol]

theorem applySwaps_swapsFor_l (lo hi l : Nat) (h1 : lo ≤ l) (h2 : l + 1 ≤ hi) :
    applySwaps (swapsFor lo hi l) l = lo := by
  have := applySwaps_swapsFor_invol lo hi l h1 h2 lo
  rwa [applySwaps_swapsFor_lo lo hi l h2] at this

theorem applySwaps_swapsFor_succ (lo hi l : Nat) (h1 : lo ≤ l) (h2 : l + 1 ≤ hi) :
    applySwaps (swapsFor lo hi l) (l + 1) = hi := by
  have := applySwaps_swapsFor_invol lo hi l h1 h2 hi
  rwa [applySwaps_swapsFor_hi lo hi l h1 h2] at this

theorem applySwaps_swapsFor_of_gt {lo hi l q : Nat} (h1 : lo ≤ l) (h2 : l + 1 ≤ hi) (hq : hi < q) :
    applySwaps (swapsFor lo hi l) q = q := by
  rw [applySwaps_swapsFor, applySwap_of_ne (a := lo) (b := l) (by omega) (by omega),
    applySwap_of_ne (by omega) (by omega)]

theorem toAdjacent_lt (a b : Nat) (h : a < b) :
    ∃ l, a ≤ l ∧ l + 1 ≤ b ∧ toAdjacent a b = (l, l + 1, swapsFor a b l) ∧
      toAdjacent b a = (l + 1, l, swapsFor a b l) := by
  have hmin : min a b = a := by omega
  have hmax : max a b = b := by omega
  have hmin' : min b a = a := by omega
  have hmax' : max b a = b := by omega
  unfold toAdjacent
  simp only [hmin, hmax, hmin', hmax', h, if_true, Nat.lt_asymm h, if_false]
  by_cases hadj : b - a = 1
  · refine ⟨a, by omega, by omega, ?_⟩
    have hb : b = a + 1 := by omega
    subst hb
    simp [swapsFor]
  · simp only [hadj, if_false]
    obtain ⟨e1, e2, e3⟩ := adjLoop_spec (b - a) b a h (by omega)
    generalize adjLoop (b - a) b a = r at e1 e2 e3
    obtain ⟨u, l⟩ := r
    simp only at e1 e2 e3
    subst e1
    exact ⟨l, e2, e3, rfl, rfl⟩

theorem toAdjacent_minmax (a b : Nat) (hab : a ≠ b) :
    ∃ l, min a b ≤ l ∧ l + 1 ≤ max a b ∧
      (toAdjacent a b).2.2 = swapsFor (min a b) (max a b) l ∧
      (toAdjacent a b).2.1 - min (toAdjacent a b).1 (toAdjacent a b).2.1 = (if a < b then 1 else 0) ∧
      min (toAdjacent a b).1 (toAdjacent a b).2.1 = l := by
  rcases Nat.lt_or_gt_of_ne hab with hlt | hgt
  · obtain ⟨l, h1, h2, e, -⟩ := toAdjacent_lt a b hlt
    rw [e, if_pos hlt, show min a b = a by omega, show max a b = b by omega]
    exact ⟨l, h1, h2, rfl, by show l + 1 - min l (l + 1) = 1; omega, by show min l (l + 1) = l; omega⟩
  · obtain ⟨l, h1, h2, -, e⟩ := toAdjacent_lt b a hgt
    rw [e, if_neg (by omega), show min a b = b by omega, show max a b = a by omega]
    exact ⟨l, h1, h2, rfl, by show l - min (l + 1) l = 0; omega, by show min (l + 1) l = l; omega⟩

theorem psAnalyze_has_cons (fixed : Bool) (g : Instr) (rest : List Instr) :
    (psAnalyze fixed (g :: rest)).2 =
      if g.qubits.length ≥ 2 then (psAnalyze fixed rest).2 ++ g.qubits else (psAnalyze fixed rest).2 := by
  simp only [psAnalyze]; split_ifs <;> rfl

theorem psAnalyze_flags_cons (fixed : Bool) (g : Instr) (rest : List Instr) :
    (psAnalyze fixed (g :: rest)).1 =
      (if g.qubits.length ≥ 2 then
        (if fixed then decide ((g.qubits.filter fun q => (psAnalyze fixed rest).2.contains q).length ≤ 1)
          else !(g.qubits.all fun q => (psAnalyze fixed rest).2.contains q))
       else false) :: (psAnalyze fixed rest).1 := by
  simp only [psAnalyze]; split_ifs <;> rfl

theorem psAnalyze_flags_length (fixed : Bool) (gs : List Instr) :
    (psAnalyze fixed gs).1.length = gs.length := by
  induction gs with
  | nil => rfl
  | cons g rest ih => rw [psAnalyze_flags_cons]; simp [ih]

theorem stepRel_single {g : Instr} (h : g.qubits.length = 1) (f : Bool) (c c' : Config) :
    stepRel g f c c' ↔ c' = c := by
  unfold stepRel
  rw [if_pos h]

theorem stepRel_swap {g : Instr} (h : g.qubits.length ≠ 1) (hn : g.name = "swap") (f : Bool)
    (c c' : Config) :
    stepRel g f c c' ↔
      ∃ a b, g.qubits = [a, b] ∧ c' a = c b ∧ c' b = c a ∧ ∀ q, q ≠ a → q ≠ b → c' q = c q := by
  unfold stepRel
  rw [if_neg h, if_pos hn]

theorem stepRel_multi {g : Instr} (h : g.qubits.length ≠ 1) (hn : g.name ≠ "swap") (f : Bool)
    (c c' : Config) :
    stepRel g f c c' ↔ redistributes g.qubits c c' ∧
      (f = false → (∀ q ∈ g.qubits, c q = 1) → ∀ q ∈ g.qubits, c' q = 1) := by
  unfold stepRel
  rw [if_neg h, if_neg hn]

theorem stepRel_frame {g : Instr} {f : Bool} {c c' : Config} (h : stepRel g f c c') {q : Nat}
    (hq : q ∉ g.qubits) : c' q = c q := by
  by_cases hone : g.qubits.length = 1
  · rw [(stepRel_single hone f c c').mp h]
  by_cases hsw : g.name = "swap"
  · obtain ⟨a, b, hab, -, -, hothers⟩ := (stepRel_swap hone hsw f c c').mp h
    rw [hab, List.mem_cons, List.mem_singleton, not_or] at hq
    exact hothers q hq.1 hq.2
  · exact ((stepRel_multi hone hsw f c c').mp h).1.1 q hq

theorem stepRel_allOne {nq : Nat} {g : Instr} {f : Bool} {c c' : Config}
    (hwf : ∀ q ∈ g.qubits, q < nq) (h0 : AllOne nq c) (hstep : stepRel g f c c')
    (hown : g.qubits.length ≠ 1 → g.name ≠ "swap" → ∀ q ∈ g.qubits, c' q = 1) : AllOne nq c' := by
  intro q hq
  by_cases hmem : q ∈ g.qubits
  · by_cases hone : g.qubits.length = 1
    · rw [(stepRel_single hone f c c').mp hstep]
      exact h0 q hq
    by_cases hsw : g.name = "swap"
    · obtain ⟨a, b, hab, ha, hb, -⟩ := (stepRel_swap hone hsw f c c').mp hstep
      have hwa : a < nq := hwf a (by rw [hab]; exact List.mem_cons_self)
      have hwb : b < nq := hwf b (by rw [hab]; exact List.mem_cons_of_mem _ List.mem_cons_self)
      rw [hab, List.mem_cons, List.mem_singleton] at hmem
      rcases hmem with h | h
      · rw [h, ha]
        exact h0 b hwb
      · rw [h, hb]
        exact h0 a hwa
    · exact hown hone hsw q hmem
  · rw [stepRel_frame hstep hmem]
    exact h0 q hq

theorem finalOf_cons (c0 c1 : Config) (tr : List Config) : finalOf c0 (c1 :: tr) = finalOf c1 tr := by
  unfold finalOf
  induction tr generalizing c1 with
  | nil => simp [List.getLastD]
  | cons x xs _ =>
    simp only [List.getLastD_eq_getLast?, List.getLast?_cons_cons]
    cases h : (x :: xs).getLast? with
    | none => simp at h
    | some v => rfl

theorem run_untouched (fixed : Bool) : ∀ (gs : List Instr) (fs : List Bool) (c : Config) (tr : List Config),
    Run gs fs c tr → ∀ q, q ∉ (psAnalyze fixed gs).2 → ∀ c' ∈ tr, c' q = c q := by
  intro gs
  induction gs with
  | nil => intro fs c tr hr q _ c' hc'; cases hr; simp at hc'
  | cons g rest ih =>
    intro fs c tr hr q hq c' hc'
    cases hr with
    | cons _ f _ fs' _ c1 tr' hstep hrest =>
      rw [psAnalyze_has_cons] at hq
      have hq_rest : q ∉ (psAnalyze fixed rest).2 := by
        split_ifs at hq with h2
        · simp only [List.mem_append, not_or] at hq; exact hq.1
        · exact hq
      have hc1 : c1 q = c q := by
        by_cases h1 : g.qubits.length = 1
        · rw [(stepRel_single h1 f c c1).mp hstep]
        refine stepRel_frame hstep fun hqg => ?_
        have h2 : g.qubits.length ≥ 2 := by
          have := List.length_pos_of_mem hqg
          omega
        rw [if_pos h2, List.mem_append, not_or] at hq
        exact hq.2 hqg
      rcases List.mem_cons.mp hc' with rfl | hmem
      · exact hc1
      · rw [ih fs' c1 tr' hrest q hq_rest c' hmem, hc1]

theorem sum_map_eq_length (f : Nat → Nat) : ∀ (l : List Nat), (∀ q ∈ l, f q = 1) →
    (l.map f).sum = l.length
  | [], _ => rfl
  | x :: xs, h => by
    rw [List.map_cons, List.sum_cons, List.length_cons, h x List.mem_cons_self,
      sum_map_eq_length f xs fun q hq => h q (List.mem_cons_of_mem _ hq), Nat.add_comm]

/-- counting lemma behind the repaired rule: values that sum to the length, all equal to 1
except on at most one position, are all equal to 1 -/
theorem all_one_of_sum (p : Nat → Bool) (f : Nat → Nat) : ∀ (l : List Nat),
    (∀ q ∈ l, p q = false → f q = 1) → (l.filter p).length ≤ 1 → (l.map f).sum = l.length →
    ∀ q ∈ l, f q = 1 := by
  intro l
  induction l with
  | nil => intro _ _ _ q hq; simp at hq
  | cons x xs ih =>
    intro h1 h2 h3 q hq
    simp only [List.map_cons, List.sum_cons, List.length_cons] at h3
    by_cases hp : p x = true
    · have hf : (xs.filter p).length = 0 := by
        simp only [List.filter_cons, hp, if_true, List.length_cons] at h2; omega
      have hnone : ∀ y ∈ xs, p y = false := by
        intro y hy
        by_contra hc
        have : y ∈ xs.filter p := List.mem_filter.mpr ⟨hy, by simpa using hc⟩
        rw [List.length_eq_zero_iff.mp hf] at this; simp at this
      have hxs : ∀ y ∈ xs, f y = 1 := fun y hy => h1 y (List.mem_cons_of_mem _ hy) (hnone y hy)
      have hsum := sum_map_eq_length f xs hxs
      rcases List.mem_cons.mp hq with rfl | hmem
      · omega
      · exact hxs q hmem
    · have hp' : p x = false := by simpa using hp
      have hx : f x = 1 := h1 x (by simp) hp'
      have h2' : (xs.filter p).length ≤ 1 := by
        simpa only [List.filter_cons, hp', Bool.false_eq_true, if_false] using h2
      rcases List.mem_cons.mp hq with rfl | hmem
      · exact hx
      · exact ih (fun y hy => h1 y (List.mem_cons_of_mem _ hy)) h2' (by omega) q hmem

/-- the rules `rules` (one photon on each listed qubit at the end) force every intermediate
configuration of a run from one photon per qubit to have one photon per qubit -/
def Safe (nq : Nat) (gs : List Instr) (fs : List Bool) (rules : List Nat) : Prop :=
  ∀ c0 tr, AllOne nq c0 → Run gs fs c0 tr → (∀ q ∈ rules, finalOf c0 tr q = 1) →
    ∀ cf ∈ tr, AllOne nq cf

theorem Safe.tail {nq : Nat} {g : Instr} {f : Bool} {gs : List Instr} {fs : List Bool}
    {rules : List Nat} (hidle : ∀ cf, AllOne nq cf → stepRel g f cf cf)
    (h : Safe nq (g :: gs) (f :: fs) rules) : Safe nq gs fs rules := by
  intro c0 tr h0 hrun hfin cf hcf
  have hrun' : Run (g :: gs) (f :: fs) c0 (c0 :: tr) := Run.cons g f gs fs c0 c0 tr (hidle c0 h0) hrun
  exact h c0 (c0 :: tr) h0 hrun' (by
    intro q hq
    rw [finalOf_cons]
    exact hfin q hq) cf (List.mem_cons_of_mem _ hcf)

/-- the flags post-select only gates with at most one qubit touched by a later multi-qubit gate,
and every qubit of such a gate carries a rule -/
def FlagsOk (rules : List Nat) : List Instr → List Bool → Prop
  | g :: gs, f :: fs =>
    (f = true → (g.qubits.filter fun q => (psAnalyze true gs).2.contains q).length ≤ 1 ∧
      ∀ q ∈ g.qubits, q ∈ rules) ∧ FlagsOk rules gs fs
  | _, _ => True

theorem flagsOk_false (rules : List Nat) : ∀ (gs : List Instr) (fs : List Bool),
    (∀ f ∈ fs, f = false) → FlagsOk rules gs fs
  | [], _, _ => trivial
  | _ :: _, [], _ => trivial
  | _ :: gs, f :: fs, h =>
    ⟨fun hf => absurd (h f List.mem_cons_self) (by rw [hf]; decide),
      flagsOk_false rules gs fs fun f' hf' => h f' (List.mem_cons_of_mem _ hf')⟩

theorem flagsOk_psAnalyze : ∀ (gs : List Instr) (rules : List Nat),
    (∀ q ∈ (psAnalyze true gs).2, q ∈ rules) → FlagsOk rules gs (psAnalyze true gs).1
  | [], _, _ => trivial
  | g :: gs, rules, h => by
    rw [psAnalyze_flags_cons, if_pos rfl]
    rw [psAnalyze_has_cons] at h
    refine ⟨fun hf => ?_, flagsOk_psAnalyze gs rules fun q hq => h q ?_⟩
    · split_ifs at hf h with h2
      exact ⟨of_decide_eq_true hf, fun q hq => h q (List.mem_append_right _ hq)⟩
    · split_ifs
      · exact List.mem_append_left _ hq
      · exact hq

/-- **Safety of post-selection, for any flags and rules** (`FlagsOk`).  A post-selected gate
conserves the photons on its qubits; all but at most one of them are untouched by later multi-qubit
gates and so keep their count to the end, where the rules read 1; the count of the remaining
one follows from the sum (`all_one_of_sum`).  A heralded gate maps all-ones to all-ones. -/
theorem safe_of_flagsOk (nq : Nat) (rules : List Nat) : ∀ (gs : List Instr) (fs : List Bool),
    (∀ g ∈ gs, ∀ q ∈ g.qubits, q < nq) → FlagsOk rules gs fs → Safe nq gs fs rules := by
  intro gs
  induction gs with
  | nil =>
    intro fs _ _ c0 tr _ hrun _ cf hcf
    cases hrun
    cases hcf
  | cons g rest ih =>
    intro fs hwf hok c0 tr h0 hrun hfin cf hcf
    cases hrun with
    | cons _ f _ fs' _ c1 tr' hstep hrest =>
      have hwg := hwf g List.mem_cons_self
      have hfin' : ∀ q ∈ rules, finalOf c1 tr' q = 1 := fun q hq => by
        have := hfin q hq
        rwa [finalOf_cons] at this
      have h1 : AllOne nq c1 := by
        apply stepRel_allOne hwg h0 hstep
        intro hone hsw
        obtain ⟨⟨-, hsum⟩, hher⟩ := (stepRel_multi hone hsw f c0 c1).mp hstep
        cases f with
        | false => exact hher rfl fun q hq => h0 q (hwg q hq)
        | true =>
          obtain ⟨hcnt, hr⟩ := hok.1 rfl
          apply all_one_of_sum (fun q => (psAnalyze true rest).2.contains q) c1 g.qubits _ hcnt
          · rw [← hsum]
            exact sum_map_eq_length c0 g.qubits fun q hq => h0 q (hwg q hq)
          · intro q hq hnot
            have hq_not : q ∉ (psAnalyze true rest).2 := by simpa using hnot
            have hfinq : finalOf c1 tr' q = 1 := hfin' q (hr q hq)
            cases tr' with
            | nil => simpa [finalOf] using hfinq
            | cons x xs =>
              have hmem : finalOf c1 (x :: xs) ∈ (x :: xs) := by
                simp only [finalOf, List.getLastD_cons]
                exact List.getLastD_mem_cons
              rw [← run_untouched true rest _ c1 (x :: xs) hrest q hq_not _ hmem]
              exact hfinq
      rcases List.mem_cons.mp hcf with rfl | hcf'
      · exact h1
      · exact ih fs' (fun g' hg' => hwf g' (List.mem_cons_of_mem _ hg')) hok.2 c1 tr' h1 hrest
          hfin' cf hcf'

theorem safe_heralded (nq : Nat) (gs : List Instr) (fs : List Bool)
    (hwf : ∀ g ∈ gs, ∀ q ∈ g.qubits, q < nq) (hf : ∀ f ∈ fs, f = false) : Safe nq gs fs [] :=
  safe_of_flagsOk nq [] gs fs hwf (flagsOk_false [] gs fs hf)

theorem safe_psAnalyze (nq : Nat) (gs : List Instr) (hwf : ∀ g ∈ gs, ∀ q ∈ g.qubits, q < nq) :
    Safe nq gs (psAnalyze true gs).1 (psAnalyze true gs).2 :=
  safe_of_flagsOk nq _ gs _ hwf (flagsOk_psAnalyze gs _ fun _ h => h)

/-- **Safety of the (repaired) post-selection analysis.**  Run the instruction list with the
analyser's flags from one photon per qubit.  If at the end every qubit that carries a
post-selection rule holds one photon, then after *every* instruction every qubit held exactly
one photon — so each gate, post-selected or heralded, acted on a dual-rail encoded input and was
followed by a dual-rail encoded output, which is the hypothesis under which C13's tables apply. -/
theorem ps_analysis_safe (nq : Nat) : ∀ (gs : List Instr) (c0 : Config) (tr : List Config),
    (∀ g ∈ gs, ∀ q ∈ g.qubits, q < nq) → AllOne nq c0 →
    Run gs (psAnalyze true gs).1 c0 tr →
    (∀ q ∈ (psAnalyze true gs).2, finalOf c0 tr q = 1) →
    ∀ c ∈ tr, AllOne nq c :=
  fun gs c0 tr hwf h0 hrun hfin => safe_psAnalyze nq gs hwf c0 tr h0 hrun hfin

theorem placeInstr_cases (idx : Nat) (g : Instr) (f : Bool) (plan : List Placed)
    (h : placeInstr idx g f = .ok plan) :
    allowed.contains g.name = true ∧
    ((∃ q, g.qubits = [q] ∧ plan = [.single g.name idx (2 * q)]) ∨
    (∃ a b, g.qubits = [a, b] ∧ g.name = "swap" ∧ plan = [.swap a b]) ∨
    (∃ a b, g.qubits = [a, b] ∧ g.name ≠ "swap" ∧
      plan = (toAdjacent a b).2.2.map (fun p => Placed.swap p.1 p.2) ++
        [.two (g.name = "cx") f
          (if g.name = "cx" then (toAdjacent a b).2.1 - min (toAdjacent a b).1 (toAdjacent a b).2.1
            else 0)
          (2 * min (toAdjacent a b).1 (toAdjacent a b).2.1)] ++
        (toAdjacent a b).2.2.map (fun p => Placed.swap p.1 p.2)) ∨
    (∃ a b t, g.qubits = [a, b, t] ∧ f = true ∧
      max a (max b t) - min a (min b t) = 2 ∧ (g.name = "ccx" ∨ g.name = "ccz") ∧
      plan = [.three (g.name = "ccx") (if g.name = "ccx" then t - min a (min b t) else 0)
        (2 * min a (min b t))])) := by
  obtain ⟨ha, h⟩ := Except.ite_error_eq_ok.mp h
  refine ⟨not_not.mp ha, ?_⟩
  split at h
  · next q hq =>
    obtain ⟨-, h⟩ := Except.ite_else_error_eq_ok.mp h
    exact .inl ⟨q, hq, (Except.ok.inj h).symm⟩
  · next a b hq =>
    by_cases hs : g.name = "swap"
    · exact .inr (.inl ⟨a, b, hq, hs, (Except.ok.inj ((if_pos hs).symm.trans h)).symm⟩)
    · obtain ⟨-, h⟩ := Except.ite_else_error_eq_ok.mp ((if_neg hs).symm.trans h)
      exact .inr (.inr (.inl ⟨a, b, hq, hs, (Except.ok.inj h).symm⟩))
  · next a b t hq =>
    simp only [placeThree, Except.ite_else_error_eq_ok, Except.ite_error_eq_ok, Bool.not_eq_true',
      Bool.not_eq_false, Decidable.not_not, Except.ok.injEq] at h
    obtain ⟨h1, hf, h3, rfl⟩ := h
    exact .inr (.inr (.inr ⟨a, b, t, hq, hf, h3, h1, rfl⟩))
  · cases h

theorem placeAll_cons_ok {idx : Nat} {g : Instr} {rest : List Instr} {flags : List Bool}
    {plan : List Placed} (h : placeAll idx (g :: rest) flags = .ok plan) :
    ∃ here later, placeInstr idx g (flags.headD false) = .ok here ∧
      placeAll (idx + 1) rest flags.tail = .ok later ∧ plan = here ++ later := by
  simp only [placeAll, Except.bind_ok, Except.pure_ok] at h
  obtain ⟨here, h1, later, h2, rfl⟩ := h
  exact ⟨here, later, h1, h2, rfl⟩

theorem placeAll_ok_each : ∀ (gs : List Instr) (idx : Nat) (flags : List Bool) (plan : List Placed),
    placeAll idx gs flags = .ok plan →
    ∀ k g, gs[k]? = some g → ∃ pl, placeInstr (idx + k) g (flags.getD k false) = .ok pl := by
  intro gs
  induction gs with
  | nil => intro idx flags plan _ k g hk; simp at hk
  | cons g0 rest ih =>
    intro idx flags plan h k g hk
    obtain ⟨here, later, h1, h2, -⟩ := placeAll_cons_ok h
    cases k with
    | zero =>
      simp only [List.getElem?_cons_zero, Option.some.injEq] at hk
      subst hk
      refine ⟨here, ?_⟩
      have : flags.getD 0 false = flags.headD false := by cases flags <;> rfl
      rw [Nat.add_zero, this]; exact h1
    | succ k =>
      simp only [List.getElem?_cons_succ] at hk
      obtain ⟨pl, hpl⟩ := ih (idx + 1) flags.tail later h2 k g hk
      refine ⟨pl, ?_⟩
      have e1 : flags.getD (k + 1) false = flags.tail.getD k false := by cases flags <;> simp
      have e2 : idx + (k + 1) = idx + 1 + k := by omega
      rw [e1, e2]; exact hpl

theorem convert_ok (aps fixed : Bool) (nq : Nat) (gs : List Instr) (o : ConvOut)
    (h : convert aps fixed nq gs = .ok o) :
    o.flags = (if aps then (psAnalyze fixed gs).1 else gs.map fun _ => false) ∧
      placeAll 0 gs o.flags = .ok o.plan ∧
      o.psQubits = if aps = true ∧ ¬ (dedupSorted (psAnalyze fixed gs).2).isEmpty = true then
        some (dedupSorted (psAnalyze fixed gs).2) else none := by
  simp only [convert, Except.bind_ok, Except.pure_ok] at h
  obtain ⟨plan, h1, circ, -, rfl⟩ := h
  exact ⟨rfl, h1, rfl⟩

end LW.QC
