/-
  C07BitLaw — independent bits and the exact detector kernel.

  Feeding the detector (in closed form) a tape of independent bits — `true` = "photon kept" with
  probability `η` in the efficiency stage, `true` = "dark count" with probability `p_dark` in the
  dark-count stage — the expectation of any observable `F` of the detected state is the mixture
  `mix (detectorKernel d s) F` (`bitLaw_outB`): both sides peel off one mode at a time and agree on one
  mode by the binomial law of the kept photons.
-/
import Mathlib.Algebra.BigOperators.Group.Finset.Basic
import Mathlib.Algebra.BigOperators.Group.Finset.Piecewise
import Mathlib.Data.Bool.Count
import Mathlib.Algebra.Order.BigOperators.Group.Finset
import LW.Proofs.C07Detector
import LW.Proofs.RangeSum

namespace LW.Proofs.C07

open LW.Src LW.Proofs.C06

section bitLaw
variable {K : Type} [Field K]

def wt (w : K) (c : Bool) : K := if c then w else 1 - w

def bern (w : K) : List (Bool × K) := [(true, wt w true), (false, wt w false)]

/-- the law of independent bits, the `i`-th being true with probability `ws[i]` -/
def bitLaw (ws : List K) : List (List Bool × K) := prodK (ws.map bern)

theorem mix_bitLaw_nil (G : List Bool → K) : mix (bitLaw ([] : List K)) G = G [] := mix_prodK_nil G

theorem mix_bitLaw_cons (w : K) (ws : List K) (G : List Bool → K) :
    mix (bitLaw (w :: ws)) G =
      w * mix (bitLaw ws) (fun b => G (true :: b)) +
        (1 - w) * mix (bitLaw ws) (fun b => G (false :: b)) := by
  unfold bitLaw
  rw [List.map_cons, mix_prodK_cons]
  simp [bern, wt]

theorem mix_bitLaw_const (ws : List K) (c : K) : mix (bitLaw ws) (fun _ => c) = c := by
  unfold bitLaw
  rw [mix_const, mix_prodK_one, one_mul]
  intro k hk
  obtain ⟨w, _, rfl⟩ := List.mem_map.mp hk
  simp [bern, wt]

theorem mix_bitLaw_congr (ws : List K) (G G' : List Bool → K)
    (h : ∀ b, b.length = ws.length → G b = G' b) : mix (bitLaw ws) G = mix (bitLaw ws) G' :=
  mix_congr _ _ _ fun x hx => h _ (by rw [mem_prodK_length _ x hx, List.length_map])

theorem mix_bitLaw_append (ws1 ws2 : List K) (G : List Bool → K) :
    mix (bitLaw (ws1 ++ ws2)) G =
      mix (bitLaw ws1) (fun b1 => mix (bitLaw ws2) (fun b2 => G (b1 ++ b2))) := by
  unfold bitLaw
  rw [List.map_append, mix_prodK_append]

theorem mix_bitLaw_replicate_one (m : ℕ) (G : List Bool → K) :
    mix (bitLaw (List.replicate m (1 : K))) G = G (List.replicate m true) := by
  induction m generalizing G with
  | zero => exact mix_bitLaw_nil G
  | succ m ih => simp only [List.replicate_succ, mix_bitLaw_cons, ih]; ring

theorem mix_bitLaw_replicate_zero (m : ℕ) (G : List Bool → K) :
    mix (bitLaw (List.replicate m (0 : K))) G = G (List.replicate m false) := by
  induction m generalizing G with
  | zero => exact mix_bitLaw_nil G
  | succ m ih => simp only [List.replicate_succ, mix_bitLaw_cons, ih]; ring

theorem map_mix_bitLaw {L : Type} [Field L] (φ : K →+* L) (ws : List K) (G : List Bool → K) :
    φ (mix (bitLaw ws) G) = mix (bitLaw (ws.map φ)) (fun b => φ (G b)) := by
  induction ws generalizing G with
  | nil => simp only [List.map_nil, mix_bitLaw_nil]
  | cons w ws ih =>
    simp only [mix_bitLaw_cons, List.map_cons, map_add, map_mul, map_sub, map_one, ih]

end bitLaw

def ind {K : Type} [Field K] (P : Prop) [Decidable P] : K := if P then 1 else 0

theorem binomW_succ_succ (η : ℚ) (n j : ℕ) :
    (Nat.choose (n + 1) (j + 1) : ℚ) * η ^ (j + 1) * (1 - η) ^ (n + 1 - (j + 1)) =
      η * ((Nat.choose n j : ℚ) * η ^ j * (1 - η) ^ (n - j)) +
        (1 - η) * ((Nat.choose n (j + 1) : ℚ) * η ^ (j + 1) * (1 - η) ^ (n - (j + 1))) := by
  rw [Nat.choose_succ_succ', Nat.add_sub_add_right, Nat.cast_add]
  by_cases hj : j + 1 ≤ n
  · rw [show n - j = (n - (j + 1)) + 1 by omega]
    ring
  · rw [Nat.choose_eq_zero_of_lt (show n < j + 1 by omega), Nat.cast_zero]
    ring

theorem bitLaw_count_eq (η : ℚ) (n j : ℕ) :
    mix (bitLaw (List.replicate n η)) (fun b => ind (b.count true = j)) =
      (Nat.choose n j : ℚ) * η ^ j * (1 - η) ^ (n - j) := by
  induction n generalizing j with
  | zero => cases j <;> simp [mix_bitLaw_nil, ind]
  | succ n ih =>
    simp only [List.replicate_succ, mix_bitLaw_cons, List.count_cons_self, List.count_cons_of_ne
      (show (false : Bool) ≠ true by decide)]
    cases j with
    | zero =>
      rw [mix_bitLaw_congr _ _ (fun _ => (0 : ℚ)) (fun b _ => by simp [ind]), mix_bitLaw_const _ 0, ih 0,
        Nat.choose_zero_right, Nat.choose_zero_right, Nat.sub_zero, Nat.sub_zero, pow_succ]
      ring
    | succ j =>
      rw [mix_bitLaw_congr _ (fun b => ind (b.count true + 1 = j + 1)) (fun b => ind (b.count true = j))
        (fun b _ => by simp [ind]), ih j, ih (j + 1), binomW_succ_succ]

theorem bitLaw_binom (η : ℚ) (n : ℕ) (g : ℕ → ℚ) :
    mix (bitLaw (List.replicate n η)) (fun b => g (b.count true)) =
      ((List.range (n + 1)).map fun j =>
        (binom n j : ℚ) * η ^ j * (1 - η) ^ (n - j) * g j).sum := by
  have h : ∀ b : List Bool, b.length = (List.replicate n η).length →
      g (b.count true) = ((List.range (n + 1)).map fun j => ind (b.count true = j) * g j).sum := by
    intro b hb
    rw [List.length_replicate] at hb
    have hle : b.count true < n + 1 := by
      have := List.count_le_length (a := true) (l := b); omega
    rw [list_range_sum]
    simp only [ind, ite_mul, one_mul, zero_mul, Finset.sum_ite_eq, Finset.mem_range, hle, if_true]
  rw [mix_bitLaw_congr _ _ _ h, mix_list_sum]
  congr 1
  apply List.map_congr_left
  intro j _
  rw [mix_mul_right, bitLaw_count_eq, binom_eq_choose]

def keptB (s : FState) (b : List Bool) : FState := keptList (fun c : Bool => c = false) s b

def darkB (o : FState) (b : List Bool) : FState := darkList (fun c : Bool => c = true) o b

theorem keptB_length (s : FState) (b : List Bool) : (keptB s b).length = s.length :=
  keptList_length _ s b

theorem count_true_eq (b : List Bool) :
    b.count true = b.length - b.countP (fun c => decide (c = false)) := by
  have h := List.count_true_add_count_false b
  have e : b.count false = b.countP (fun c => decide (c = false)) :=
    List.countP_congr fun c _ => by simp
  omega

theorem keptB_append (n : Nat) (s : FState) (b b' : List Bool) (hb : b.length = n) :
    keptB (n :: s) (b ++ b') = b.count true :: keptB s b' := by
  rw [keptB, keptList, List.take_left' hb, List.drop_left' hb, count_true_eq, hb]
  rfl

theorem keptB_replicate_true (s : FState) : keptB s (List.replicate s.sum true) = s := by
  induction s with
  | nil => rfl
  | cons n s ih =>
    rw [List.sum_cons, List.replicate_add, keptB_append n s _ _ List.length_replicate, ih,
      List.count_replicate_self]

theorem darkB_replicate_false (o : FState) : darkB o (List.replicate o.length false) = o := by
  induction o with
  | nil => rfl
  | cons j o ih =>
    unfold darkB at ih ⊢
    simp only [List.length_cons, List.replicate_succ, darkList, Bool.false_eq_true, if_false, ih]

/-- expectation of an observable `F` of the detected state when both stages run on independent
bits: "kept" with probability `η` (one per photon), "dark" with probability `p_dark` (one per
mode) -/
def detExp (d : Det) (s : FState) (F : FState → ℚ) : ℚ :=
  mix (bitLaw (List.replicate s.sum d.eta)) fun b1 =>
    mix (bitLaw (List.replicate s.length d.pDark)) fun b2 => F (stage3 d (darkB (keptB s b1) b2))

theorem detExp_nil (d : Det) (F : FState → ℚ) : detExp d [] F = F [] := by
  simp [detExp, mix_bitLaw_nil, keptB, keptList, darkB, darkList, stage3_nil]

theorem detExp_cons (d : Det) (n : Nat) (s : FState) (F : FState → ℚ) :
    detExp d (n :: s) F =
      mix (bitLaw (List.replicate n d.eta)) fun b =>
        d.pDark * detExp d s (fun t => F (thr d (b.count true + 1) :: t)) +
          (1 - d.pDark) * detExp d s (fun t => F (thr d (b.count true) :: t)) := by
  unfold detExp
  rw [List.sum_cons, List.replicate_add, mix_bitLaw_append]
  apply mix_bitLaw_congr
  intro b hb
  rw [List.length_replicate] at hb
  rw [← mix_mul_left, ← mix_mul_left, ← mix_add]
  apply mix_bitLaw_congr
  intro b1 _
  rw [keptB_append n s b b1 hb, List.length_cons, List.replicate_succ]
  simp only [mix_bitLaw_cons, darkB, darkList, if_true, Bool.false_eq_true, if_false, stage3_cons]

theorem detExp_eq_mix (d : Det) (s : FState) (F : FState → ℚ) :
    detExp d s F = mix (detectorKernel d s) F := by
  induction s generalizing F with
  | nil => simp [detExp_nil, detectorKernel]
  | cons n s ih =>
    rw [detExp_cons, detectorKernel_eq_prodK, List.map_cons, mix_prodK_cons, ← detectorKernel_eq_prodK,
      mix_modeKernel]
    simp only [ih]
    rw [bitLaw_binom d.eta n fun c =>
      d.pDark * mix (detectorKernel d s) (fun t => F (thr d (c + 1) :: t)) +
        (1 - d.pDark) * mix (detectorKernel d s) (fun t => F (thr d c :: t))]
    congr 1
    apply List.map_congr_left
    intro j _
    ring

/-- the detector on a bit tape, in closed form: `b1` are the "kept" bits of the efficiency stage,
`b2` the "dark" bits of the dark-count stage; a stage that the model skips reads no bits -/
def outB (d : Det) (s : FState) (b1 b2 : List Bool) : FState :=
  stage3 d (if d.pDark > 0 then darkB (if d.eta < 1 then keptB s b1 else s) b2
    else (if d.eta < 1 then keptB s b1 else s))

/-- number of tape entries read by the efficiency stage / the dark-count stage -/
def nEff (d : Det) (s : FState) : Nat := if d.eta < 1 then s.sum else 0
def nDark (d : Det) (s : FState) : Nat := if d.pDark > 0 then s.length else 0

/-- a skipped efficiency stage (`η = 1`) acts like one whose photons are all kept -/
theorem kept_stage (d : Det) (h1 : d.eta ≤ 1) (s : FState) (G : FState → ℚ) :
    mix (bitLaw (List.replicate (nEff d s) d.eta)) (fun b1 => G (if d.eta < 1 then keptB s b1 else s)) =
      mix (bitLaw (List.replicate s.sum d.eta)) (fun b1 => G (keptB s b1)) := by
  unfold nEff
  by_cases he : d.eta < 1
  · simp only [he, if_true]
  · simp only [he, if_false, List.replicate_zero, mix_bitLaw_nil]
    rw [le_antisymm h1 (not_lt.mp he), mix_bitLaw_replicate_one, keptB_replicate_true]

/-- a skipped dark-count stage (`p_dark = 0`) acts like one without dark counts -/
theorem dark_stage (d : Det) (h2 : 0 ≤ d.pDark) (s o : FState) (ho : o.length = s.length)
    (G : FState → ℚ) :
    mix (bitLaw (List.replicate (nDark d s) d.pDark)) (fun b2 => G (if d.pDark > 0 then darkB o b2 else o)) =
      mix (bitLaw (List.replicate s.length d.pDark)) (fun b2 => G (darkB o b2)) := by
  unfold nDark
  by_cases hq : d.pDark > 0
  · simp only [hq, if_true]
  · simp only [hq, if_false, List.replicate_zero, mix_bitLaw_nil]
    rw [le_antisymm (not_lt.mp hq) h2, mix_bitLaw_replicate_zero, ← ho, darkB_replicate_false]

theorem bitLaw_outB (d : Det) (h1 : d.eta ≤ 1) (h2 : 0 ≤ d.pDark) (s : FState) (F : FState → ℚ) :
    mix (bitLaw (List.replicate (nEff d s) d.eta ++ List.replicate (nDark d s) d.pDark))
      (fun b => F (outB d s (b.take (nEff d s)) (b.drop (nEff d s)))) =
      mix (detectorKernel d s) F := by
  rw [← detExp_eq_mix, detExp, ← kept_stage d h1 s fun o =>
    mix (bitLaw (List.replicate s.length d.pDark)) fun b2 => F (stage3 d (darkB o b2)), mix_bitLaw_append]
  apply mix_bitLaw_congr
  intro b1 hb1
  rw [List.length_replicate] at hb1
  have ho : (if d.eta < 1 then keptB s b1 else s).length = s.length := by
    split
    · exact keptB_length s b1
    · rfl
  rw [← dark_stage d h2 s _ ho fun o => F (stage3 d o)]
  apply mix_bitLaw_congr
  intro b2 _
  rw [List.take_left' hb1, List.drop_left' hb1]
  rfl

theorem nEff_add_nDark_le (d : Det) (s : FState) : nEff d s + nDark d s ≤ photons s + s.length := by
  have hp : photons s = s.sum := by unfold photons; rw [List.sum_eq_foldl]
  unfold nEff nDark
  rw [hp]
  split <;> split <;> omega

section bits
variable {α : Type}

theorem keptList_eq_keptB (lost : α → Prop) [DecidablePred lost] (s : FState) (tape : List α) :
    keptList lost s tape = keptB s (tape.map fun u => decide (¬ lost u)) :=
  (keptList_map _ _ _ (fun u => by simp) s tape).symm

theorem darkList_eq_darkB (dark : α → Prop) [DecidablePred dark] (o : FState) (tape : List α) :
    darkList dark o tape = darkB o (tape.map fun u => decide (dark u)) :=
  (darkList_map _ _ _ (fun u => by simp) o tape).symm

theorem detClosed_eq_outB (lost dark : α → Prop) [DecidablePred lost] [DecidablePred dark]
    (d : Det) (s : FState) (t1 t2 e : List α) (h1 : t1.length = nEff d s)
    (h2 : t2.length = nDark d s) :
    (detClosed lost dark d s (t1 ++ (t2 ++ e))).1 =
      outB d s (t1.map fun u => decide (¬ lost u)) (t2.map fun u => decide (dark u)) := by
  unfold detClosed outB
  unfold nEff at h1
  unfold nDark at h2
  by_cases he : d.eta < 1
  · simp only [he, if_true] at h1 ⊢
    rw [keptList_append lost s t1 _ h1.ge, List.drop_left' h1, keptList_eq_keptB]
    by_cases hq : d.pDark > 0
    · simp only [hq, if_true] at h2 ⊢
      rw [darkList_append dark _ t2 e (by rw [keptB_length]; exact h2.ge), darkList_eq_darkB]
    · simp only [hq, if_false]
  · simp only [he, if_false] at h1 ⊢
    obtain rfl := List.eq_nil_of_length_eq_zero h1
    by_cases hq : d.pDark > 0
    · simp only [hq, if_true] at h2 ⊢
      rw [List.nil_append, darkList_append dark s t2 e h2.ge, darkList_eq_darkB]
    · simp only [hq, if_false]

end bits

/-- total weight the exact kernel gives to the detected state `t` -/
def kernelWeight (d : Det) (s t : FState) : ℚ :=
  (((detectorKernel d s).filter (·.1 == t)).map (·.2)).sum

theorem detLaw_eq_kernelWeight (d : Det) (h1 : d.eta ≤ 1) (h2 : 0 ≤ d.pDark) (s t : FState) :
    mix (bitLaw (List.replicate (nEff d s) d.eta ++ List.replicate (nDark d s) d.pDark))
      (fun b => ind (outB d s (b.take (nEff d s)) (b.drop (nEff d s)) = t)) =
      kernelWeight d s t := by
  rw [kernelWeight, filter_sum_eq_mix, ← bitLaw_outB d h1 h2]
  apply mix_bitLaw_congr
  intro b _
  simp [ind]

end LW.Proofs.C07
