/-
  LW.Proofs.C10Param — every accepted setter of `Parameter` leaves the value within the bounds;
  lookup after a write in the parameter store; what `ParameterDict.__setitem__` can write (C10).
-/
import Mathlib.Order.Defs.LinearOrder
import LW.Model.PCircuit
import LW.Proofs.AssocList
import LW.Proofs.ExceptLemmas

namespace LW

variable {α K : Type}

/-- the value lies within the bounds: a bound that is set implies a numeric value on its right side -/
def Param.InBounds [LE α] (p : Param α) : Prop :=
  (∀ m, p.min = some m → ∃ x, p.value = .num x ∧ m ≤ x) ∧
  (∀ mx, p.max = some mx → ∃ x, p.value = .num x ∧ x ≤ mx)

/-- the bounds invariant, as `bounds_invariant_step` (Properties/C10) states it; `bounds_invariant` spells it out -/
def World.AllInBounds [LE α] (w : World α K) : Prop :=
  ∀ id p, w.store.get? id = some p → p.InBounds

namespace Param

variable [LinearOrder α]

theorem set_num_ok {p p' : Param α} {x : α} (h : p.set (.num x) = .ok p') :
    p' = { p with value := .num x } ∧ (∀ m, p.min = some m → ¬ x < m) ∧
      (∀ mx, p.max = some mx → ¬ mx < x) := by
  unfold Param.set at h
  dsimp only at h
  rw [Except.ite_error_eq_ok, Except.ite_error_eq_ok] at h
  obtain ⟨h1, h2, h3⟩ := h
  refine ⟨(Except.ok.inj h3).symm, fun m hm => ?_, fun mx hm => ?_⟩
  · rw [hm] at h1; exact fun hlt => h1 (decide_eq_true hlt)
  · rw [hm] at h2; exact fun hlt => h2 (decide_eq_true hlt)

/-- `set` checks the new value against both bounds, so its result is within bounds whatever `p` was
(`setMin`, `setMax` check only the bound they write and need `p.InBounds` for the other) -/
theorem set_inBounds {p p' : Param α} {v : Val α} (h : p.set v = .ok p') : p'.InBounds := by
  unfold Param.set at h
  cases v with
  | other t =>
    simp only at h
    split at h
    · cases h
    · rename_i hb
      injection h with h
      subst h
      have hmin : p.min = none := by
        cases hm : p.min with
        | none => rfl
        | some m => simp [hasBounds, hm] at hb
      have hmax : p.max = none := by
        cases hm : p.max with
        | none => rfl
        | some m => simp [hasBounds, hm] at hb
      constructor
      · intro m hm; simp [hmin] at hm
      · intro m hm; simp [hmax] at hm
  | num x =>
    obtain ⟨he, h1, h2⟩ := set_num_ok h
    subst he
    exact ⟨fun m hm => ⟨x, rfl, not_lt.mp (h1 m hm)⟩, fun mx hm => ⟨x, rfl, not_lt.mp (h2 mx hm)⟩⟩

omit [LinearOrder α] in
/-- the check both bound setters make on a numeric bound `m` against the numeric value `x`:
refuse if `bad x m`, else write -/
theorem boundCheck_ok {v b : Val α} {p' : Param α} {bad : α → α → Prop} [∀ x m, Decidable (bad x m)]
    {upd : α → Param α}
    (h : (match v, b with
      | .other _, _ => Except.error PErr.paramBounds
      | .num _, .other _ => .error .paramBounds
      | .num x, .num m => if bad x m then .error .paramBounds else .ok (upd m)) = .ok p') :
    ∃ x m, v = .num x ∧ ¬ bad x m ∧ p' = upd m := by
  cases v with
  | other t => cases h
  | num x =>
    cases b with
    | other t => cases h
    | num m => exact ⟨x, m, rfl, (Except.ite_error_eq_ok.mp h).imp_right fun e => (Except.ok.inj e).symm⟩

theorem setMin_inBounds {p p' : Param α} {b : Option (Val α)} (hp : p.InBounds)
    (h : p.setMin b = .ok p') : p'.InBounds := by
  cases b with
  | none => cases h; exact ⟨fun m hm => (nomatch hm), hp.2⟩
  | some b =>
    obtain ⟨x, m, hv, hlt, rfl⟩ := boundCheck_ok (v := p.value) (b := b) (bad := fun x m => x < m)
      (upd := fun m => { p with min := some m }) h
    exact ⟨fun m' hm' => ⟨x, hv, Option.some.inj hm' ▸ not_lt.mp hlt⟩, hp.2⟩

theorem setMax_inBounds {p p' : Param α} {b : Option (Val α)} (hp : p.InBounds)
    (h : p.setMax b = .ok p') : p'.InBounds := by
  cases b with
  | none => cases h; exact ⟨hp.1, fun m hm => (nomatch hm)⟩
  | some b =>
    obtain ⟨x, m, hv, hlt, rfl⟩ := boundCheck_ok (v := p.value) (b := b) (bad := fun x m => m < x)
      (upd := fun m => { p with max := some m }) h
    exact ⟨hp.1, fun m' hm' => ⟨x, hv, Option.some.inj hm' ▸ not_lt.mp hlt⟩⟩

theorem unbounded_inBounds (v : Val α) : ({ value := v } : Param α).InBounds :=
  ⟨fun m hm => by simp at hm, fun m hm => by simp at hm⟩

theorem new_inBounds {v : Val α} {b : Option (List (Option (Val α)))} {p : Param α}
    (h : Param.new v b = .ok p) : p.InBounds := by
  cases b with
  | none =>
    simp only [Param.new] at h
    injection h with h; subst h; exact unbounded_inBounds v
  | some l =>
    match l, h with
    | [b0, b1], h =>
      cases v with
      | other t => simp [Param.new] at h
      | num x =>
        obtain ⟨p1, h1, h⟩ := Except.bind_eq_ok.mp h
        exact setMax_inBounds (setMin_inBounds (unbounded_inBounds _) h1) h
    | [], h => simp [Param.new] at h
    | [_], h => simp [Param.new] at h
    | _ :: _ :: _ :: _, h => simp [Param.new] at h

end Param

namespace Store

theorem get?_set_ne (s : Store α) (k k' : Nat) (p : Param α) (hne : k' ≠ k) :
    (s.set k p).get? k' = s.get? k' :=
  Assoc.find_put_ne s k k' p hne

theorem get?_set_eq (s : Store α) (k : Nat) (p : Param α) : (s.set k p).get? k = some p :=
  Assoc.find_put_eq s k p

end Store

theorem PDict.setItem_param [LT α] [DecidableLT α] {d : PDict} {σ : Store α} {k : String} {arg : DArg α}
    {id : Nat} {p : Param α} (h : d.setItem σ k arg = some (.ok (.param id p))) :
    ∃ v q, σ.get? id = some q ∧ q.set v = .ok p := by
  unfold PDict.setItem at h
  cases arg with
  | par q => simp only at h; split at h <;> cases h
  | val v =>
    simp only at h
    split at h
    · cases h
    · split at h
      · cases h
      · split at h
        · cases h
          rename_i q _ _ hq hset
          exact ⟨v, q, hq, hset⟩
        · cases h

namespace World

variable [LinearOrder α] [Zero K] [One K]

omit [Zero K] [One K] in
theorem allInBounds_set {w : World α K} (hw : w.AllInBounds) (id : Nat) (p : Param α)
    (hp : p.InBounds) : ({ w with store := w.store.set id p } : World α K).AllInBounds :=
  Assoc.forall_find_put hw hp

theorem setDict_store (w : World α K) (d : String) (pd : PDict) : (w.setDict d pd).store = w.store := rfl

end World

end LW
